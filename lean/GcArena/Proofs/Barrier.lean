import GcArena.Proofs.Mutator
import GcArena.Proofs.Touch
/-!
  The four write barriers of src/context.rs: each preserves the invariant, keeps every earlier
  barrier's guarantee (`CoverOK`) and establishes its own, in every phase and for every colour of
  parent and child.
-/
namespace GcArena

/-- A barrier step: marks more, and never turns a *tracing* object black. -/
structure BarrierMono (c c' : Ctx) : Prop where
  mm : MarkMono c c'
  noNewBlack : ∀ i o o', c.heap.get i = some o → c'.heap.get i = some o' → o'.color = .black →
    o.needsTrace = true → o.color = .black

theorem BarrierMono.refl (c : Ctx) : BarrierMono c c :=
  ⟨MarkMono.refl c, fun _ o o' h h' hb _ => by rw [h] at h'; cases h'; exact hb⟩

theorem BarrierMono.coverOK {c c' : Ctx} (b : BarrierMono c c') {cv : Cover} (h : CoverOK c cv) :
    CoverOK c' cv :=
  h.mono b.mm.phase fun j o ho =>
    let ⟨o', ho', hc, _, _, hn⟩ := b.mm.mono j o ho
    ⟨o', ho', hn, hc, b.noNewBlack j o o' ho ho'⟩

theorem Touch.markMono {T} {c c' : Ctx} (t : Touch T c c') : MarkMono c c' :=
  ⟨t.phase, t.rnt, t.pre, t.rest, t.log,
   fun i o ho => let ⟨o', ho', hl, hs, hn, hc, _⟩ := t.keep i o ho; ⟨o', ho', hc, hs, hl, hn⟩, t.noNew⟩

theorem Touch.barrierMono {T} {c c' : Ctx} (t : Touch T c c') : BarrierMono c c' :=
  ⟨t.markMono, t.noNewBlack⟩

/-! ### `backward_barrier` -/

theorem backwardBarrier_spec {c : Ctx} {root temps} (h : CInv c root temps) {p : Nat}
    (hp : ∃ o, c.heap.get p = some o) (child : Option Nat)
    (hc : ∀ ch, child = some ch → ∃ o, c.heap.get ch = some o) :
    CInv (c.backwardBarrier p child) root temps ∧ BarrierMono c (c.backwardBarrier p child) ∧
      CoverOK (c.backwardBarrier p child)
        (match child with | none => .parent p | some ch => .pair p ch) := by
  obtain ⟨po, hpo⟩ := hp
  have cover_of_not_mark : c.phase ≠ .mark →
      CoverOK c (match child with | none => .parent p | some ch => .pair p ch) := by
    intro hnm
    cases child with
    | none => exact ⟨⟨po, hpo⟩, fun hm => absurd hm hnm⟩
    | some ch => exact ⟨⟨po, hpo⟩, hc ch rfl, fun hm => absurd hm hnm⟩
  unfold Ctx.backwardBarrier
  by_cases hm : c.phase = .mark
  · simp only [hm, if_true, hpo]
    by_cases hb : po.color = .black
    · simp only [hb, if_true]
      obtain ⟨h1, m1, o1, ho1, hg1⟩ := makeGrayAgain_spec h hm hpo hb
      have b1 := (touch_makeGrayAgain (T := fun _ => True) c p trivial).barrierMono
      have hm1 : (c.makeGrayAgain p).phase = .mark := by rw [m1.phase]; exact hm
      cases child with
      | none =>
        simp only
        refine ⟨h1, b1, ⟨o1, ho1⟩, ?_⟩
        intro _ o' ho' _ hbl
        rw [ho1] at ho'; cases ho'; rw [hg1] at hbl; cases hbl
      | some ch =>
        simp only
        obtain ⟨co, hco⟩ := hc ch rfl
        simp only [hco]
        by_cases hw : co.color = .white ∨ co.color = .whiteWeak
        · have : (co.color = .white || co.color = .whiteWeak) = true := by
            rcases hw with hw | hw <;> simp [hw]
          simp only [this, if_true]
          refine ⟨h1, b1, ⟨o1, ho1⟩, m1.allocated ⟨co, hco⟩, ?_⟩
          intro _ o' ho' _ hbl
          rw [ho1] at ho'; cases ho'; rw [hg1] at hbl; cases hbl
        · have : (co.color = .white || co.color = .whiteWeak) = false := by
            cases hcc : co.color <;> simp_all
          simp only [this, Bool.false_eq_true, if_false]
          refine ⟨h, BarrierMono.refl c, ⟨po, hpo⟩, ⟨co, hco⟩, ?_⟩
          intro _ _ _ _ _ co' hco'
          rw [hco] at hco'; cases hco'
          cases hcc : co.color <;> simp_all
    · simp only [hb, if_false]
      refine ⟨h, BarrierMono.refl c, ?_⟩
      cases child with
      | none =>
        exact ⟨⟨po, hpo⟩, fun _ o' ho' _ hbl => by rw [hpo] at ho'; cases ho'; exact hb hbl⟩
      | some ch =>
        exact ⟨⟨po, hpo⟩, hc ch rfl, fun _ o' ho' _ hbl => by rw [hpo] at ho'; cases ho'; exact absurd hbl hb⟩
  · simp only [hm, if_false]
    exact ⟨h, BarrierMono.refl c, cover_of_not_mark hm⟩

/-! ### `backward_barrier_weak` -/

theorem backwardBarrierWeak_spec {c : Ctx} {root temps} (h : CInv c root temps) {p ch : Nat}
    (hp : ∃ o, c.heap.get p = some o) (hc : ∃ o, c.heap.get ch = some o) :
    CInv (c.backwardBarrierWeak p ch) root temps ∧ BarrierMono c (c.backwardBarrierWeak p ch) ∧
      CoverOK (c.backwardBarrierWeak p ch) (.weakPair p ch) := by
  obtain ⟨po, hpo⟩ := hp
  obtain ⟨co, hco⟩ := hc
  unfold Ctx.backwardBarrierWeak
  by_cases hm : c.phase = .mark
  · simp only [hm, if_true, hpo, hco]
    by_cases hb : po.color = .black
    · simp only [hb, if_true]
      by_cases hw : co.color = .white
      · simp only [hw, if_true]
        obtain ⟨h1, m1, o1, ho1, hg1⟩ := makeGrayAgain_spec h hm hpo hb
        refine ⟨h1, (touch_makeGrayAgain (T := fun _ => True) c p trivial).barrierMono, ⟨o1, ho1⟩,
          m1.allocated ⟨co, hco⟩, ?_⟩
        intro _ o' ho' _ hbl
        rw [ho1] at ho'; cases ho'; rw [hg1] at hbl; cases hbl
      · simp only [hw, if_false]
        refine ⟨h, BarrierMono.refl c, ⟨po, hpo⟩, ⟨co, hco⟩, ?_⟩
        intro _ _ _ _ _ co' hco'
        rw [hco] at hco'; cases hco'; exact hw
    · simp only [hb, if_false]
      exact ⟨h, BarrierMono.refl c, ⟨po, hpo⟩, ⟨co, hco⟩,
        fun _ o' ho' _ hbl => by rw [hpo] at ho'; cases ho'; exact absurd hbl hb⟩
  · simp only [hm, if_false]
    exact ⟨h, BarrierMono.refl c, ⟨po, hpo⟩, ⟨co, hco⟩, fun hm' => absurd hm' hm⟩

/-! ### `forward_barrier` -/

theorem forwardBarrier_spec {c : Ctx} {root temps} (h : CInv c root temps) (parent : Option Nat)
    {ch : Nat} (hp : ∀ p, parent = some p → ∃ o, c.heap.get p = some o) (hc : Safe c ch) :
    CInv (c.forwardBarrier parent ch) root temps ∧ BarrierMono c (c.forwardBarrier parent ch) ∧
      CoverOK (c.forwardBarrier parent ch)
        (match parent with | none => .child ch | some p => .pair p ch) := by
  have hca : ∃ o, c.heap.get ch = some o := by obtain ⟨o, ho, _⟩ := hc; exact ⟨o, ho⟩
  unfold Ctx.forwardBarrier
  by_cases hm : c.phase = .mark
  · simp only [hm, if_true]
    obtain ⟨h1, m1, o1, ho1, hc1⟩ := trace_spec h hm hc
    have b1 := (touch_trace (T := fun _ => True) c ch trivial).barrierMono
    cases parent with
    | none =>
      simp only
      refine ⟨h1, b1, ⟨o1, ho1⟩, ?_⟩
      intro _ o' ho'; rw [ho1] at ho'; cases ho'; exact hc1
    | some p =>
      simp only
      obtain ⟨po, hpo⟩ := hp p rfl
      simp only [hpo]
      by_cases hb : po.color = .black
      · simp only [hb, if_true]
        refine ⟨h1, b1, m1.allocated ⟨po, hpo⟩, ⟨o1, ho1⟩, ?_⟩
        intro _ _ _ _ _ co' hco'; rw [ho1] at hco'; cases hco'; exact hc1
      · simp only [hb, if_false]
        refine ⟨h, BarrierMono.refl c, ⟨po, hpo⟩, hca, ?_⟩
        intro _ o' ho' _ hbl; rw [hpo] at ho'; cases ho'; exact absurd hbl hb
  · simp only [hm, if_false]
    refine ⟨h, BarrierMono.refl c, ?_⟩
    cases parent with
    | none => exact ⟨hca, fun hm' => absurd hm' hm⟩
    | some p => exact ⟨hp p rfl, hca, fun hm' => absurd hm' hm⟩

/-! ### `forward_barrier_weak` -/

theorem forwardBarrierWeak_spec {c : Ctx} {root temps} (h : CInv c root temps) (parent : Option Nat)
    {ch : Nat} (hp : ∀ p, parent = some p → ∃ o, c.heap.get p = some o)
    (hca : ∃ o, c.heap.get ch = some o) :
    CInv (c.forwardBarrierWeak parent ch) root temps ∧
      BarrierMono c (c.forwardBarrierWeak parent ch) ∧
      CoverOK (c.forwardBarrierWeak parent ch)
        (match parent with | none => .weakChild ch | some p => .weakPair p ch) := by
  unfold Ctx.forwardBarrierWeak
  by_cases hm : c.phase = .mark
  · simp only [hm, if_true]
    obtain ⟨h1, m1, o1, ho1, hc1⟩ := traceWeak_spec h hm hca
    have b1 := (touch_traceWeak (T := fun _ => True) c ch trivial).barrierMono
    cases parent with
    | none =>
      simp only
      refine ⟨h1, b1, ⟨o1, ho1⟩, ?_⟩
      intro _ o' ho'; rw [ho1] at ho'; cases ho'; exact hc1
    | some p =>
      simp only
      obtain ⟨po, hpo⟩ := hp p rfl
      simp only [hpo]
      by_cases hb : po.color = .black
      · simp only [hb, if_true]
        refine ⟨h1, b1, m1.allocated ⟨po, hpo⟩, ⟨o1, ho1⟩, ?_⟩
        intro _ _ _ _ _ co' hco'; rw [ho1] at hco'; cases hco'; exact hc1
      · simp only [hb, if_false]
        refine ⟨h, BarrierMono.refl c, ⟨po, hpo⟩, hca, ?_⟩
        intro _ o' ho' _ hbl; rw [hpo] at ho'; cases ho'; exact absurd hbl hb
  · simp only [hm, if_false]
    refine ⟨h, BarrierMono.refl c, ?_⟩
    cases parent with
    | none => exact ⟨hca, fun hm' => absurd hm' hm⟩
    | some p => exact ⟨hp p rfl, hca, fun hm' => absurd hm' hm⟩

end GcArena
