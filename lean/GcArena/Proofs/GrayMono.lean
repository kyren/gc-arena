import GcArena.Proofs.Quiet
/-!
  Mutator operations never remove pending marking work: every entry of the `gray` and
  `gray_again` queues stays queued and `root_needs_trace`, once set, stays set.  Only the
  collector (`mark_one`, the phase switches) pops a queue or clears the flag.  Consequently
  `Context::gray_remaining()` cannot go from `true` to `false` inside a callback, i.e. a callback
  never turns the observable phase Marking into Marked.

  No invariant is needed: the statement holds for every primitive in every state, including the
  faulting branches (`fail`) and rejected ops.
-/
namespace GcArena

/-- `c'` still has all the marking work `c` had. -/
structure GrayMono (c c' : Ctx) : Prop where
  gray : ∀ i, i ∈ c.gray → i ∈ c'.gray
  again : ∀ i, i ∈ c.grayAgain → i ∈ c'.grayAgain
  rnt : c.rootNeedsTrace = true → c'.rootNeedsTrace = true

theorem GrayMono.refl (c : Ctx) : GrayMono c c :=
  ⟨fun _ h => h, fun _ h => h, fun h => h⟩

theorem GrayMono.trans {a b c : Ctx} (h1 : GrayMono a b) (h2 : GrayMono b c) : GrayMono a c :=
  ⟨fun i h => h2.gray i (h1.gray i h), fun i h => h2.again i (h1.again i h), fun h => h2.rnt (h1.rnt h)⟩

theorem GrayMono.ofEq {c c' : Ctx} (hg : c'.gray = c.gray) (ha : c'.grayAgain = c.grayAgain)
    (hr : c'.rootNeedsTrace = c.rootNeedsTrace) : GrayMono c c' :=
  ⟨fun i h => by rw [hg]; exact h, fun i h => by rw [ha]; exact h, fun h => by rw [hr]; exact h⟩

theorem GrayMono.grayRemaining {c c' : Ctx} (m : GrayMono c c') (h : c.grayRemaining = true) :
    c'.grayRemaining = true := by
  simp only [Ctx.grayRemaining, Bool.or_eq_true, Bool.not_eq_true',
    List.isEmpty_eq_false_iff_exists_mem] at h ⊢
  rcases h with (⟨x, hx⟩ | ⟨x, hx⟩) | hr
  · exact .inl (.inl ⟨x, m.gray x hx⟩)
  · exact .inl (.inr ⟨x, m.again x hx⟩)
  · exact .inr (m.rnt hr)

theorem grayMono_fail (c : Ctx) (f : Fault) : GrayMono c (c.fail f) :=
  GrayMono.ofEq (Ctx.fail_gray c f) (Ctx.fail_grayAgain c f) (Ctx.fail_rnt c f)

theorem grayMono_step (c : Ctx) (ch : Char) : GrayMono c (c.step ch) := GrayMono.ofEq rfl rfl rfl

theorem grayMono_emit (c : Ctx) (e : Event) : GrayMono c (c.emit e) := GrayMono.ofEq rfl rfl rfl

theorem grayMono_setObj (c : Ctx) (i : Nat) (o : Obj) : GrayMono c (c.setObj i o) :=
  GrayMono.ofEq rfl rfl rfl

theorem grayMono_setColor (c : Ctx) (i : Nat) (col : Color) : GrayMono c (c.setColor i col) := by
  unfold Ctx.setColor
  split
  · exact grayMono_setObj _ _ _
  · exact grayMono_fail _ _

theorem grayMono_setSlot (c : Ctx) (p i : Nat) (v : Slot) : GrayMono c (Arena.setSlot c p i v) := by
  unfold Arena.setSlot
  split
  · exact grayMono_fail _ _
  · exact grayMono_setObj _ _ _

theorem Touch.grayMono {T} {c c' : Ctx} (t : Touch T c c') : GrayMono c c' :=
  ⟨t.gray, t.grayAgain, fun h => by rw [t.rnt]; exact h⟩

theorem grayMono_traceSlot (c : Ctx) (s : Slot) : GrayMono c (c.traceSlot s) := by
  unfold Ctx.traceSlot
  split
  · exact GrayMono.refl _
  · exact (touch_trace (T := fun _ => True) _ _ trivial).grayMono
  · exact (touch_traceWeak (T := fun _ => True) _ _ trivial).grayMono

theorem grayMono_rootBarrier (c : Ctx) : GrayMono c c.rootBarrier := by
  unfold Ctx.rootBarrier
  split
  · exact ⟨fun _ h => h, fun _ h => h, fun _ => rfl⟩
  · exact GrayMono.refl _

theorem stepBody_grayMono (a : Arena) (fin : Bool) (op : Op) (hop : op.isMutator = true) :
    GrayMono a.ctx (a.stepBody fin op).1.ctx :=
  (stepBody_mutStep a fin op hop).ctx_rel GrayMono.refl GrayMono.trans Touch.grayMono
    (fun _ => .ofEq rfl rfl rfl) (grayMono_rootBarrier _) (fun _ _ _ _ => .ofEq rfl rfl rfl)
    (fun c _ p i v _ _ => grayMono_setSlot c p i v)

theorem step_grayMono (a : Arena) (op : Op) (hop : op.isMutator = true) :
    GrayMono a.ctx (a.step op).1.ctx := by
  unfold Arena.step
  split
  · exact GrayMono.refl _
  · exact stepBody_grayMono ({ a with marked := false } : Arena) a.marked op hop

theorem run_grayMono (a : Arena) (ops : List Op) (hops : ∀ op ∈ ops, op.isMutator = true) :
    GrayMono a.ctx (a.run ops).ctx := by
  induction ops generalizing a with
  | nil => exact GrayMono.refl _
  | cons op rest ih =>
    simp only [Arena.run]
    exact (step_grayMono a op (hops op List.mem_cons_self)).trans
      (ih (a.step op).1 (fun o ho => hops o (List.mem_cons_of_mem _ ho)))

end GcArena
