import GcArena.Proofs.Quiet
import GcArena.Proofs.Stable
import GcArena.Proofs.DynRootsLemmas
/-!
# DynCompose — the DynamicRootSet slot table coupled with the collector (property C14, composed)

Two developments exist side by side: the collector (`GcArena.Arena`, `GcArena.Op`, `inv_run`, C01,
C02, C06) and the slot table of `src/dynamic_roots.rs` (`GcArena.DynRoots`, `DynRoots.inv_run`,
Props/C14).  This file makes their composition a *system* and proves the relation that ties them
together to be an invariant of that system.  Nothing is added to either model: no new constructor
of `GcArena.Op`, no new field; the coupled system runs the two existing `step` functions.

## The coupled system (`Sys`, `COp`, `Sys.step`, `Sys.run`)

`Sys` = an arena `a`, a slot-table state `d`, and for every set id `s` a `SetLoc`: the root slot
that holds the `DynamicRootSet<'gc>` pointer, the heap id of the set object (`Gc<Inner>`), and the
number `cap` of slots the set object was allocated with — plus two ghost lists recording the ops
executed on either side (`aops`, `dops`; never read by `Sys.step`).

Every coupled operation is a `DynRoots.Op` paired with a *list of existing `GcArena.Op`s*:

| `COp`                  | slot-table side        | collector side (`GcArena.Op`s)                                  |
|------------------------|------------------------|-----------------------------------------------------------------|
| `newSet k cap`         | `newSet`               | `alloc true (replicate cap none)`, `rootStore k (strong id)`     |
| `stash s r`            | `stash s r` → slot `i` | `readRoot k`, `barrier (bb obj (some r))`, `store raw obj i r`   |
| `clone h`              | `clone h`              | —                                                               |
| `dropHandle h`, others of the slot remain | `dropHandle h` | —                                                    |
| `dropHandle h`, last handle of its slot   | `dropHandle h` | outside a callback: `enter mutate`, `readRoot k`, `store raw obj i none`, `leave`; inside one: `readRoot k`, `store raw obj i none` |
| `fetch s h`/`tryFetch` | `fetch`/`tryFetch`     | inside a callback, own live handle: `readRoot k`, `read obj i`   |
| `contains s h`         | `contains`             | —                                                               |
| `gc op`                | —                      | `op` (guard `Sys.allowed`)                                      |
| `dropArena`            | `destroySet s`, every `s` | `dropArena` (outside callbacks)                              |

* `stash` is `mc.backward_barrier(Gc::erase(self.0), Some(Gc::erase(root)))` followed by
  `slots.add(root)` (src/dynamic_roots.rs).  The `.raw` store is licensed by the `Cover.pair` the
  barrier op has just recorded (`Arena.coverOK`); `stash_net` shows all three ops are accepted and
  states their exact net effect.
* Dropping the last handle of a slot happens in `DynamicRoot::drop`, through the `Weak<RefCell<Slots>>`,
  **outside any callback and with no barrier**.  A `.raw` store of `none` is accepted by the
  collector model without any cover (`Arena.coverOK _ _ none = true`), so the encoding uses `.raw`,
  not `.write`: `clear_net_outside` proves the four ops are accepted and that their net effect on
  the arena is *exactly* `setSlot ctx obj i none` — same colours, queues, phase, metrics, root,
  cover, callback state — apart from the model's `marked` flag, which these ops (like every op other than the pacing and
  debt knobs) reset (R6).  This is
  faithful, not conservative.  Inside a running callback the
  `enter`/`leave` pair is omitted and the set pointer joins the held pointers (`clear_net_inside`;
  conservative: the client could read that pointer from the root anyway).
* `fetch` is encoded as reading the set object's slot through the root, so "the fetched pointer"
  is literally the content of slot `h.index` of the set object (`fetch_net`).

* Dropping the arena destructs every object, hence every set object, whose `Inner` drops its
  `Rc<RefCell<Slots>>`: `Weak::upgrade` fails from then on.  The coupled op pairs `dropArena` with
  `destroySet` for every set; afterwards the collector model refuses every op and handle clones /
  drops only add / remove handles (`Dead.step`, `C14.outlive`).

## The coupling relation (`Coupled`)

`arena`/`dyn`: both sides are runs of the two existing models from their initial states (so every
theorem stated for `(Arena.new n).run ops` / `DynRoots.run State.init ops` applies verbatim);
`len`, `distinct`: one `SetLoc` per set, with pairwise different set objects;
`sets` (while the arena exists — `Live`): for every set `s`, the root slot holds the set object, the
set object is allocated, undestructed, traced (`needs_trace`), has exactly `cap` slots, and **slot
`i` of the object is `some (strong r)` iff table slot `i` is `Occupied { root = r, .. }`, `none` if
it is vacant or beyond the table's end** (`mirror`); the table has at most `cap` slots.  Hence the
object's strong slots are exactly `Slots.traced` (`mem_mirror`).
`dead` (once the arena has been dropped — `Dead`): no set is alive.

`Coupled.init`, `Coupled.step`, `Coupled.run`: the relation holds initially (no sets; sets are
created by the coupled op `newSet`) and is preserved by every coupled operation.

## Restrictions (all explicit here; the theorems hold for exactly this system)

Proofs/DynReach.lean is the general system without R2, R4, R6 (sets referenced from anywhere and
destroyed when swept, growing slot list, drops in any arena state, other arenas as environment), at
the price of one transition that is not an `Arena.step`; the theorems about *this* system are the
`…_partial` ones of Props/C14s.lean.

* **R1 single arena.**  All sets of `d` belong to the one arena `a`.  (Handles presented to a
  foreign set are covered by the slot-table theorems alone: `C14.fetch_identity`.)
* **R2 sets are pinned in root slots.**  A set is created inside a `mutate_root` callback and its
  pointer is stored directly in a root slot `k` that holds no other set; `Sys.allowed` forbids
  `rootStore` over such a slot.  So a set object is always strongly reachable from the root (this
  is the property's premise "a DynamicRootSet that is reachable from the root", in its simplest
  form) and is never collected while the arena exists: `destroySet` occurs in coupled histories
  only as part of the arena drop.
* **R3** (`dropArena` is a coupled op of its own, not a `gc` op: `Sys.allowed` rejects the bare
  collector-model op, which would leave the tables behind.)
* **R4 fixed capacity.**  A heap object of the collector model has a slot *list* of fixed length, so
  the set object is allocated with `cap` slots (`newSet k cap`, any `cap`), and a `stash` whose
  table index would be `≥ cap` is *not a coupled operation* (`Sys.step` ignores it on both sides).
  `Vec` growth inside the set object is not modelled.
* **R5** `Sys.allowed` forbids client `store`s into a set object (`Inner.slots` is private to
  `dynamic_roots.rs`: no client can write it) — excludes nothing a client can do.
* **R6 `MarkedArena` window.**  Like every `GcArena.Op` other than the pacing and debt knobs, the ops
  of the drop encoding reset the model's `marked` flag: a handle dropped between `finish_marking()` and `MarkedArena::finalize`
  is modelled as dropping the `MarkedArena` first (the `finalize` callback is then rejected).
  Precisely: the excluded histories are those of the shape `finish_marking()` (or `mark_debt()`)
  returning `Some(marked)`, then a drop of the *last* handle of some slot, then
  `marked.finalize(..)`; clones, fetches and drops that leave another handle of the slot do not touch
  the arena and are not excluded, and handle drops in every other state — including between two
  collection increments, in any phase — are covered.  (The general system has no such exclusion
  and its `finalize` callbacks may fetch and stash: `C14s.gdemo`, at the end of Proofs/DynReach.lean.)
* `stash`, `fetch`, `newSet` need an active callback (they take `&Mutation`), `stash` needs the
  stashed pointer held: what safe Rust demands.  A coupled op whose guard fails changes nothing.
-/
namespace GcArena.DynCompose
open GcArena

def KeepAt (x : Nat) (c c' : Ctx) : Prop :=
  ∀ o, c.heap.get x = some o → ∃ o', c'.heap.get x = some o' ∧ o'.slots = o.slots ∧
    o'.needsTrace = o.needsTrace ∧ o'.live = o.live

theorem KeepAt.refl (x : Nat) (c : Ctx) : KeepAt x c c := fun o ho => ⟨o, ho, rfl, rfl, rfl⟩

theorem KeepAt.trans {x : Nat} {a b c : Ctx} (h1 : KeepAt x a b) (h2 : KeepAt x b c) :
    KeepAt x a c := by
  intro o ho
  obtain ⟨o1, ho1, s1, n1, l1⟩ := h1 o ho
  obtain ⟨o2, ho2, s2, n2, l2⟩ := h2 o1 ho1
  exact ⟨o2, ho2, s2.trans s1, n2.trans n1, l2.trans l1⟩

theorem KeepAt.ofGet {x : Nat} {c c' : Ctx} (h : c'.heap.get x = c.heap.get x) : KeepAt x c c' :=
  fun o ho => ⟨o, by rw [h]; exact ho, rfl, rfl, rfl⟩

/-- The step only recolours objects. -/
def RC (c c' : Ctx) : Prop :=
  ∀ x, c'.heap.get x = c.heap.get x ∨
    ∃ o col, c.heap.get x = some o ∧ c'.heap.get x = some { o with color := col }

theorem rc_setColor {c : Ctx} {i : Nat} {o : Obj} (ho : c.heap.get i = some o) (col : Color) :
    RC c (c.setObj i { o with color := col }) := by
  intro x
  by_cases hx : x = i
  · subst hx; exact .inr ⟨o, col, ho, by simp⟩
  · exact .inl (by simp [hx])

/-- The primitives of `context.rs` a callback can reach only recolour. -/
theorem keepAt_of_touch {T} {c c' : Ctx} (t : Touch T c c') (x : Nat) : KeepAt x c c' := fun o ho =>
  let ⟨o', ho', hl, hs, hn, _⟩ := t.keep x o ho
  ⟨o', ho', hs, hn, hl⟩

theorem keepAt_backwardBarrier (c : Ctx) (p : Nat) (ch : Option Nat) (x : Nat) :
    KeepAt x c (c.backwardBarrier p ch) :=
  keepAt_of_touch (touch_backwardBarrier (T := fun _ => True) c p ch trivial) x

theorem keepAt_of_liveFrame {c c' : Ctx} (f : LiveFrame c c') {x : Nat} (hs : Safe c' x) :
    KeepAt x c c' := by
  intro o ho
  obtain ⟨o', ho', hl', _⟩ := hs
  obtain ⟨o0, ho0, hl0, s, n⟩ := f.back x o' ho' hl'
  rw [ho] at ho0; cases ho0
  exact ⟨o', ho', s, n, hl'.trans hl0.symm⟩

/-- A collection call keeps a strongly reachable object as it is: the object stays reachable along
the micro-steps, hence allocated and undestructed, so `LiveFrame` says where it came from. -/
theorem collect_keepAt {a a' : Arena} (h : Inv a) (rel : CollectRel a a') {x : Nat}
    (hx : StrongReach a x) : KeepAt x a.ctx a'.ctx :=
  (rel.lift h (R := fun c c' => StrongReachC c a.root x → KeepAt x c c' ∧ StrongReachC c' a.root x)
    (fun c hc => ⟨KeepAt.refl x c, hc⟩)
    (fun h1 h2 hc => ⟨(h1 hc).1.trans (h2 (h1 hc).2).1, (h2 (h1 hc).2).2⟩)
    (fun hi st hc => by
      have hm := micro_iff.mpr st
      have hc' := (micro_persist hi _ hm).accessible hi hc
      exact ⟨keepAt_of_liveFrame (st.liveFrame hi) ((micro_inv hi _ hm).safe_of_accessible hc'), hc'⟩) hx).1

theorem keepAt_link (c : Ctx) (o : Obj) (x : Nat) : KeepAt x c (c.link o).1 := by
  intro ox hox
  have hne : x ≠ c.heap.fresh := by intro he; rw [he, Heap.get_fresh] at hox; cases hox
  exact ⟨ox, by simp [Ctx.link, Heap.get_set, hne, hox], rfl, rfl, rfl⟩

theorem setSlot_get (c : Ctx) (p i : Nat) (v : Slot) (x : Nat) :
    (Arena.setSlot c p i v).heap.get x =
      match c.heap.get p with
      | none => c.heap.get x
      | some o => if x = p then some { o with slots := o.slots.set i v } else c.heap.get x := by
  cases h : c.heap.get p <;> simp [Arena.setSlot, h]

theorem keepAt_setSlot (c : Ctx) (p i : Nat) (v : Slot) {x : Nat} (hne : x ≠ p) :
    KeepAt x c (Arena.setSlot c p i v) := by
  apply KeepAt.ofGet
  rw [setSlot_get]
  split <;> simp [hne]

/-- "`x` is allocated, undestructed, traced, with slot list `ss`" — the arena side of both coupling
relations (`Holds.obj`, `DynReach.IsSetObj`) — survives `KeepAt` … -/
theorem setObj_keep {c c' : Ctx} {x : Nat} {ss : List Slot} (hk : KeepAt x c c')
    (h : ∃ o, c.heap.get x = some o ∧ o.live = true ∧ o.needsTrace = true ∧ o.slots = ss) :
    ∃ o, c'.heap.get x = some o ∧ o.live = true ∧ o.needsTrace = true ∧ o.slots = ss := by
  obtain ⟨o, ho, hl, hn, hs⟩ := h
  obtain ⟨o', ho', hs', hn', hl'⟩ := hk o ho
  exact ⟨o', ho', by rw [hl', hl], by rw [hn', hn], by rw [hs', hs]⟩

/-- … and follows a slot store. -/
theorem setObj_setSlot {c : Ctx} {x : Nat} {ss : List Slot} (i : Nat) (v : Slot)
    (h : ∃ o, c.heap.get x = some o ∧ o.live = true ∧ o.needsTrace = true ∧ o.slots = ss) :
    ∃ o, (Arena.setSlot c x i v).heap.get x = some o ∧ o.live = true ∧ o.needsTrace = true ∧
      o.slots = ss.set i v := by
  obtain ⟨o, ho, hl, hn, hs⟩ := h
  refine ⟨{ o with slots := o.slots.set i v }, ?_, hl, hn, by simp [hs]⟩
  rw [setSlot_get, ho]; simp

theorem mutStep_keepAt {a a' : Arena} {fin op} {out : String} (st : MutStep a fin op a' out) {x : Nat}
    (hst : ∀ path i v, op ≠ .store path x i v) : KeepAt x a.ctx a'.ctx :=
  st.ctx_rel (KeepAt.refl x) KeepAt.trans (fun t => keepAt_of_touch t x) (fun _ => .ofGet rfl)
    (.ofGet (by unfold Ctx.rootBarrier; split <;> rfl)) (fun o _ _ _ => keepAt_link _ o x)
    (fun c path p i v e _ => keepAt_setSlot c p i v (fun hx => hst path i v (hx ▸ e)))

theorem step_alive {a : Arena} (h : Inv a) (op : Op) (hda : op ≠ .dropArena) :
    (a.step op).1.alive = true := by
  cases hop : op.isMutator with
  | true => exact step_mutator_alive h.alive op hop
  | false =>
    cases op with
    | dropArena => exact absurd rfl hda
    | collect m k f o => rw [(step_collect_rel h m k f o).alive]; exact h.alive
    | _ => cases hop

theorem isNone_false_of_ne {α} {o : Option α} (h : o ≠ none) : o.isNone = false := by
  cases o <;> simp_all

theorem step_readRoot {a : Arena} (halive : a.alive = true) (hcb : a.cb ≠ none) {k : Nat} {p : Ptr}
    (hr : a.root[k]? = some (some p)) :
    (a.step (.readRoot k)).1 = ({ a with marked := false } : Arena).push p := by
  rw [step_eq halive]
  simp [Arena.stepBody, isNone_false_of_ne hcb, hr]

theorem step_barrier_bb {a : Arena} (halive : a.alive = true) (hcb : a.cb ≠ none) {x r : Nat}
    (hx : a.holds (.strong x) = true) (hr : a.holds (.strong r) = true) :
    (a.step (.barrier (.bb x (some r)))).1 =
      { a with marked := false, ctx := a.ctx.backwardBarrier x (some r), cover := .pair x r :: a.cover } := by
  rw [step_eq halive]
  have hx' : ({ a with marked := false } : Arena).holds (.strong x) = true := hx
  have hr' : ({ a with marked := false } : Arena).holds (.strong r) = true := hr
  simp [Arena.stepBody, isNone_false_of_ne hcb, hx', hr']

theorem step_store_raw {a : Arena} (halive : a.alive = true) (hcb : a.cb ≠ none) {x i : Nat} {v : Slot}
    {o : Obj} (hx : a.holds (.strong x) = true) (hv : a.holdsSlot v = true)
    (ho : a.ctx.heap.get x = some o) (hi : i < o.slots.length) (hnt : o.needsTrace = true)
    (hcov : a.coverOK x v = true) :
    (a.step (.store .raw x i v)).1 = { a with marked := false, ctx := Arena.setSlot a.ctx x i v } := by
  rw [step_eq halive]
  have hx' : ({ a with marked := false } : Arena).holds (.strong x) = true := hx
  have hv' : ({ a with marked := false } : Arena).holdsSlot v = true := hv
  have hcov' : ({ a with marked := false } : Arena).coverOK x v = true := hcov
  have hs : Arena.slotOf a.ctx x i = some (o.slots[i]) := by
    simp [Arena.slotOf, ho, hi]
  have ht : Arena.isTracing a.ctx x = true := by simp [Arena.isTracing, ho, hnt]
  simp [Arena.stepBody, isNone_false_of_ne hcb, hx', hv', hcov', hs, ht]

theorem step_enter_mutate {a : Arena} (halive : a.alive = true) (hcb : a.cb = none) :
    (a.step (.enter .mutate)).1 = { a with marked := false, cb := some .mutate } := by
  rw [step_eq halive]
  simp [Arena.stepBody, hcb]

theorem step_leave {a : Arena} (halive : a.alive = true) (hcb : a.cb ≠ none) :
    (a.step .leave).1 = { a with marked := false, cb := none, temps := [] } := by
  rw [step_eq halive]
  simp [Arena.stepBody, isNone_false_of_ne hcb]

def emptySetObj (cap : Nat) : Obj :=
  { color := .white, needsTrace := true, live := true, slots := List.replicate cap none }

theorem step_alloc_empty {a : Arena} (halive : a.alive = true) (hcb : a.cb ≠ none) (cap : Nat) :
    (a.step (.alloc true (List.replicate cap none))).1 =
      ({ a with marked := false, ctx := (a.ctx.link (emptySetObj cap)).1 } : Arena).push
        (.strong a.ctx.heap.fresh) := by
  rw [step_eq halive]
  have hall : (List.replicate cap (none : Slot)).all ({ a with marked := false } : Arena).holdsSlot = true := by
    simp [Arena.holdsSlot]
  simp [Arena.stepBody, isNone_false_of_ne hcb, hall, Ctx.link, emptySetObj]

theorem step_rootStore {a : Arena} (halive : a.alive = true) (hcb : a.cb = some .mutateRoot) {k : Nat}
    {v : Slot} (hv : a.holdsSlot v = true) (hk : k < a.root.length) :
    (a.step (.rootStore k v)).1 = { a with marked := false, root := a.root.set k v } := by
  rw [step_eq halive]
  have : ¬ a.root.length ≤ k := by omega
  cases v with
  | none => simp [Arena.stepBody, hcb, this, Arena.holdsSlot]
  | some p =>
    have hp : p ∈ a.temps := by simpa [Arena.holdsSlot, Arena.holds] using hv
    simp [Arena.stepBody, hcb, this, Arena.holdsSlot, Arena.holds, hp]

theorem step_read {a : Arena} (halive : a.alive = true) (hcb : a.cb ≠ none) {x i : Nat} {o : Obj}
    {q : Ptr} (hx : a.holds (.strong x) = true) (ho : a.ctx.heap.get x = some o)
    (hq : o.slots[i]? = some (some q)) :
    a.step (.read x i) = (({ a with marked := false } : Arena).push q, Arena.showPtr q) := by
  rw [step_eq halive]
  have hx' : ({ a with marked := false } : Arena).holds (.strong x) = true := hx
  have hs : Arena.slotOf a.ctx x i = some (some q) := by simp [Arena.slotOf, ho, hq]
  simp [Arena.stepBody, isNone_false_of_ne hcb, hx', hs]

theorem holds_push_self (a : Arena) (p : Ptr) : (a.push p).holds p = true :=
  (holds_iff _ _).2 ((a.mem_push p).2 (.inl rfl))


open GcArena.DynRoots (Handle RootSet Slots State containsB)

/-- Where set `s` lives in the arena: the root slot holding the `DynamicRootSet` pointer, the heap
id of the set object (`Gc<Inner>`), and the number of slots the set object was allocated with. -/
structure SetLoc where
  slot : Nat
  id : Nat
  cap : Nat
  deriving DecidableEq, Repr, Inhabited

/-- What the set object's `trace` reports for table slot `i`. -/
def image : Option DynRoots.Slot → Slot
  | some (.occupied r _) => some (.strong r)
  | _ => none

/-- The slot list of a set object with `cap` slots mirroring the table `tbl`. -/
def mirror (cap : Nat) (tbl : List DynRoots.Slot) : List Slot :=
  (List.range cap).map (fun i => image tbl[i]?)

structure Sys where
  a : Arena
  d : State
  /-- `loc[s]`: where set `s` lives (aligned with `d.sets`) -/
  loc : List SetLoc
  /-- ghost: the collector-model ops executed so far -/
  aops : List Op
  /-- ghost: the DynRoots-model ops executed so far -/
  dops : List DynRoots.Op
  deriving Repr

def Sys.init (n : Nat) : Sys := ⟨Arena.new n, State.init, [], [], []⟩

def Sys.doA (S : Sys) (ops : List Op) : Sys := { S with a := S.a.run ops, aops := S.aops ++ ops }

def Sys.doD (S : Sys) (op : DynRoots.Op) : Sys :=
  { S with d := DynRoots.next S.d op, dops := S.dops ++ [op] }

def Sys.ids (S : Sys) : List Nat := S.loc.map (·.id)
def Sys.rootSlots (S : Sys) : List Nat := S.loc.map (·.slot)

/-- Collector-model ops a client can interleave: everything except writing a set object's slots
(private to `dynamic_roots.rs`), overwriting a root slot that holds a set (RESTRICTION) and
dropping the arena (RESTRICTION). -/
def Sys.allowed (S : Sys) : Op → Bool
  | .store _ p _ _ => !S.ids.contains p
  | .rootStore i _ => !S.rootSlots.contains i
  | .dropArena => false
  | _ => true

/-- `DynamicRoot::drop` of the last handle of a slot, on the collector side: clear slot `i` of the
set object.  Outside a callback the store is wrapped in a pointer-free `mutate` callback. -/
def clearOps (a : Arena) (l : SetLoc) (i : Nat) : List Op :=
  if a.cb.isNone then [.enter .mutate, .readRoot l.slot, .store .raw l.id i none, .leave]
  else [.readRoot l.slot, .store .raw l.id i none]

def stashOps (l : SetLoc) (r idx : Nat) : List Op :=
  [.readRoot l.slot, .barrier (.bb l.id (some r)), .store .raw l.id idx (some (.strong r))]

def fetchOps (l : SetLoc) (h : Handle) : List Op := [.readRoot l.slot, .read l.id h.index]

def newSetOps (k cap id : Nat) : List Op :=
  [.alloc true (List.replicate cap none), .rootStore k (some (.strong id))]

inductive COp where
  /-- `DynamicRootSet::new(mc)` inside a `mutate_root` callback, stored in root slot `k`; the set
  object gets `cap` slots -/
  | newSet (k cap : Nat)
  | stash (s r : Nat)
  | clone (h : Handle)
  | dropHandle (h : Handle)
  | fetch (s : Nat) (h : Handle)
  | tryFetch (s : Nat) (h : Handle)
  | contains (s : Nat) (h : Handle)
  /-- any other collector-model op (collection calls, callbacks, allocation, reads, barriers,
  stores into other objects, root stores into other slots) -/
  | gc (op : Op)
  /-- `drop(arena)` outside callbacks: every object is destructed, among them every set object, whose
  `Inner` drops its `Rc<RefCell<Slots>>` — `destroySet` for every set -/
  | dropArena
  deriving Repr, Inhabited

def destroyOps (m : Nat) : List DynRoots.Op := (List.range m).map .destroySet

def Sys.doDs (S : Sys) (ops : List DynRoots.Op) : Sys := ops.foldl Sys.doD S

def Sys.fetchLike (S : Sys) (s : Nat) (h : Handle) (dop : DynRoots.Op) : Sys :=
  match S.loc[s]? with
  | some l =>
    if S.a.alive && S.a.cb.isSome && decide (h ∈ S.d.handles) && (S.d.liveSet s).isSome
        && containsB s h then
      (S.doA (fetchOps l h)).doD dop
    else S.doD dop
  | none => S.doD dop

def Sys.step (S : Sys) : COp → Sys
  | .newSet k cap =>
    if S.a.alive && decide (S.a.cb = some .mutateRoot) && decide (k < S.a.root.length)
        && !S.rootSlots.contains k then
      (({ S with loc := S.loc ++ [⟨k, S.a.ctx.heap.fresh, cap⟩] } : Sys).doA
        (newSetOps k cap S.a.ctx.heap.fresh)).doD .newSet
    else S
  | .stash s r =>
    match S.loc[s]?, S.d.liveSet s with
    | some l, some rs =>
      match rs.slots.add r with
      | .ok (_, idx) =>
        if S.a.alive && S.a.cb.isSome && S.a.holds (.strong r) && decide (idx < l.cap) then
          (S.doA (stashOps l r idx)).doD (.stash s r)
        else S
      | .error _ => S
    | _, _ => S
  | .clone h => S.doD (.clone h)
  | .dropHandle h =>
    if h ∈ S.d.handles then
      match S.loc[h.set]?, S.d.liveSet h.set with
      | some l, some rs =>
        match rs.slots.slots[h.index]? with
        | some (.occupied _ 0) => (S.doA (clearOps S.a l h.index)).doD (.dropHandle h)
        | _ => S.doD (.dropHandle h)
      | _, _ => S.doD (.dropHandle h)
    else S
  | .fetch s h => S.fetchLike s h (.fetch s h)
  | .tryFetch s h => S.fetchLike s h (.tryFetch s h)
  | .contains s h => S.doD (.contains s h)
  | .gc op => if S.allowed op then S.doA [op] else S
  | .dropArena =>
    if S.a.alive && S.a.cb.isNone then (S.doA [.dropArena]).doDs (destroyOps S.d.sets.length) else S

def Sys.run (S : Sys) : List COp → Sys
  | [] => S
  | op :: ops => Sys.run (S.step op) ops

/-- The arena side of the coupling for one set: the root slot holds the set object, which is
allocated, undestructed, traced, and has exactly the slot list `ss`. -/
structure Holds (a : Arena) (l : SetLoc) (ss : List Slot) : Prop where
  root : a.root[l.slot]? = some (some (.strong l.id))
  obj : ∃ o, a.ctx.heap.get l.id = some o ∧ o.live = true ∧ o.needsTrace = true ∧ o.slots = ss

/-- The coupling relation while the arena exists: both sides are runs of the two existing models; the
arena is alive; and every set's object mirrors the set's slot table slot by slot. -/
structure Live (n : Nat) (S : Sys) : Prop where
  arena : S.a = (Arena.new n).run S.aops
  dyn : S.d = DynRoots.run State.init S.dops
  alive : S.a.alive = true
  len : S.loc.length = S.d.sets.length
  distinct : ∀ (s s' : Nat) (l l' : SetLoc), S.loc[s]? = some l → S.loc[s']? = some l' → l.id = l'.id → s = s'
  sets : ∀ (s : Nat) (l : SetLoc) (rs : RootSet), S.loc[s]? = some l → S.d.sets[s]? = some rs →
    Holds S.a l (mirror l.cap rs.slots.slots) ∧ rs.slots.slots.length ≤ l.cap


theorem mirror_length (cap : Nat) (tbl : List DynRoots.Slot) : (mirror cap tbl).length = cap := by
  simp [mirror]

theorem mirror_getElem? (cap : Nat) (tbl : List DynRoots.Slot) (i : Nat) :
    (mirror cap tbl)[i]? = if i < cap then some (image tbl[i]?) else none := by
  by_cases hi : i < cap
  · simp [mirror, hi]
  · rw [if_neg hi, List.getElem?_eq_none (by rw [mirror_length]; omega)]

theorem mirror_nil (cap : Nat) : mirror cap [] = List.replicate cap none := by
  apply List.ext_getElem?
  intro i
  rw [mirror_getElem?, List.getElem?_replicate]
  rfl

theorem mirror_update {cap : Nat} {tbl tbl' : List DynRoots.Slot} {idx : Nat} {v : Slot}
    (h : ∀ i : Nat, image tbl'[i]? = if i = idx then v else image tbl[i]?) :
    mirror cap tbl' = (mirror cap tbl).set idx v := by
  apply List.ext_getElem?
  intro i
  rw [List.getElem?_set, mirror_length, mirror_getElem?, mirror_getElem?, h i]
  by_cases he : idx = i
  · subst he; simp
  · simp [he, Ne.symm he]

theorem mirror_congr {cap : Nat} {tbl tbl' : List DynRoots.Slot}
    (h : ∀ i : Nat, image tbl'[i]? = image tbl[i]?) : mirror cap tbl' = mirror cap tbl := by
  simp only [mirror, h]

theorem mirror_strong_iff {cap : Nat} {tbl : List DynRoots.Slot} (hlen : tbl.length ≤ cap) (i r : Nat) :
    (mirror cap tbl)[i]? = some (some (Ptr.strong r)) ↔ ∃ c, tbl[i]? = some (.occupied r c) := by
  rw [mirror_getElem?]
  by_cases hi : i < cap
  · rw [if_pos hi]
    cases tbl[i]? with
    | none => simp [image]
    | some y => cases y <;> simp [image]
  · rw [if_neg hi, List.getElem?_eq_none (by omega)]; simp

/-- The set object's strong slots are exactly what `Collect for Slots` reports. -/
theorem mem_mirror {cap : Nat} {sl : Slots} {p : Nat} (hlen : sl.slots.length ≤ cap) :
    some (Ptr.strong p) ∈ mirror cap sl.slots ↔ p ∈ sl.traced := by
  rw [DynRoots.Slots.mem_traced, List.mem_iff_getElem?]
  simp only [mirror_strong_iff hlen]

theorem getElem?_set_some {α} {l : List α} {i j : Nat} {x y : α} (h : (l.set i x)[j]? = some y) :
    (j = i ∧ y = x ∧ i < l.length) ∨ (j ≠ i ∧ l[j]? = some y) := by
  rw [List.getElem?_set] at h
  by_cases he : i = j
  · subst he
    by_cases hl : i < l.length
    · simp [hl] at h; exact .inl ⟨rfl, h.symm, hl⟩
    · simp [hl] at h
  · simp [he] at h
    exact .inr ⟨fun e => he e.symm, h⟩

theorem image_set {l : List DynRoots.Slot} {idx : Nat} (hlt : idx < l.length) (x : DynRoots.Slot)
    (i : Nat) : image (l.set idx x)[i]? = if i = idx then image (some x) else image l[i]? := by
  rw [List.getElem?_set]
  by_cases he : idx = i
  · subst he; simp [hlt]
  · simp [he, Ne.symm he]

theorem add_cases {sl0 sl : Slots} {r idx : Nat} (h : sl0.add r = .ok (sl, idx)) :
    (idx < sl0.slots.length ∧ sl.slots = sl0.slots.set idx (.occupied r 0)) ∨
    (idx = sl0.slots.length ∧ sl.slots = sl0.slots ++ [.occupied r 0]) := by
  rcases DynRoots.Slots.add_ok_iff.1 h with ⟨_, _, nf, hv, rfl⟩ | ⟨_, _, rfl, rfl⟩
  · exact .inl ⟨DynRoots.lt_of_getElem?_some hv, rfl⟩
  · exact .inr ⟨rfl, rfl⟩

theorem add_idx_le {sl0 sl : Slots} {r idx : Nat} (h : sl0.add r = .ok (sl, idx)) :
    idx ≤ sl0.slots.length := by
  rcases add_cases h with ⟨h, _⟩ | ⟨h, _⟩
  · exact Nat.le_of_lt h
  · exact Nat.le_of_eq h

theorem add_spec {sl0 sl : Slots} {r idx : Nat} (h : sl0.add r = .ok (sl, idx)) :
    (∀ i : Nat, image sl.slots[i]? = if i = idx then some (.strong r) else image sl0.slots[i]?) ∧
    sl.slots.length ≤ max sl0.slots.length (idx + 1) := by
  rcases add_cases h with ⟨hlt, e⟩ | ⟨rfl, e⟩ <;> rw [e]
  · exact ⟨image_set hlt _, by rw [List.length_set]; exact Nat.le_max_left _ _⟩
  · refine ⟨fun i => ?_, by rw [List.length_append]; exact Nat.le_max_right _ _⟩
    rcases Nat.lt_trichotomy i sl0.slots.length with hi | rfl | hi
    · rw [List.getElem?_append_left hi, if_neg (Nat.ne_of_lt hi)]
    · rw [List.getElem?_concat_length, if_pos rfl]; rfl
    · rw [List.getElem?_eq_none (by simp; omega), List.getElem?_eq_none (Nat.le_of_lt hi),
        if_neg (Nat.ne_of_gt hi)]

theorem inc_spec {sl0 sl : Slots} {idx : Nat} (h : sl0.inc idx = .ok sl) :
    sl.slots.length = sl0.slots.length ∧ ∀ i : Nat, image sl.slots[i]? = image sl0.slots[i]? := by
  obtain ⟨r, c, hv, rfl⟩ := DynRoots.Slots.inc_ok_iff.1 h
  refine ⟨by simp, fun i => ?_⟩
  rw [image_set (DynRoots.lt_of_getElem?_some hv)]
  split
  · subst i; rw [hv]; rfl
  · rfl

theorem dec_spec {sl0 sl : Slots} {idx : Nat} (h : sl0.dec idx = .ok sl) :
    sl.slots.length = sl0.slots.length ∧
    ((∃ r, sl0.slots[idx]? = some (.occupied r 0)) →
      ∀ i : Nat, image sl.slots[i]? = if i = idx then none else image sl0.slots[i]?) ∧
    ((¬ ∃ r, sl0.slots[idx]? = some (.occupied r 0)) →
      ∀ i : Nat, image sl.slots[i]? = image sl0.slots[i]?) := by
  obtain ⟨r, c, hv, rfl⟩ := DynRoots.Slots.dec_ok_iff.1 h
  have hlt := DynRoots.lt_of_getElem?_some hv
  by_cases hc : c = 0
  · subst hc
    rw [if_pos rfl]
    exact ⟨by simp, fun _ i => image_set hlt _ i, fun hn => absurd ⟨r, hv⟩ hn⟩
  · rw [if_neg hc]
    refine ⟨by simp, fun ⟨r', hr'⟩ => ?_, fun _ i => ?_⟩
    · rw [hv] at hr'; cases hr'; exact absurd rfl hc
    · rw [image_set hlt]
      split
      · subst i; rw [hv]; rfl
      · rfl

/-- What an op that neither creates a set nor vacates / fills a slot does to the tables: every
table keeps its length and its image. -/
def SameTables (d d' : State) : Prop :=
  d'.sets.length = d.sets.length ∧
  ∀ (s : Nat) (rs' : RootSet), d'.sets[s]? = some rs' → ∃ rs, d.sets[s]? = some rs ∧
    rs'.alive = rs.alive ∧ rs'.slots.slots.length = rs.slots.slots.length ∧
    ∀ i : Nat, image rs'.slots.slots[i]? = image rs.slots.slots[i]?

theorem SameTables.refl (d : State) : SameTables d d :=
  ⟨rfl, fun _ rs' h => ⟨rs', h, rfl, rfl, fun _ => rfl⟩⟩

theorem SameTables.ofSets {d d' : State} (h : d'.sets = d.sets) : SameTables d d' :=
  ⟨by rw [h], fun _ rs' hs => ⟨rs', by rw [← h]; exact hs, rfl, rfl, fun _ => rfl⟩⟩

theorem SameTables.ofSet {d d' : State} {s : Nat} {rs : RootSet} {sl : Slots}
    (hl : d.liveSet s = some rs) (hs : d'.sets = d.sets.set s { rs with slots := sl })
    (h : sl.slots.length = rs.slots.slots.length ∧
      ∀ i : Nat, image sl.slots[i]? = image rs.slots.slots[i]?) : SameTables d d' := by
  refine ⟨by rw [hs]; simp, fun s' rs' hs' => ?_⟩
  rw [hs] at hs'
  rcases getElem?_set_some hs' with ⟨rfl, rfl, _⟩ | ⟨_, hs'⟩
  · exact ⟨rs, (DynRoots.liveSet_eq_some.1 hl).1, rfl, h.1, h.2⟩
  · exact ⟨rs', hs', rfl, rfl, fun _ => rfl⟩

/-- `DynamicRoot::drop` vacates slot `h.index` of set `h.set`: this was the last handle of the slot. -/
def Vacates (d : State) (h : Handle) : Prop :=
  h ∈ d.handles ∧ ∃ rs r, d.liveSet h.set = some rs ∧ rs.slots.slots[h.index]? = some (.occupied r 0)

theorem next_clone_same (d : State) (h : Handle) : SameTables d (DynRoots.next d (.clone h)) := by
  obtain e | ⟨d', a, hs, e⟩ := DynRoots.next_cases d (.clone h) <;> rw [e]
  · exact SameTables.refl d
  · cases hs with
    | cloneDead => exact SameTables.ofSets rfl
    | cloneLive _ hl hi => exact SameTables.ofSet hl rfl (inc_spec hi)

theorem next_drop_same (d : State) (h : Handle) (hnv : ¬ Vacates d h) :
    SameTables d (DynRoots.next d (.dropHandle h)) := by
  obtain e | ⟨d', a, hs, e⟩ := DynRoots.next_cases d (.dropHandle h) <;> rw [e]
  · exact SameTables.refl d
  · cases hs with
    | dropDead => exact SameTables.ofSets rfl
    | dropLive hm hl hi =>
      obtain ⟨hlen, _, himg⟩ := dec_spec hi
      exact SameTables.ofSet hl rfl ⟨hlen, himg (fun ⟨r, hr⟩ => hnv ⟨hm, _, r, hl, hr⟩)⟩

theorem sets_set_img {d : State} {s idx : Nat} {v : Slot} {rs : RootSet} {sl : Slots}
    (hl : d.liveSet s = some rs)
    (himg : ∀ i : Nat, image sl.slots[i]? = if i = idx then v else image rs.slots.slots[i]?)
    (s' : Nat) (rs' : RootSet) (hs : (d.sets.set s { rs with slots := sl })[s']? = some rs') :
    ∃ rs0, d.sets[s']? = some rs0 ∧ rs'.alive = rs0.alive ∧
      rs'.slots.slots.length = (if s' = s then sl.slots.length else rs0.slots.slots.length) ∧
      ∀ i : Nat, image rs'.slots.slots[i]? =
        if s' = s ∧ i = idx then v else image rs0.slots.slots[i]? := by
  rcases getElem?_set_some hs with ⟨rfl, rfl, _⟩ | ⟨hne, hs'⟩
  · refine ⟨rs, (DynRoots.liveSet_eq_some.1 hl).1, rfl, by simp, fun i => ?_⟩
    rw [himg i]; simp
  · exact ⟨rs', hs', rfl, by simp [hne], fun i => by simp [hne]⟩

theorem next_drop_eq {d : State} {h : Handle} {rs : RootSet} {r : Nat} (hm : h ∈ d.handles)
    (hl : d.liveSet h.set = some rs) (hv : rs.slots.slots[h.index]? = some (.occupied r 0)) :
    DynRoots.next d (.dropHandle h) =
      { d with sets := d.sets.set h.set
                 { rs with slots := ⟨rs.slots.slots.set h.index (.vacant rs.slots.nextFree), h.index⟩ },
               handles := d.handles.erase h } := by
  simp [DynRoots.next, DynRoots.step, hm, hl, Slots.dec, hv, DynRoots.State.withSlots]

theorem next_stash_eq {d : State} {s r idx : Nat} {rs : RootSet} {sl : Slots}
    (hl : d.liveSet s = some rs) (ha : rs.slots.add r = .ok (sl, idx)) :
    DynRoots.next d (.stash s r) =
      { sets := d.sets.set s { rs with slots := sl },
        handles := ⟨s, idx, r, d.nextStash⟩ :: d.handles, nextStash := d.nextStash + 1 } := by
  simp [DynRoots.next, DynRoots.step, hl, ha, DynRoots.State.withSlots]

theorem next_newSet (d : State) :
    DynRoots.next d .newSet = { d with sets := d.sets ++ [⟨true, Slots.new⟩] } := by
  simp [DynRoots.next, DynRoots.step]

theorem next_newSet_liveSet (d : State) (s : Nat) :
    (DynRoots.next d .newSet).liveSet s =
      if s = d.sets.length then some ⟨true, Slots.new⟩ else d.liveSet s := by
  rw [DynRoots.liveSet_append (d := d) (r := ⟨true, Slots.new⟩) (by rw [next_newSet])]
  rfl

theorem liveSet_of_ge {d : State} {s : Nat} (h : d.sets.length ≤ s) : d.liveSet s = none := by
  unfold State.liveSet
  rw [List.getElem?_eq_none h]

theorem next_destroy (d : State) (x : Nat) :
    (DynRoots.next d (.destroySet x)).sets.length = d.sets.length ∧
    (DynRoots.next d (.destroySet x)).handles = d.handles ∧
    ∀ s, (DynRoots.next d (.destroySet x)).liveSet s = if s = x then none else d.liveSet s := by
  cases hl : d.liveSet x with
  | none =>
    have e : DynRoots.next d (.destroySet x) = d := by simp [DynRoots.next, DynRoots.step, hl]
    rw [e]
    refine ⟨rfl, rfl, fun s => ?_⟩
    split
    · subst s; exact hl
    · rfl
  | some rs =>
    have e : DynRoots.next d (.destroySet x) =
        { d with sets := d.sets.set x { rs with alive := false } } := by
      simp [DynRoots.next, DynRoots.step, hl]
    rw [e]
    refine ⟨by simp, rfl, fun s => ?_⟩
    rw [DynRoots.liveSet_set rfl (DynRoots.lt_of_getElem?_some (DynRoots.liveSet_eq_some.1 hl).1)]
    split <;> simp

theorem run_destroy (l : List Nat) : ∀ d : State,
    (DynRoots.run d (l.map .destroySet)).sets.length = d.sets.length ∧
    (DynRoots.run d (l.map .destroySet)).handles = d.handles ∧
    ∀ s, (DynRoots.run d (l.map .destroySet)).liveSet s = if s ∈ l then none else d.liveSet s := by
  induction l with
  | nil => intro d; exact ⟨rfl, rfl, fun s => by simp [DynRoots.run]⟩
  | cons x l ih =>
    intro d
    obtain ⟨n1, n2, n3⟩ := next_destroy d x
    obtain ⟨i1, i2, i3⟩ := ih (DynRoots.next d (.destroySet x))
    simp only [List.map_cons, DynRoots.run]
    refine ⟨i1.trans n1, i2.trans n2, fun s => ?_⟩
    rw [i3 s, n3 s]
    by_cases h1 : s ∈ l <;> by_cases h2 : s = x <;> simp [h1, h2]

theorem dyn_run_snoc (ops : List DynRoots.Op) (op : DynRoots.Op) (st : State) :
    DynRoots.run st (ops ++ [op]) = DynRoots.next (DynRoots.run st ops) op :=
  DynRoots.run_append st ops [op]

theorem Holds.congr {a a' : Arena} {l : SetLoc} {ss : List Slot} (h : Holds a l ss)
    (hroot : a'.root = a.root) (hctx : a'.ctx = a.ctx) : Holds a' l ss :=
  ⟨by rw [hroot]; exact h.root, by rw [hctx]; exact h.obj⟩

theorem Holds.reach {a : Arena} {l : SetLoc} {ss : List Slot} (h : Holds a l ss) : StrongReach a l.id :=
  .root l.id (List.mem_of_getElem? h.root)

theorem Holds.keep {a a' : Arena} {l : SetLoc} {ss : List Slot} (h : Holds a l ss)
    (hroot : a'.root[l.slot]? = a.root[l.slot]?) (hk : KeepAt l.id a.ctx a'.ctx) : Holds a' l ss :=
  ⟨by rw [hroot]; exact h.root, setObj_keep hk h.obj⟩

theorem Holds.step {a : Arena} (hi : Inv a) {l : SetLoc} {ss : List Slot} (h : Holds a l ss) (op : Op)
    (hda : op ≠ .dropArena) (hst : ∀ path i v, op ≠ .store path l.id i v)
    (hrs : ∀ v, op ≠ .rootStore l.slot v) : Holds (a.step op).1 l ss := by
  rcases step_kind hi op (step_alive hi op hda) with hop | rel
  · have st : MutStep { a with marked := false } a.marked op (a.step op).1 _ := step_mutStep hi.alive hop
    refine h.keep ?_ (mutStep_keepAt st hst)
    rcases st.root with e | ⟨i, v, rfl, e⟩ <;> rw [e]
    exact List.getElem?_set_ne (fun he => hrs v (by rw [he]))
  · exact h.keep (by rw [rel.root]) (collect_keepAt hi rel h.reach)

theorem Holds.setSlot_self {a a' : Arena} {l : SetLoc} {ss : List Slot} (h : Holds a l ss)
    (i : Nat) (v : Slot) (hroot : a'.root = a.root)
    (hctx : a'.ctx = Arena.setSlot a.ctx l.id i v) : Holds a' l (ss.set i v) :=
  ⟨by rw [hroot]; exact h.root, by rw [hctx]; exact setObj_setSlot i v h.obj⟩

theorem Holds.setSlot_other {a a' : Arena} {l : SetLoc} {ss : List Slot} (h : Holds a l ss)
    {x : Nat} (hne : l.id ≠ x) (i : Nat) (v : Slot) (hroot : a'.root = a.root)
    (hctx : a'.ctx = Arena.setSlot a.ctx x i v) : Holds a' l ss :=
  h.keep (by rw [hroot]) (by rw [hctx]; exact keepAt_setSlot _ _ _ _ hne)


theorem push_view (a : Arena) (p : Ptr) :
    ∃ t, a.push p = { a with temps := t } ∧ ∀ q, q ∈ t ↔ q = p ∨ q ∈ a.temps := by
  by_cases h : p ∈ a.temps
  · exact ⟨a.temps, Arena.push_of_mem h, fun q => ⟨.inr, fun hq => hq.elim (· ▸ h) id⟩⟩
  · refine ⟨p :: a.temps, ?_, fun q => List.mem_cons⟩
    simp [Arena.push, Arena.holds, h]

/-- **`stash`, collector side.**  The three ops are accepted, and their net effect is:
`backward_barrier(set, Some(r))`, then slot `idx` of the set object := `r`; the barrier's cover is
recorded; the set pointer is held.  Nothing else changes. -/
theorem stash_net {a : Arena} (halive : a.alive = true) (hcb : a.cb ≠ none) {l : SetLoc}
    {ss : List Slot} (h : Holds a l ss) {r idx : Nat} (hr : a.holds (.strong r) = true)
    (hidx : idx < ss.length) :
    ∃ t, a.run (stashOps l r idx) =
        { a with marked := false, temps := t, cover := .pair l.id r :: a.cover,
                 ctx := Arena.setSlot (a.ctx.backwardBarrier l.id (some r)) l.id idx (some (.strong r)) } ∧
      ∀ q, q ∈ t ↔ q = .strong l.id ∨ q ∈ a.temps := by
  obtain ⟨t, e0, ht⟩ := push_view { a with marked := false } (.strong l.id)
  have hx : Ptr.strong l.id ∈ t := (ht _).2 (.inl rfl)
  have hr' : Ptr.strong r ∈ t := (ht _).2 (.inr ((holds_iff _ _).1 hr))
  obtain ⟨o, ho, _, hn, hs⟩ := h.obj
  obtain ⟨o2, ho2, hs2, hn2, _⟩ := keepAt_backwardBarrier a.ctx l.id (some r) l.id o ho
  refine ⟨t, ?_, ht⟩
  simp only [stashOps, Arena.run]
  -- the arena after each op is written out; the `.raw` store is covered by the barrier's pair
  rw [step_readRoot halive hcb h.root, e0,
    step_barrier_bb (a := { a with marked := false, temps := t }) halive hcb
      ((holds_iff _ _).2 hx) ((holds_iff _ _).2 hr'),
    step_store_raw (v := some (.strong r))
      (a := { a with marked := false, temps := t, cover := .pair l.id r :: a.cover,
                     ctx := a.ctx.backwardBarrier l.id (some r) })
      halive hcb ((holds_iff _ _).2 hx) ((holds_iff _ _).2 hr') ho2 (by rw [hs2, hs]; exact hidx)
      (hn2.trans hn) (by simp [Arena.coverOK])]

/-- **Dropping the last handle of a slot, collector side, outside any callback** — also between two
collection increments.  The pointer-free `mutate` callback is accepted *without any barrier or
cover* (removing a pointer never needs one), and its net effect is exactly: slot `i` of the set
object := `None`.  Colours, queues, phase, metrics, root, cover: all unchanged; `marked` is reset
(R6). -/
theorem clear_net_outside {a : Arena} (hinv : Inv a) (hcb : a.cb = none) {l : SetLoc}
    {ss : List Slot} (h : Holds a l ss) {i : Nat} (hi : i < ss.length) :
    a.run (clearOps a l i) = { a with marked := false, ctx := Arena.setSlot a.ctx l.id i none } := by
  have halive := hinv.alive
  have htemps : a.temps = [] := hinv.cbTemps hcb
  obtain ⟨o, ho, _, hn, hs⟩ := h.obj
  obtain ⟨t, e0, ht⟩ := push_view { a with marked := false, cb := some .mutate } (.strong l.id)
  simp only [clearOps, hcb, Option.isNone_none, if_true, Arena.run]
  rw [step_enter_mutate halive hcb,
    step_readRoot (a := { a with marked := false, cb := some .mutate }) halive
      (Option.some_ne_none _) h.root, e0,
    step_store_raw (v := none) (a := { a with marked := false, cb := some .mutate, temps := t })
      halive (Option.some_ne_none _) ((holds_iff _ _).2 ((ht _).2 (.inl rfl))) rfl ho
      (by rw [hs]; exact hi) hn rfl,
    step_leave (a := { a with marked := false, cb := some .mutate, temps := t,
                              ctx := Arena.setSlot a.ctx l.id i none })
      halive (Option.some_ne_none _)]
  -- `leave` puts back the callback state and the empty list of held pointers
  cases a
  simp only at hcb htemps
  subst hcb htemps
  rfl

/-- The same inside a running callback (a handle dropped by the callback's own code): no `enter` /
`leave`; the set pointer joins the held pointers (conservative: the client can name one more
pointer, which it could read from the root anyway). -/
theorem clear_net_inside {a : Arena} (halive : a.alive = true) (hcb : a.cb ≠ none) {l : SetLoc}
    {ss : List Slot} (h : Holds a l ss) {i : Nat} (hi : i < ss.length) :
    ∃ t, a.run (clearOps a l i) =
        { a with marked := false, temps := t, ctx := Arena.setSlot a.ctx l.id i none } ∧
      ∀ q, q ∈ t ↔ q = .strong l.id ∨ q ∈ a.temps := by
  obtain ⟨o, ho, _, hn, hs⟩ := h.obj
  obtain ⟨t, e0, ht⟩ := push_view { a with marked := false } (.strong l.id)
  refine ⟨t, ?_, ht⟩
  simp only [clearOps, isNone_false_of_ne hcb, Bool.false_eq_true, if_false, Arena.run]
  rw [step_readRoot halive hcb h.root, e0,
    step_store_raw (v := none) (a := { a with marked := false, temps := t }) halive hcb
      ((holds_iff _ _).2 ((ht _).2 (.inl rfl))) rfl ho (by rw [hs]; exact hi) hn rfl]

/-- Both cases, as far as the coupling is concerned. -/
theorem clear_fields {a : Arena} (hinv : Inv a) {l : SetLoc} {ss : List Slot} (h : Holds a l ss)
    {i : Nat} (hi : i < ss.length) :
    (a.run (clearOps a l i)).ctx = Arena.setSlot a.ctx l.id i none ∧
    (a.run (clearOps a l i)).root = a.root ∧ (a.run (clearOps a l i)).alive = true := by
  by_cases hcb : a.cb = none
  · rw [clear_net_outside hinv hcb h hi]; exact ⟨rfl, rfl, hinv.alive⟩
  · obtain ⟨t, e, _⟩ := clear_net_inside hinv.alive hcb h hi
    rw [e]; exact ⟨rfl, rfl, hinv.alive⟩

/-- **`DynamicRootSet::new` + storing the set in root slot `k`**, inside `mutate_root`. -/
theorem newSet_net {a : Arena} (halive : a.alive = true) (hcb : a.cb = some .mutateRoot) {k : Nat}
    (hk : k < a.root.length) (cap : Nat) :
    ∃ t, a.run (newSetOps k cap a.ctx.heap.fresh) =
      { a with marked := false, temps := t, ctx := (a.ctx.link (emptySetObj cap)).1,
               root := a.root.set k (some (.strong a.ctx.heap.fresh)) } := by
  obtain ⟨t, e0, ht⟩ := push_view { a with marked := false, ctx := (a.ctx.link (emptySetObj cap)).1 }
    (.strong a.ctx.heap.fresh)
  refine ⟨t, ?_⟩
  simp only [newSetOps, Arena.run]
  rw [step_alloc_empty halive (hcb ▸ Option.some_ne_none _) cap, e0,
    step_rootStore (v := some (.strong a.ctx.heap.fresh))
      (a := { a with marked := false, ctx := (a.ctx.link (emptySetObj cap)).1, temps := t })
      halive hcb ((holds_iff _ _).2 ((ht _).2 (.inl rfl))) hk]

/-- **`fetch`, collector side**: reading slot `i` of the set object through the root.  Both reads
are accepted, the second one answers the pointer found in the slot, which is held afterwards;
context and root are unchanged. -/
theorem fetch_net {a : Arena} (halive : a.alive = true) (hcb : a.cb ≠ none) {l : SetLoc}
    {ss : List Slot} (h : Holds a l ss) {hd : Handle} {q : Ptr} (hq : ss[hd.index]? = some (some q)) :
    (a.run (fetchOps l hd)).ctx = a.ctx ∧ (a.run (fetchOps l hd)).root = a.root ∧
    (a.run (fetchOps l hd)).holds q = true ∧
    ((a.step (.readRoot l.slot)).1.step (.read l.id hd.index)).2 = Arena.showPtr q := by
  obtain ⟨o, ho, _, _, hs⟩ := h.obj
  obtain ⟨t, e0, ht⟩ := push_view { a with marked := false } (.strong l.id)
  have e1 := step_readRoot halive hcb h.root
  have e2 := step_read (a := { a with marked := false, temps := t }) (i := hd.index) (q := q)
    halive hcb ((holds_iff _ _).2 ((ht _).2 (.inl rfl))) ho (by rw [hs]; exact hq)
  refine ⟨?_, ?_, ?_, by rw [e1, e0, e2]⟩ <;> simp only [fetchOps, Arena.run] <;> rw [e1, e0, e2]
  · exact Arena.push_ctx _ _
  · exact Arena.push_root _ _
  · exact holds_push_self _ _


theorem Live.inv {n : Nat} {S : Sys} (hc : Live n S) : Inv S.a := by
  have := inv_run n S.aops (by rw [← hc.arena]; exact hc.alive)
  rw [← hc.arena] at this; exact this

theorem Live.dinv {n : Nat} {S : Sys} (hc : Live n S) : DynRoots.Inv S.d := by
  rw [hc.dyn]; exact DynRoots.inv_run _

theorem Live.init (n : Nat) : Live n (Sys.init n) :=
  ⟨rfl, rfl, rfl, rfl, fun _ _ _ _ h => (nomatch h), fun _ _ _ h => (nomatch h)⟩

theorem Live.doA_run {n : Nat} {S : Sys} (hc : Live n S) (ops : List Op) :
    S.a.run ops = (Arena.new n).run (S.aops ++ ops) := by
  rw [Arena.run_append, ← hc.arena]

theorem Live.doD_run {n : Nat} {S : Sys} (hc : Live n S) (op : DynRoots.Op) :
    DynRoots.next S.d op = DynRoots.run State.init (S.dops ++ [op]) := by
  rw [dyn_run_snoc, ← hc.dyn]

theorem Live.set_of_loc {n : Nat} {S : Sys} (hc : Live n S) {s : Nat} {l : SetLoc}
    (hl : S.loc[s]? = some l) : ∃ rs, S.d.sets[s]? = some rs :=
  ⟨_, List.getElem?_eq_getElem (by rw [← hc.len]; exact DynRoots.lt_of_getElem?_some hl)⟩

theorem Live.loc_of_set {n : Nat} {S : Sys} (hc : Live n S) {s : Nat} {rs : RootSet}
    (hs : S.d.sets[s]? = some rs) : ∃ l, S.loc[s]? = some l :=
  ⟨_, List.getElem?_eq_getElem (by rw [hc.len]; exact DynRoots.lt_of_getElem?_some hs)⟩

theorem allowed_spec {S : Sys} {op : Op} (hal : S.allowed op = true) {s : Nat} {l : SetLoc}
    (hl : S.loc[s]? = some l) :
    op ≠ .dropArena ∧ (∀ path i v, op ≠ .store path l.id i v) ∧ (∀ v, op ≠ .rootStore l.slot v) := by
  have hid : l.id ∈ S.ids := List.mem_map.2 ⟨l, List.mem_of_getElem? hl, rfl⟩
  have hsl : l.slot ∈ S.rootSlots := List.mem_map.2 ⟨l, List.mem_of_getElem? hl, rfl⟩
  refine ⟨?_, ?_, ?_⟩
  · rintro rfl; simp [Sys.allowed] at hal
  · rintro path i v rfl; simp [Sys.allowed] at hal; exact hal hid
  · rintro v rfl; simp [Sys.allowed] at hal; exact hal hsl

theorem Live.gc {n : Nat} {S : Sys} (hc : Live n S) {op : Op} (hal : S.allowed op = true) :
    Live n (S.doA [op]) := by
  have hi := hc.inv
  have hda : op ≠ .dropArena := by rintro rfl; simp [Sys.allowed] at hal
  refine ⟨hc.doA_run [op], hc.dyn, ?_, hc.len, hc.distinct, ?_⟩
  · exact step_alive hi op hda
  · intro s l rs hl hs
    obtain ⟨hh, hlen⟩ := hc.sets s l rs hl hs
    obtain ⟨h1, h2, h3⟩ := allowed_spec hal hl
    exact ⟨hh.step hi op h1 h2 h3, hlen⟩

theorem Sys.doA_nil (S : Sys) : S.doA [] = S := by
  simp [Sys.doA, Arena.run]

theorem Sys.doA_cons (S : Sys) (op : Op) (ops : List Op) : S.doA (op :: ops) = (S.doA [op]).doA ops := by
  simp [Sys.doA, Arena.run]

theorem Live.gcs {n : Nat} (ops : List Op) : ∀ {S : Sys}, Live n S →
    (∀ op ∈ ops, S.allowed op = true) → Live n (S.doA ops) := by
  induction ops with
  | nil => intro S hc _; rw [Sys.doA_nil]; exact hc
  | cons op ops ih =>
    intro S hc hal
    rw [Sys.doA_cons]
    exact ih (hc.gc (hal op (List.mem_cons_self ..)))
      (fun o ho => hal o (List.mem_cons_of_mem _ ho))

/-- A DynRoots op that changes no table image (clone, a drop that leaves other handles of the
slot, fetch / try_fetch / contains). -/
theorem Live.doD_same {n : Nat} {S : Sys} (hc : Live n S) (op : DynRoots.Op)
    (hT : SameTables S.d (DynRoots.next S.d op)) : Live n (S.doD op) := by
  refine ⟨hc.arena, hc.doD_run op, hc.alive, hc.len.trans hT.1.symm, hc.distinct, ?_⟩
  intro s l rs' hl hs
  obtain ⟨rs, hrs, _, hlen, himg⟩ := hT.2 s rs' hs
  obtain ⟨hh, hle⟩ := hc.sets s l rs hl hrs
  refine ⟨?_, by rw [hlen]; exact hle⟩
  rw [mirror_congr himg]
  exact hh

theorem getElem?_append_one {α} {l : List α} {x y : α} {s : Nat} (h : (l ++ [x])[s]? = some y) :
    (s < l.length ∧ l[s]? = some y) ∨ (s = l.length ∧ y = x) := by
  rcases Nat.lt_trichotomy s l.length with hs | rfl | hs
  · rw [List.getElem?_append_left hs] at h; exact .inl ⟨hs, h⟩
  · rw [List.getElem?_concat_length] at h; exact .inr ⟨rfl, (Option.some.inj h).symm⟩
  · rw [List.getElem?_eq_none (by simp; omega)] at h; cases h

theorem Live.newSet {n : Nat} {S : Sys} (hc : Live n S) {k : Nat} (cap : Nat)
    (hcb : S.a.cb = some .mutateRoot) (hk : k < S.a.root.length) (hfree : k ∉ S.rootSlots) :
    Live n ((({ S with loc := S.loc ++ [⟨k, S.a.ctx.heap.fresh, cap⟩] } : Sys).doA
        (newSetOps k cap S.a.ctx.heap.fresh)).doD .newSet) := by
  obtain ⟨t, e⟩ := newSet_net hc.alive hcb hk cap
  have nctx : (S.a.run (newSetOps k cap S.a.ctx.heap.fresh)).ctx = (S.a.ctx.link (emptySetObj cap)).1 := by
    rw [e]
  have nroot : (S.a.run (newSetOps k cap S.a.ctx.heap.fresh)).root =
      S.a.root.set k (some (.strong S.a.ctx.heap.fresh)) := by rw [e]
  have nalive : (S.a.run (newSetOps k cap S.a.ctx.heap.fresh)).alive = true := by rw [e]; exact hc.alive
  have hfresh : ∀ (s : Nat) (l : SetLoc), S.loc[s]? = some l → l.id ≠ S.a.ctx.heap.fresh := by
    intro s l hl he
    obtain ⟨rs, hrs⟩ := hc.set_of_loc hl
    obtain ⟨o, ho, _⟩ := (hc.sets s l rs hl hrs).1.obj
    rw [he, Heap.get_fresh] at ho; cases ho
  refine ⟨hc.doA_run _, ?_, nalive, ?_, ?_, ?_⟩
  · exact hc.doD_run .newSet
  · show (S.loc ++ [_]).length = (DynRoots.next S.d .newSet).sets.length
    rw [next_newSet]; simp [hc.len]
  · intro s s' l l' hl hl' he
    change (S.loc ++ [_])[s]? = some l at hl
    change (S.loc ++ [_])[s']? = some l' at hl'
    rcases getElem?_append_one hl with ⟨_, h1⟩ | ⟨e1, rfl⟩
    · rcases getElem?_append_one hl' with ⟨_, h2⟩ | ⟨e2, rfl⟩
      · exact hc.distinct s s' l l' h1 h2 he
      · exact absurd he (hfresh s l h1)
    · rcases getElem?_append_one hl' with ⟨_, h2⟩ | ⟨e2, rfl⟩
      · exact absurd he.symm (hfresh s' l' h2)
      · rw [e1, e2]
  · intro s l rs hl hs
    change (S.loc ++ [_])[s]? = some l at hl
    change (DynRoots.next S.d .newSet).sets[s]? = some rs at hs
    rw [next_newSet] at hs
    change (S.d.sets ++ [_])[s]? = some rs at hs
    show Holds (S.a.run (newSetOps k cap S.a.ctx.heap.fresh)) l _ ∧ _
    rcases getElem?_append_one hl with ⟨hlt, h1⟩ | ⟨e1, rfl⟩
    · rcases getElem?_append_one hs with ⟨_, h2⟩ | ⟨e2, _⟩
      · obtain ⟨hh, hle⟩ := hc.sets s l rs h1 h2
        refine ⟨hh.keep ?_ ?_, hle⟩
        · rw [nroot]
          have : k ≠ l.slot := by
            intro he; apply hfree; rw [he]
            exact List.mem_map.2 ⟨l, List.mem_of_getElem? h1, rfl⟩
          rw [List.getElem?_set_ne this]
        · rw [nctx]; exact keepAt_link _ _ _
      · rw [← hc.len] at e2; omega
    · rcases getElem?_append_one hs with ⟨hlt, _⟩ | ⟨_, rfl⟩
      · rw [← hc.len] at hlt; omega
      · refine ⟨⟨?_, ?_⟩, by simp [Slots.new]⟩
        · rw [nroot]; simp [hk]
        · refine ⟨emptySetObj cap, ?_, rfl, rfl, ?_⟩
          · rw [nctx]; simp [Ctx.link]
          · simp [emptySetObj, Slots.new, mirror_nil]

/-- The slot-table side replaces the table of the alive set `s` by one that shows `v` in slot `idx`
and is otherwise the same; the arena side recolours (`c`), then stores `v` into slot `idx` of the
set object. -/
theorem Live.setTable {n : Nat} {S : Sys} (hc : Live n S) {s idx : Nat} {v : Slot} {l : SetLoc}
    {rs : RootSet} {sl : Slots} {ops : List Op} {op : DynRoots.Op} {c : Ctx}
    (hl : S.loc[s]? = some l) (hls : S.d.liveSet s = some rs)
    (hsets : (DynRoots.next S.d op).sets = S.d.sets.set s { rs with slots := sl })
    (himg : ∀ i : Nat, image sl.slots[i]? = if i = idx then v else image rs.slots.slots[i]?)
    (hlen : sl.slots.length ≤ max rs.slots.slots.length (idx + 1)) (hidx : idx < l.cap)
    (hkeep : ∀ y, KeepAt y S.a.ctx c) (nctx : (S.a.run ops).ctx = Arena.setSlot c l.id idx v)
    (nroot : (S.a.run ops).root = S.a.root) (nalive : (S.a.run ops).alive = true) :
    Live n ((S.doA ops).doD op) := by
  obtain ⟨hsl, _⟩ := DynRoots.liveSet_eq_some.1 hls
  -- the arena after the recolouring, before the store
  let am : Arena := { S.a with ctx := c }
  have ham : ∀ l' ss', Holds S.a l' ss' → Holds am l' ss' := fun l' ss' h' => h'.keep rfl (hkeep _)
  refine ⟨hc.doA_run _, hc.doD_run _, nalive, ?_, hc.distinct, ?_⟩
  · show S.loc.length = (DynRoots.next S.d op).sets.length
    rw [hsets, List.length_set]; exact hc.len
  intro s' l' rs' hl' hs'
  change S.loc[s']? = some l' at hl'
  change (DynRoots.next S.d op).sets[s']? = some rs' at hs'
  rw [hsets] at hs'
  obtain ⟨rs0, hrs0, _, hlen0, himg0⟩ := sets_set_img hls himg s' rs' hs'
  obtain ⟨hh0, hle0⟩ := hc.sets s' l' rs0 hl' hrs0
  show Holds (S.a.run ops) l' _ ∧ _
  by_cases he : s' = s
  · subst he
    rw [hl] at hl'; cases hl'
    rw [hsl] at hrs0; cases hrs0
    rw [if_pos rfl] at hlen0
    refine ⟨?_, by omega⟩
    rw [mirror_update (tbl := rs.slots.slots) (idx := idx) (v := v) (fun i => by rw [himg0 i]; simp)]
    exact (ham _ _ hh0).setSlot_self idx _ nroot nctx
  · rw [if_neg he] at hlen0
    refine ⟨?_, by omega⟩
    rw [mirror_congr (tbl := rs0.slots.slots) (fun i => by rw [himg0 i]; simp [he])]
    have hne : l'.id ≠ l.id := fun e => he (hc.distinct s' s l' l hl' hl e)
    exact (ham _ _ hh0).setSlot_other hne idx _ nroot nctx

theorem Live.stash {n : Nat} {S : Sys} (hc : Live n S) {s r idx : Nat} {l : SetLoc}
    {rs : RootSet} {sl : Slots} (hl : S.loc[s]? = some l) (hls : S.d.liveSet s = some rs)
    (ha : rs.slots.add r = .ok (sl, idx)) (hcb : S.a.cb ≠ none) (hr : S.a.holds (.strong r) = true)
    (hidx : idx < l.cap) : Live n ((S.doA (stashOps l r idx)).doD (.stash s r)) := by
  obtain ⟨hh, _⟩ := hc.sets s l rs hl (DynRoots.liveSet_eq_some.1 hls).1
  obtain ⟨t, e, _⟩ := stash_net hc.alive hcb hh hr (by rw [mirror_length]; exact hidx)
  exact hc.setTable hl hls (by rw [next_stash_eq hls ha]) (add_spec ha).1 (add_spec ha).2 hidx
    (keepAt_backwardBarrier _ _ _) (by rw [e]) (by rw [e]) (by rw [e]; exact hc.alive)

theorem Live.dropVacating {n : Nat} {S : Sys} (hc : Live n S) {h : Handle} {l : SetLoc}
    {rs : RootSet} {r : Nat} (hm : h ∈ S.d.handles) (hl : S.loc[h.set]? = some l)
    (hls : S.d.liveSet h.set = some rs) (hv : rs.slots.slots[h.index]? = some (.occupied r 0)) :
    Live n ((S.doA (clearOps S.a l h.index)).doD (.dropHandle h)) := by
  obtain ⟨hh, hle⟩ := hc.sets h.set l rs hl (DynRoots.liveSet_eq_some.1 hls).1
  have hlt : h.index < rs.slots.slots.length := DynRoots.lt_of_getElem?_some hv
  have hidx : h.index < l.cap := Nat.lt_of_lt_of_le hlt hle
  obtain ⟨nctx, nroot, nalive⟩ := clear_fields hc.inv hh (i := h.index) (by rw [mirror_length]; exact hidx)
  exact hc.setTable hl hls (by rw [next_drop_eq hm hls hv]) (image_set hlt _)
    (by rw [List.length_set]; exact Nat.le_max_left _ _) hidx (fun y => KeepAt.refl y _) nctx nroot nalive

theorem fetchOps_allowed (S : Sys) (l : SetLoc) (h : Handle) :
    ∀ op ∈ fetchOps l h, S.allowed op = true := by
  intro op hop
  simp [fetchOps] at hop
  rcases hop with rfl | rfl <;> rfl

theorem Live.fetchLike {n : Nat} {S : Sys} (hc : Live n S) (s : Nat) (h : Handle)
    (dop : DynRoots.Op) (hdop : DynRoots.next S.d dop = S.d) : Live n (S.fetchLike s h dop) := by
  have same : ∀ {S' : Sys}, Live n S' → S'.d = S.d → Live n (S'.doD dop) := by
    intro S' hc' hd
    apply hc'.doD_same
    rw [hd, hdop]; exact SameTables.refl _
  unfold Sys.fetchLike
  split
  · split
    · exact same (hc.gcs _ (fetchOps_allowed S _ h)) rfl
    · exact same hc rfl
  · exact same hc rfl

theorem Live.step {n : Nat} {S : Sys} (hc : Live n S) (op : COp) (hne : op ≠ .dropArena) :
    Live n (S.step op) := by
  cases op with
  | dropArena => exact absurd rfl hne
  | newSet k cap =>
    simp only [Sys.step]
    split
    · rename_i hg
      simp only [Bool.and_eq_true, decide_eq_true_eq, Bool.not_eq_true', List.contains_eq_mem,
        decide_eq_false_iff_not] at hg
      exact hc.newSet cap hg.1.1.2 hg.1.2 hg.2
    · exact hc
  | stash s r =>
    simp only [Sys.step]
    split
    · rename_i l rs hl hls
      split
      · rename_i sl idx ha
        split
        · rename_i hg
          simp only [Bool.and_eq_true, decide_eq_true_eq] at hg
          have hcb : S.a.cb ≠ none := by
            intro e; rw [e] at hg; simp at hg
          exact hc.stash hl hls ha hcb hg.1.2 hg.2
        · exact hc
      · exact hc
    · exact hc
  | clone h => exact hc.doD_same _ (next_clone_same _ _)
  | dropHandle h =>
    simp only [Sys.step]
    split
    · rename_i hm
      have nonvac : ∀ (hnv : ¬ Vacates S.d h), Live n (S.doD (.dropHandle h)) :=
        fun hnv => hc.doD_same _ (next_drop_same _ _ hnv)
      split
      · rename_i l rs hl hls
        split
        · rename_i r hv
          exact hc.dropVacating hm hl hls hv
        · rename_i hnv
          apply nonvac
          rintro ⟨_, rs', r', hls', hv'⟩
          rw [hls] at hls'; cases hls'
          exact hnv r' hv'
      · rename_i hnone
        apply nonvac
        rintro ⟨_, rs', r', hls', hv'⟩
        obtain ⟨l, hl⟩ := hc.loc_of_set (DynRoots.liveSet_eq_some.1 hls').1
        exact hnone _ _ hl hls'
    · exact hc
  | fetch s h => exact hc.fetchLike s h _ (DynRoots.next_fetch _ _ _)
  | tryFetch s h => exact hc.fetchLike s h _ (DynRoots.next_tryFetch _ _ _)
  | contains s h =>
    apply hc.doD_same
    rw [DynRoots.next_contains]; exact SameTables.refl _
  | gc op =>
    simp only [Sys.step]
    split
    · rename_i hal; exact hc.gc hal
    · exact hc

theorem Sys.doDs_spec (ops : List DynRoots.Op) : ∀ S : Sys,
    (S.doDs ops).a = S.a ∧ (S.doDs ops).loc = S.loc ∧ (S.doDs ops).aops = S.aops ∧
    (S.doDs ops).d = DynRoots.run S.d ops ∧ (S.doDs ops).dops = S.dops ++ ops := by
  induction ops with
  | nil => intro S; simp [Sys.doDs, DynRoots.run]
  | cons op ops ih =>
    intro S
    obtain ⟨h1, h2, h3, h4, h5⟩ := ih (S.doD op)
    refine ⟨h1, h2, h3, ?_, ?_⟩
    · exact h4
    · show ((S.doD op).doDs ops).dops = _
      rw [h5]; simp [Sys.doD]

theorem run_destroyOps (d : State) :
    (DynRoots.run d (destroyOps d.sets.length)).sets.length = d.sets.length ∧
    ∀ s, (DynRoots.run d (destroyOps d.sets.length)).liveSet s = none := by
  obtain ⟨h1, _, h3⟩ := run_destroy (List.range d.sets.length) d
  refine ⟨h1, fun s => (h3 s).trans ?_⟩
  split
  · rfl
  · exact liveSet_of_ge (Nat.le_of_not_lt (fun h => ‹s ∉ _› (List.mem_range.2 h)))

/-- The coupling relation once the arena has been dropped: no set is alive (so handle clones and
drops no longer touch any table: `C14.outlive`). -/
structure Dead (n : Nat) (S : Sys) : Prop where
  arena : S.a = (Arena.new n).run S.aops
  dyn : S.d = DynRoots.run State.init S.dops
  len : S.loc.length = S.d.sets.length
  distinct : ∀ (s s' : Nat) (l l' : SetLoc), S.loc[s]? = some l → S.loc[s']? = some l' → l.id = l'.id → s = s'
  dead : S.a.alive = false
  sets : ∀ s, S.d.liveSet s = none

theorem Live.dropArena {n : Nat} {S : Sys} (hc : Live n S) (hcb : S.a.cb = none) :
    Dead n ((S.doA [.dropArena]).doDs (destroyOps S.d.sets.length)) := by
  obtain ⟨s1, s2, s3, s4, s5⟩ := (S.doA [.dropArena]).doDs_spec (destroyOps S.d.sets.length)
  obtain ⟨r1, r2⟩ := run_destroyOps S.d
  refine ⟨?_, ?_, ?_, ?_, ?_, ?_⟩
  · rw [s1, s3]; exact hc.doA_run _
  · rw [s4, s5]
    show DynRoots.run S.d _ = DynRoots.run State.init (S.dops ++ _)
    rw [DynRoots.run_append, ← hc.dyn]
  · rw [s2, s4]
    show S.loc.length = (DynRoots.run S.d _).sets.length
    rw [r1]; exact hc.len
  · rw [s2]; exact hc.distinct
  · rw [s1]
    rcases step_dropArena hc.alive with ⟨hne, _⟩ | ⟨_, e⟩
    · exact absurd hcb hne
    · show (S.a.step .dropArena).1.alive = false
      rw [e]
  · rw [s4]; exact r2

theorem Dead.doA {n : Nat} {S : Sys} (hd : Dead n S) (ops : List Op) : Dead n (S.doA ops) := by
  refine ⟨?_, hd.dyn, hd.len, hd.distinct, ?_, hd.sets⟩
  · show S.a.run ops = (Arena.new n).run (S.aops ++ ops)
    rw [Arena.run_append, ← hd.arena]
  · show (S.a.run ops).alive = false
    rw [run_dead hd.dead]; exact hd.dead

theorem Dead.doD {n : Nat} {S : Sys} (hd : Dead n S) (op : DynRoots.Op)
    (hT : SameTables S.d (DynRoots.next S.d op)) : Dead n (S.doD op) := by
  refine ⟨hd.arena, ?_, hd.len.trans hT.1.symm, hd.distinct, hd.dead, ?_⟩
  · show DynRoots.next S.d op = DynRoots.run State.init (S.dops ++ [op])
    rw [dyn_run_snoc, ← hd.dyn]
  · intro s
    apply DynRoots.liveSet_eq_none.2
    intro rs' hs
    obtain ⟨rs, hrs, ha, _⟩ := hT.2 s rs' hs
    rw [ha]; exact DynRoots.liveSet_eq_none.1 (hd.sets s) rs hrs

/-- Once the arena is gone, every coupled operation keeps it that way: collector-model ops are
refused, handle clones and drops only add / remove handles. -/
theorem Dead.step {n : Nat} {S : Sys} (hd : Dead n S) (op : COp) : Dead n (S.step op) := by
  have hal : S.a.alive = false := hd.dead
  -- without an arena `fetch` / `try_fetch` have no collector side
  have fetchLike : ∀ (s : Nat) (h : Handle) (dop : DynRoots.Op), DynRoots.next S.d dop = S.d →
      Dead n (S.fetchLike s h dop) := by
    intro s h dop hq
    have : S.fetchLike s h dop = S.doD dop := by unfold Sys.fetchLike; split <;> simp [hal]
    rw [this]
    exact hd.doD _ (by rw [hq]; exact SameTables.refl _)
  cases op with
  | newSet k cap => simp [Sys.step, hal]; exact hd
  | stash s r =>
    simp only [Sys.step]
    split
    · rename_i l rs hl hls
      rw [hd.sets s] at hls; cases hls
    · exact hd
  | clone h => exact hd.doD _ (next_clone_same _ _)
  | dropHandle h =>
    simp only [Sys.step]
    have nv : ¬ Vacates S.d h := by
      rintro ⟨_, rs, r, hls, _⟩
      rw [hd.sets h.set] at hls; cases hls
    split
    · split
      · rename_i l rs hl hls
        rw [hd.sets h.set] at hls; cases hls
      · exact hd.doD _ (next_drop_same _ _ nv)
    · exact hd
  | fetch s h => exact fetchLike s h _ (DynRoots.next_fetch _ _ _)
  | tryFetch s h => exact fetchLike s h _ (DynRoots.next_tryFetch _ _ _)
  | contains s h =>
    apply hd.doD
    rw [DynRoots.next_contains]; exact SameTables.refl _
  | gc op =>
    simp only [Sys.step]
    split
    · exact hd.doA _
    · exact hd
  | dropArena => simp [Sys.step, hal]; exact hd

/-- **The coupling relation.**  Both sides are runs of the two existing models from their initial
states; there is one `SetLoc` per set, with pairwise different set objects; **while the arena
exists** every set's object is held by its root slot, allocated, undestructed, traced, and mirrors
the set's slot table slot by slot (`Holds … (mirror cap table)`), the table having at most `cap`
slots; **once the arena has been dropped** no set is alive. -/
structure Coupled (n : Nat) (S : Sys) : Prop where
  arena : S.a = (Arena.new n).run S.aops
  dyn : S.d = DynRoots.run State.init S.dops
  len : S.loc.length = S.d.sets.length
  distinct : ∀ (s s' : Nat) (l l' : SetLoc), S.loc[s]? = some l → S.loc[s']? = some l' → l.id = l'.id → s = s'
  sets : S.a.alive = true → ∀ (s : Nat) (l : SetLoc) (rs : RootSet), S.loc[s]? = some l →
    S.d.sets[s]? = some rs → Holds S.a l (mirror l.cap rs.slots.slots) ∧ rs.slots.slots.length ≤ l.cap
  dead : S.a.alive = false → ∀ s, S.d.liveSet s = none

theorem Live.coupled {n : Nat} {S : Sys} (h : Live n S) : Coupled n S :=
  ⟨h.arena, h.dyn, h.len, h.distinct, fun _ => h.sets, fun hd => (by rw [h.alive] at hd; cases hd)⟩

theorem Dead.coupled {n : Nat} {S : Sys} (h : Dead n S) : Coupled n S :=
  ⟨h.arena, h.dyn, h.len, h.distinct, fun ha => (by rw [h.dead] at ha; cases ha), fun _ => h.sets⟩

theorem Coupled.live {n : Nat} {S : Sys} (h : Coupled n S) (ha : S.a.alive = true) : Live n S :=
  ⟨h.arena, h.dyn, ha, h.len, h.distinct, h.sets ha⟩

theorem Coupled.dead' {n : Nat} {S : Sys} (h : Coupled n S) (ha : S.a.alive = false) : Dead n S :=
  ⟨h.arena, h.dyn, h.len, h.distinct, ha, h.dead ha⟩

/-- An alive set witnesses that the arena still exists. -/
theorem Coupled.live_of_liveSet {n : Nat} {S : Sys} (h : Coupled n S) {s : Nat} {rs : RootSet}
    (hl : S.d.liveSet s = some rs) : Live n S := by
  cases ha : S.a.alive with
  | true => exact h.live ha
  | false => rw [h.dead ha s] at hl; cases hl

theorem Coupled.init (n : Nat) : Coupled n (Sys.init n) := (Live.init n).coupled

theorem Coupled.step {n : Nat} {S : Sys} (hc : Coupled n S) (op : COp) : Coupled n (S.step op) := by
  cases ha : S.a.alive with
  | false => exact ((hc.dead' ha).step op).coupled
  | true =>
    have hl := hc.live ha
    by_cases hop : op = .dropArena
    · subst hop
      simp only [Sys.step]
      split
      · rename_i hg
        simp only [Bool.and_eq_true, Option.isNone_iff_eq_none] at hg
        exact (hl.dropArena hg.2).coupled
      · exact hc
    · exact (hl.step op hop).coupled

theorem Coupled.run {n : Nat} (ops : List COp) : ∀ {S : Sys}, Coupled n S → Coupled n (S.run ops) := by
  induction ops with
  | nil => intro S hc; exact hc
  | cons op ops ih => intro S hc; exact ih (hc.step op)

/-- `arena.finish_cycle()` as a coupled op. -/
def fc : COp := .gc (.collect .finishCycle .drop none none)

end GcArena.DynCompose
