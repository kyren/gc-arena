import GcArena.Proofs.Quiet
/-!
  The log invariant: over any history no value is destructed twice, no block released twice, a
  release follows the destruction, `is_dropped` (the cleared `live` flag) is exact, and every id
  ever allocated is either still allocated or logged as released.
-/
namespace GcArena

/-- `bound`: ids are never reused, so everything the log speaks of lies below the allocation
    counter and an event about `i` is about the one allocation `i`.  `goneFreed` (the converse of
    `freedGone`): no block leaves the heap without a `freed` event. -/
structure LInv (c : Ctx) : Prop where
  nodup : c.log.Nodup
  droppedDead : ∀ i, Event.dropped i ∈ c.log → ∀ o, c.heap.get i = some o → o.live = false
  deadDropped : ∀ i o, c.heap.get i = some o → o.live = false → Event.dropped i ∈ c.log
  freedGone : ∀ i, Event.freed i ∈ c.log → c.heap.get i = none
  freedDropped : ∀ i, Event.freed i ∈ c.log → Event.dropped i ∈ c.log
  bound : ∀ e, e ∈ c.log → e.target < c.heap.size
  goneFreed : ∀ i, i < c.heap.size → c.heap.get i = none → Event.freed i ∈ c.log

theorem linv_new : LInv Ctx.new := by
  constructor <;> simp [Ctx.new, Heap.size]
  all_goals simp [Heap.empty]

/-- Transfer along a step that emits nothing and keeps allocations and liveness (no phase
    condition: used for the phase switches too). -/
theorem LInv.still {c c' : Ctx} (h : LInv c) (hlog : c'.log = c.log)
    (keep : ∀ i o, c.heap.get i = some o → ∃ o', c'.heap.get i = some o' ∧ o'.live = o.live)
    (sizeLe : c.heap.size ≤ c'.heap.size)
    (noNew : ∀ i o', c'.heap.get i = some o' →
      (∃ o, c.heap.get i = some o) ∨ (c.heap.size ≤ i ∧ o'.live = true))
    (noGap : ∀ i, c.heap.size ≤ i → i < c'.heap.size → ∃ o', c'.heap.get i = some o') : LInv c' := by
  constructor
  · rw [hlog]; exact h.nodup
  · intro i hi o' ho'
    rw [hlog] at hi
    rcases noNew i o' ho' with ⟨o, ho⟩ | ⟨hsz, _⟩
    · obtain ⟨o2, ho2, hl2⟩ := keep i o ho
      rw [ho'] at ho2; cases ho2
      rw [hl2]; exact h.droppedDead i hi o ho
    · exact absurd (h.bound _ hi) (Nat.not_lt.mpr hsz)
  · intro i o' ho' hl'
    rw [hlog]
    rcases noNew i o' ho' with ⟨o, ho⟩ | ⟨_, hl⟩
    · obtain ⟨o2, ho2, hl2⟩ := keep i o ho
      rw [ho'] at ho2; cases ho2
      exact h.deadDropped i o ho (by rw [← hl2]; exact hl')
    · rw [hl] at hl'; cases hl'
  · intro i hi
    rw [hlog] at hi
    cases hg : c'.heap.get i with
    | none => rfl
    | some o' =>
      rcases noNew i o' hg with ⟨o, ho⟩ | ⟨hsz, _⟩
      · rw [h.freedGone i hi] at ho; cases ho
      · exact absurd (h.bound _ hi) (Nat.not_lt.mpr hsz)
  · intro i hi; rw [hlog] at hi ⊢; exact h.freedDropped i hi
  · intro e he; rw [hlog] at he; exact Nat.lt_of_lt_of_le (h.bound e he) sizeLe
  · intro i hi hg
    rw [hlog]
    by_cases hlt : i < c.heap.size
    · apply h.goneFreed i hlt
      cases hc : c.heap.get i with
      | none => rfl
      | some o =>
        obtain ⟨o', ho', _⟩ := keep i o hc
        rw [hg] at ho'; cases ho'
    · obtain ⟨o', ho'⟩ := noGap i (Nat.le_of_not_lt hlt) hi
      rw [hg] at ho'; cases ho'

theorem LInv.quiet {c c' : Ctx} (h : LInv c) (q : Quiet c c') : LInv c' :=
  h.still q.log q.keep q.sizeLe q.noNew q.noGap

theorem LInv.sameHeap {c c' : Ctx} (h : LInv c) (hh : c'.heap = c.heap) (hlog : c'.log = c.log) : LInv c' :=
  h.still hlog (fun i o ho => ⟨o, by rw [hh]; exact ho, rfl⟩) (by rw [hh]; exact Nat.le_refl _)
    (fun i o' ho' => Or.inl ⟨o', by rw [← hh]; exact ho'⟩) (fun i h1 h2 => by rw [hh] at h2; omega)

/-- A step that logs events about the one allocated object `i` only and writes no other cell: what
    the invariant says of the other ids carries over, what it says of `i` is to be shown. -/
theorem LInv.ofLocal {c c' : Ctx} (h : LInv c) {i : Nat} (hi : i < c.heap.size) {evs : List Event}
    (hlog : c'.log = evs ++ c.log) (htgt : ∀ e, e ∈ evs → e.target = i)
    (hget : ∀ j, j ≠ i → c'.heap.get j = c.heap.get j) (hsz : c'.heap.size = c.heap.size)
    (nodup : c'.log.Nodup)
    (droppedDead : Event.dropped i ∈ c'.log → ∀ o, c'.heap.get i = some o → o.live = false)
    (deadDropped : ∀ o, c'.heap.get i = some o → o.live = false → Event.dropped i ∈ c'.log)
    (freedGone : Event.freed i ∈ c'.log → c'.heap.get i = none)
    (freedDropped : Event.freed i ∈ c'.log → Event.dropped i ∈ c'.log)
    (goneFreed : c'.heap.get i = none → Event.freed i ∈ c'.log) : LInv c' := by
  have old : ∀ e : Event, e.target ≠ i → (e ∈ c'.log ↔ e ∈ c.log) := fun e hne => by
    rw [hlog, List.mem_append]
    exact ⟨fun hm => hm.resolve_left (fun he => hne (htgt e he)), Or.inr⟩
  refine ⟨nodup, fun j hj oj hoj => ?_, fun j oj hoj hl => ?_, fun j hj => ?_, fun j hj => ?_,
    fun e he => ?_, fun j hj hg => ?_⟩
  · by_cases hji : j = i
    · subst hji; exact droppedDead hj oj hoj
    · rw [hget j hji] at hoj; exact h.droppedDead j ((old (.dropped j) hji).mp hj) oj hoj
  · by_cases hji : j = i
    · subst hji; exact deadDropped oj hoj hl
    · rw [hget j hji] at hoj; exact (old (.dropped j) hji).mpr (h.deadDropped j oj hoj hl)
  · by_cases hji : j = i
    · subst hji; exact freedGone hj
    · rw [hget j hji]; exact h.freedGone j ((old (.freed j) hji).mp hj)
  · by_cases hji : j = i
    · subst hji; exact freedDropped hj
    · exact (old (.dropped j) hji).mpr (h.freedDropped j ((old (.freed j) hji).mp hj))
  · rw [hsz]
    by_cases hei : e.target = i
    · rw [hei]; exact hi
    · exact h.bound e ((old e hei).mp he)
  · by_cases hji : j = i
    · subst hji; exact goneFreed hg
    · rw [hget j hji] at hg; rw [hsz] at hj
      exact (old (.freed j) hji).mpr (h.goneFreed j hj hg)

/-- Destruct (if still live) and release object `i`. -/
theorem LInv.release {c c' : Ctx} (h : LInv c) {i : Nat} {o : Obj} (ho : c.heap.get i = some o)
    (hlog : c'.log = Event.freed i :: ((if o.live then [Event.dropped i] else []) ++ c.log))
    (hget : ∀ j, c'.heap.get j = if j = i then none else c.heap.get j)
    (hsz : c'.heap.size = c.heap.size) : LInv c' := by
  have hnf : Event.freed i ∉ c.log := fun hm => by rw [h.freedGone i hm] at ho; cases ho
  have hnd : o.live = true → Event.dropped i ∉ c.log := fun hl hm => by
    have := h.droppedDead i hm o ho; rw [hl] at this; cases this
  have hgi : c'.heap.get i = none := by rw [hget, if_pos rfl]
  refine h.ofLocal (Heap.lt_size_of_get _ _ _ ho)
    (evs := .freed i :: (if o.live then [.dropped i] else [])) hlog
    (by cases o.live <;> simp [Event.target]) (fun j hj => by rw [hget, if_neg hj]) hsz ?_
    (fun _ oi hoi => by rw [hgi] at hoi; cases hoi) (fun oi hoi => by rw [hgi] at hoi; cases hoi)
    (fun _ => hgi) (fun _ => ?_) (fun _ => by rw [hlog]; exact List.mem_cons_self)
  · rw [hlog]
    cases hl : o.live with
    | false => simpa [hnf] using h.nodup
    | true => simpa [hnf, hnd hl] using h.nodup
  · -- logged now if `o` was live, earlier if not
    rw [hlog]
    cases hl : o.live with
    | true => simp
    | false => simpa using h.deadDropped i o ho hl

/-- Destruct a live value but keep its block (the white-weak arm of `sweep_one`). -/
theorem LInv.shell {c c' : Ctx} (h : LInv c) {i : Nat} {o o' : Obj} (ho : c.heap.get i = some o)
    (hl : o.live = true) (hl' : o'.live = false)
    (hlog : c'.log = Event.dropped i :: c.log)
    (hget : ∀ j, c'.heap.get j = if j = i then some o' else c.heap.get j)
    (hsz : c'.heap.size = c.heap.size) : LInv c' := by
  have hnf : Event.freed i ∉ c.log := fun hm => by rw [h.freedGone i hm] at ho; cases ho
  have hnd : Event.dropped i ∉ c.log := fun hm => by
    have := h.droppedDead i hm o ho; rw [hl] at this; cases this
  have hgi : c'.heap.get i = some o' := by rw [hget, if_pos rfl]
  have hd : Event.dropped i ∈ c'.log := by rw [hlog]; exact List.mem_cons_self
  refine h.ofLocal (Heap.lt_size_of_get _ _ _ ho) (evs := [.dropped i]) hlog
    (by simp [Event.target]) (fun j hj => by rw [hget, if_neg hj]) hsz
    (by rw [hlog]; exact List.nodup_cons.mpr ⟨hnd, h.nodup⟩)
    (fun _ oi hoi => by rw [hgi] at hoi; cases hoi; exact hl') (fun _ _ _ => hd)
    (fun hm => ?_) (fun _ => hd) (fun hg => by rw [hgi] at hg; cases hg)
  rw [hlog] at hm
  rcases List.mem_cons.mp hm with hm | hm
  · cases hm
  · exact absurd hm hnf

/-- Replace object `i` by one with the same `live` flag. -/
theorem LInv.recolor {c c' : Ctx} (h : LInv c) {i : Nat} {o o' : Obj} (ho : c.heap.get i = some o)
    (hl : o'.live = o.live) (hlog : c'.log = c.log)
    (hget : ∀ j, c'.heap.get j = if j = i then some o' else c.heap.get j)
    (hsz : c'.heap.size = c.heap.size) : LInv c' := by
  refine h.still hlog (fun j oj hoj => ?_) (Nat.le_of_eq hsz.symm) (fun j oj' hoj' => .inl ?_)
    (fun j h1 h2 => by omega)
  · by_cases hj : j = i
    · subst hj; rw [ho] at hoj; cases hoj
      exact ⟨o', by rw [hget, if_pos rfl], hl⟩
    · exact ⟨oj, by rw [hget, if_neg hj]; exact hoj, rfl⟩
  · by_cases hj : j = i
    · exact ⟨o, hj ▸ ho⟩
    · rw [hget, if_neg hj] at hoj'; exact ⟨oj', hoj'⟩

theorem LInv.sweepOne {c : Ctx} {root temps} (h : LInv c) (hc : CInv c root temps) :
    LInv c.sweepOne.1 := by
  cases hr : c.rest with
  | nil => rw [sweepOne_end hr]; exact h.sameHeap rfl rfl
  | cons i r =>
    obtain ⟨o, ho⟩ := (hc.memAll i).mp (by rw [hr]; simp)
    obtain ⟨hlog, hget, hsz, _⟩ := sweepOne_at hr ho
    unfold sweptEvents at hlog
    unfold sweptCell at hget
    cases hcol : o.color with
    | gray => rw [hcol] at hlog hget; exact h.recolor ho rfl hlog hget hsz
    | black => rw [hcol] at hlog hget; exact h.recolor ho (o' := { o with color := .white }) rfl hlog hget hsz
    | white => rw [hcol] at hlog hget; exact h.release ho hlog hget hsz
    | whiteWeak =>
      rw [hcol] at hlog hget
      cases hl : o.live with
      | false =>
        rw [hl] at hlog hget
        exact h.recolor ho (o' := { o with color := .white, live := false }) hl.symm hlog hget hsz
      | true =>
        rw [hl] at hlog hget
        exact h.shell ho hl (o' := { o with color := .white, live := false, slots := [] }) rfl hlog hget hsz

end GcArena
