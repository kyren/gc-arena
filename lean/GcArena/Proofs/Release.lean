import GcArena.Proofs.SlotFrame
/-!
  Completeness of reclamation over arbitrary histories.

  `Exposed K c root temps t`: some chain of pointers satisfying `K` leads to `t` from the root, from a
  pointer the running callback holds, or from an object that is already gray or black.  With every
  pointer admitted — strong or weak alike — this bounds what the client can ever name again (a weak
  pointer to an undestructed object can be upgraded outside the sweep phase, or resurrected by a
  finalizer); with the `Gc` pointers alone it is what the marker may still trace in this cycle
  (Proofs/ShellRun).

  A white object to which no pointer sits in the root, in the callback's hands or in an exposed
  object stays exactly as it is under every collector step, and the sweep of the cycle releases it.
  With every pointer admitted the same holds under *every* API operation: when the cycle completes
  (`'Z'` in the step log) its block has been freed — whatever callbacks and collection calls were
  interleaved.
-/
namespace GcArena

/-- `Gc` pointers, as opposed to `GcWeak`. -/
def Ptr.IsGc : Ptr → Prop
  | .strong _ => True
  | .weak _ => False

theorem Ptr.IsGc.eq {p : Ptr} (h : p.IsGc) : p = .strong p.target := by
  cases p with
  | strong _ => rfl
  | weak _ => exact h.elim

inductive Exposed (K : Ptr → Prop) (c : Ctx) (root : List Slot) (temps : List Ptr) : Nat → Prop
  | root (p : Ptr) : K p → some p ∈ root → Exposed K c root temps p.target
  | temp (p : Ptr) : K p → p ∈ temps → Exposed K c root temps p.target
  | marked (j : Nat) (o : Obj) : c.heap.get j = some o → (o.color = .gray ∨ o.color = .black) →
      Exposed K c root temps j
  | edge (j : Nat) (o : Obj) (p : Ptr) : K p → Exposed K c root temps j → c.heap.get j = some o →
      some p ∈ o.slots → Exposed K c root temps p.target

/-- A pointer of either kind to `i` sits where tracing or a barrier can find it. -/
def Touchable (K : Ptr → Prop) (c : Ctx) (root : List Slot) (temps : List Ptr) (i : Nat) : Prop :=
  ∃ p : Ptr, p.target = i ∧ (some p ∈ root ∨ p ∈ temps ∨
    ∃ j o, Exposed K c root temps j ∧ c.heap.get j = some o ∧ some p ∈ o.slots)

/-- A chain that ends at a white object ends with a pointer. -/
theorem Exposed.touchable {K} {c : Ctx} {root temps} {i : Nat} {o : Obj} (h : Exposed K c root temps i)
    (ho : c.heap.get i = some o) (hw : o.color = .white) : Touchable K c root temps i := by
  cases h with
  | root p _ hp => exact ⟨p, rfl, .inl hp⟩
  | temp p _ hp => exact ⟨p, rfl, .inr (.inl hp)⟩
  | marked _ o' ho' hc => rw [ho] at ho'; cases ho'; exact (Color.dead_not_marked (.inl hw) hc).elim
  | edge j oj p _ hj hoj hs => exact ⟨p, rfl, .inr (.inr ⟨j, oj, hj, hoj, hs⟩)⟩

theorem Touchable.exposed {c : Ctx} {root temps} {i : Nat} (h : Touchable (fun _ => True) c root temps i) :
    Exposed (fun _ => True) c root temps i := by
  obtain ⟨p, rfl, hp | hp | ⟨j, o, hj, ho, hs⟩⟩ := h
  · exact .root p trivial hp
  · exact .temp p trivial hp
  · exact .edge j o p trivial hj ho hs

/-- Some chain of pointers of either kind leads from the root to `t`. -/
inductive Nameable (c : Ctx) (root : List Slot) : Nat → Prop
  | root (p : Ptr) : some p ∈ root → Nameable c root p.target
  | edge (j : Nat) (o : Obj) (p : Ptr) : Nameable c root j → c.heap.get j = some o →
      some p ∈ o.slots → Nameable c root p.target

theorem nameable_of_exposed {K} {c : Ctx} {root} (hw : ∀ j o, c.heap.get j = some o → o.color = .white)
    {t : Nat} (h : Exposed K c root [] t) : Nameable c root t := by
  induction h with
  | root p _ hp => exact .root p hp
  | temp p _ hp => cases hp
  | marked j o ho hc => exact (Color.dead_not_marked (.inl (hw j o ho)) hc).elim
  | edge j o p _ _ ho hs ih => exact .edge j o p ih ho hs

theorem nameable_of_touchable {K} {c : Ctx} {root} (hw : ∀ j o, c.heap.get j = some o → o.color = .white)
    {t : Nat} (h : Touchable K c root [] t) : Nameable c root t := by
  obtain ⟨p, rfl, hp | hp | ⟨j, o, hj, ho, hs⟩⟩ := h
  · exact .root p hp
  · cases hp
  · exact .edge j o p (nameable_of_exposed hw hj) ho hs

theorem nameable_of_strongReach {c : Ctx} {root} {t : Nat} (h : StrongReachC c root t) :
    Nameable c root t :=
  h.closed (S := Nameable c root) (fun t ht => .root (.strong t) ht) (fun _ ht => by cases ht)
    (fun i o t ih ho hs => .edge i o (.strong t) ih ho hs)

/-- Weakly held (by the root or by something strongly reachable) implies nameable; not
    conversely: the holder may itself be reachable only through a weak pointer. -/
theorem nameable_of_weakHeld {c : Ctx} {root} {t : Nat} (h : WeakHeld c root t) : Nameable c root t := by
  rcases h with h | ⟨j, oj, hj, hoj, hs⟩
  · exact .root (.weak t) h
  · exact .edge j oj (.weak t) (nameable_of_strongReach hj) hoj hs

theorem exposed_back {K} {c c' : Ctx} {root temps} (hs : Shrink c c')
    (hm : ∀ j o', c'.heap.get j = some o' → (o'.color = .gray ∨ o'.color = .black) →
      Exposed K c root temps j)
    {t : Nat} (h : Exposed K c' root temps t) : Exposed K c root temps t := by
  induction h with
  | root p hk hp => exact .root p hk hp
  | temp p hk hp => exact .temp p hk hp
  | marked j o' ho' hc => exact hm j o' ho' hc
  | edge j o' p hk _ ho' hsl ih =>
    obtain ⟨o, ho, hsub⟩ := hs j o' ho'
    exact .edge j o p hk ih ho (hsub _ hsl)

theorem touchable_back {K} {c c' : Ctx} {root temps} (hs : Shrink c c')
    (hm : ∀ j o', c'.heap.get j = some o' → (o'.color = .gray ∨ o'.color = .black) →
      Exposed K c root temps j)
    {i : Nat} (h : Touchable K c' root temps i) : Touchable K c root temps i := by
  obtain ⟨p, hp, h⟩ := h
  refine ⟨p, hp, h.imp id (Or.imp id ?_)⟩
  rintro ⟨j, o', hj, ho', hsl⟩
  obtain ⟨o, ho, hsub⟩ := hs j o' ho'
  exact ⟨j, o, exposed_back hs hm hj, ho, hsub _ hsl⟩

/-- Cell `i` holds the white object `o`, no pointer to it sits where marking along `K`-pointers
    could find it, and (while sweeping) the cursor has not reached it yet. -/
def Doomed (K : Ptr → Prop) (c : Ctx) (root : List Slot) (temps : List Ptr) (i : Nat) (o : Obj) : Prop :=
  c.heap.get i = some o ∧ o.color = .white ∧ ¬ Touchable K c root temps i ∧
    (c.phase = .sweep → i ∈ c.rest)

/-- The block has been returned to the allocator (and its id will not be reused). -/
def Released (c : Ctx) (i : Nat) : Prop :=
  c.heap.get i = none ∧ i < c.heap.size ∧ Event.freed i ∈ c.log

/-- What a stretch of execution does for the object in cell `i`: cycles only complete, a released
    block stays released, and if `P` held before then either the block has been released or no
    cycle has completed and `P'` holds now. -/
structure Fate (i : Nat) (P P' : Prop) (c c' : Ctx) : Prop where
  zc : zc c ≤ zc c'
  released : Released c i → Released c' i
  fate : P → Released c' i ∨ (GcArena.zc c' = GcArena.zc c ∧ P')

theorem Fate.refl {i : Nat} {P : Prop} {c : Ctx} : Fate i P P c c :=
  ⟨Nat.le_refl _, id, fun p => .inr ⟨rfl, p⟩⟩

theorem Fate.trans {i : Nat} {P Q R : Prop} {a b c : Ctx} (h1 : Fate i P Q a b) (h2 : Fate i Q R b c) :
    Fate i P R a c := by
  refine ⟨Nat.le_trans h1.zc h2.zc, fun r => h2.released (h1.released r), fun p => ?_⟩
  rcases h1.fate p with r | ⟨hz1, q⟩
  · exact .inl (h2.released r)
  · exact (h2.fate q).imp id (fun ⟨hz2, r⟩ => ⟨hz2.trans hz1, r⟩)

theorem micros_size {root} (ms : List Micro) : ∀ {c c' : Ctx}, c.micros root ms = some c' →
    c'.heap.size = c.heap.size :=
  micros_rel (R := fun c c' => c'.heap.size = c.heap.size) (fun _ => rfl) (fun h1 h2 => h2.trans h1)
    MicroStep.size ms

theorem micro_released {c c' : Ctx} {root} {m : Micro} (h : CInv c root []) (st : MicroStep root c m c')
    {i : Nat} (r : Released c i) : Released c' i := by
  obtain ⟨hn, hlt, hf⟩ := r
  have hm := micro_iff.mpr st
  refine ⟨?_, by rw [st.size]; exact hlt, ?_⟩
  · cases ho' : c'.heap.get i with
    | none => rfl
    | some o' =>
      obtain ⟨o, ho, _⟩ := micro_shrink h st i o' ho'
      rw [hn] at ho; cases ho
  · obtain ⟨evs, hn', _⟩ := micro_events h m hm
    rw [hn']; exact List.mem_append_right _ hf

/-- What `mark_one` marks is exposed, and what it marks weakly had a pointer to it in an exposed
    place. -/
theorem markOne_exposed {K : Ptr → Prop} (hK : ∀ t, K (.strong t)) {c : Ctx} {root temps}
    (h : CInv c root []) (f : Option Nat) :
    TM (Exposed K c root temps)
      (fun t => Touchable K c root temps t ∨ ∃ o, c.heap.get t = some o ∧ o.color = .whiteWeak)
      (c.markOne root f).1 := by
  have t0 : TM (Exposed K c root temps)
      (fun t => Touchable K c root temps t ∨ ∃ o, c.heap.get t = some o ∧ o.color = .whiteWeak) c :=
    fun j o ho => ⟨fun hc => .marked j o ho hc, fun hc => .inr ⟨o, ho, hc⟩⟩
  apply t0.markOne f
  · intro j hj
    obtain ⟨o, ho, hg⟩ := h.qGray j hj
    exact .marked j o ho (.inl hg)
  · intro j o hj ho
    exact ⟨fun x hx => .edge j o (.strong x) (hK x) hj ho hx,
      fun x hx => .inl ⟨.weak x, rfl, .inr (.inr ⟨j, o, hj, ho, hx⟩)⟩⟩
  · exact ⟨fun x hx => .root (.strong x) (hK x) hx, fun x hx => .inl ⟨.weak x, rfl, .inl hx⟩⟩

theorem Obj.eq_of_fields {o o' : Obj} (hc : o'.color = o.color) (hn : o'.needsTrace = o.needsTrace)
    (hl : o'.live = o.live) (hs : o'.slots = o.slots) : o' = o := by
  cases o; cases o'; simp only at hc hn hl hs; subst hc hn hl hs; rfl

theorem sweptCell_marked {o o' : Obj} (h : sweptCell o = some o')
    (hc : o'.color = .gray ∨ o'.color = .black) : o.color = .gray := by
  unfold sweptCell at h
  cases hcol : o.color <;> simp only [hcol] at h
  case gray => rfl
  case white => cases h
  case whiteWeak => cases h; split at hc <;> exact (Color.dead_not_marked (.inl rfl) hc).elim
  case black => cases h; exact (Color.dead_not_marked (.inl rfl) hc).elim

/-- One collector micro-step on a doomed object, provided marking follows at most the `K`-pointers
    (it follows the `Gc` pointers): the object stays doomed, untouched, or the step is the sweep step
    that releases it.  The step is not the `Sweep → Sleep` switch, which needs the cursor at the end
    of the list. -/
theorem micro_fate {K : Ptr → Prop} (hK : ∀ t, K (.strong t)) {c c' : Ctx} {root temps} {m : Micro}
    (h : CInv c root []) (st : MicroStep root c m c') (i : Nat) (o : Obj) :
    Fate i (Doomed K c root temps i o) (Doomed K c' root temps i o) c c' := by
  have hm := micro_iff.mpr st
  refine ⟨(micro_zc m hm).1, micro_released h st, fun d => ?_⟩
  obtain ⟨ho, hw, hne, hsw⟩ := d
  suffices (Released c' i ∨ Doomed K c' root temps i o) ∧ ∀ b, m ≠ .toSleep b from
    this.1.imp id (fun d' => ⟨(micro_zc m hm).2.mpr this.2, d'⟩)
  have same : (∀ j, c'.heap.get j = c.heap.get j) → (c'.phase = .sweep → i ∈ c'.rest) →
      Released c' i ∨ Doomed K c' root temps i o := fun hh hr =>
    .inr ⟨by rw [hh]; exact ho, hw, fun ht => hne (touchable_back (Shrink.ofHeap hh)
      (fun j o' ho' hc => .marked j o' (by rw [← hh]; exact ho') hc) ht), hr⟩
  cases st with
  | wake hp => exact ⟨same (fun _ => rfl) (fun hp' => by cases hp'), fun b hb => by cases hb⟩
  | markBreak hp hg =>
    refine ⟨same (fun _ => rfl) (fun hp' => ?_), fun b hb => by cases hb⟩
    rw [show (c.step 'b').phase = c.phase from rfl, hp] at hp'; cases hp'
  | toSweep hp hg =>
    exact ⟨same (fun _ => rfl) (fun _ => (h.memAll i).mpr ⟨o, ho⟩), fun b hb => by cases hb⟩
  | sweepEnd hp hr => have := hsw hp; rw [hr] at this; cases this
  | toSleep b hp hr => have := hsw hp; rw [hr] at this; cases this
  | markStep f hp hg =>
    refine ⟨?_, fun b hb => by cases hb⟩
    obtain ⟨_, fr⟩ := markOne_spec h hp f
    have tm := markOne_exposed hK (temps := temps) h f
    have hnx : ¬ Exposed K c root temps i := fun hx => hne (hx.touchable ho hw)
    obtain ⟨o', ho'⟩ := (fr.alloc i).mpr ⟨o, ho⟩
    have hw' : o'.color = .white := by
      cases hcol : o'.color with
      | white => rfl
      | gray => exact absurd ((tm i o' ho').1 (.inl hcol)) hnx
      | black => exact absurd ((tm i o' ho').1 (.inr hcol)) hnx
      | whiteWeak =>
        rcases (tm i o' ho').2 hcol with he | ⟨o2, ho2, hc2⟩
        · exact absurd he hne
        · rw [ho] at ho2; cases ho2; rw [hw] at hc2; cases hc2
    obtain ⟨hl, hs, hn⟩ := fr.live i o o' ho ho'
    have e : o' = o := Obj.eq_of_fields (hw'.trans hw.symm) hn hl hs
    exact .inr ⟨e ▸ ho', hw,
      fun ht => hne (touchable_back fr.shrink (fun j oj hoj hc => (tm j oj hoj).1 hc) ht),
      fun hps => by rw [fr.phase, hp] at hps; cases hps⟩
  | sweepStep hp hr =>
    refine ⟨?_, fun b hb => by cases hb⟩
    obtain ⟨x, rest', hrest⟩ := List.exists_cons_of_ne_nil hr
    obtain ⟨ox, hox⟩ := (h.memAll x).mp (by rw [hrest]; simp)
    obtain ⟨hlog, hget, hsz, hr', _⟩ := sweepOne_at hrest hox
    have hmem := hsw hp
    rw [hrest] at hmem
    by_cases hix : i = x
    · subst hix
      rw [ho] at hox; cases hox
      exact .inl ⟨by rw [hget, if_pos rfl, sweptCell, hw], by rw [hsz]; exact Heap.lt_size_of_get _ _ _ ho,
        by rw [hlog, sweptEvents, hw]; simp⟩
    · refine .inr ⟨by rw [hget, if_neg hix]; exact ho, hw,
        fun ht => hne (touchable_back (sweepOne_shrink c) ?_ ht),
        fun _ => by rw [hr']; exact (List.mem_cons.mp hmem).resolve_left hix⟩
      intro j oj hoj hc
      rw [hget] at hoj
      by_cases hjx : j = x
      · -- what the sweep has just passed is white again or gone: while sweeping nothing is gray
        subst hjx
        rw [if_pos rfl] at hoj
        have := h.grayQ j ox hox (sweptCell_marked hoj hc)
        have hq := h.qMark (by rw [hp]; simp)
        rw [hq.1, hq.2] at this; simp at this
      · rw [if_neg hjx] at hoj
        exact .marked j oj hoj hc

theorem exposed_mono_step {op : Op} {a a' : Arena} (m : MutFacts op a a') {t : Nat}
    (h : Exposed (fun _ => True) a'.ctx a'.root a'.temps t) :
    Exposed (fun _ => True) a.ctx a.root a.temps t ∨ a.ctx.heap.size ≤ t := by
  induction h with
  | root p _ hp =>
    rcases m.root p hp with hp | hp
    · exact Or.inl (.root p trivial hp)
    · exact Or.inl (.temp p trivial hp)
  | temp p _ hp =>
    rcases m.temps p hp with hp | ⟨q, hq, hqt⟩ | hp | ⟨j, o, hj, ho, hs⟩ | hp
    · exact Or.inl (.temp p trivial hp)
    · left; rw [← hqt]; exact .temp q trivial hq
    · exact Or.inl (.root p trivial hp)
    · exact Or.inl (.edge j o p trivial (.temp (.strong j) trivial hj) ho hs)
    · exact Or.inr (by rw [hp]; exact Nat.le_refl _)
  | marked j o' ho' hc =>
    cases ho : a.ctx.heap.get j with
    | none =>
      obtain ⟨_, hw, _⟩ := m.fresh j o' ho' ho
      exact (Color.dead_not_marked (.inl hw) hc).elim
    | some o =>
      obtain ⟨o2, ho2, _, _, _, _, hu, _⟩ := m.keep j o ho
      rw [ho'] at ho2; cases ho2
      by_cases hh : Held a j
      · obtain ⟨q, hq, hqt⟩ := hh
        left; rw [← hqt]; exact .temp q trivial hq
      · rw [hu hh] at hc
        exact Or.inl (.marked j o ho hc)
  | edge j o' p _ _ ho' hs ih =>
    cases ho : a.ctx.heap.get j with
    | none =>
      obtain ⟨_, _, _, hsl⟩ := m.fresh j o' ho' ho
      exact Or.inl (.temp p trivial (hsl p hs))
    | some o =>
      have hj : Exposed (fun _ => True) a.ctx a.root a.temps j := by
        rcases ih with ih | ih
        · exact ih
        · have := Heap.lt_size_of_get _ _ _ ho; omega
      obtain ⟨o2, ho2, _, _, _, _, _, sl⟩ := m.keep j o ho
      rw [ho'] at ho2; cases ho2
      rcases sl with sl | ⟨idx, v, _, sl, hv⟩
      · rw [sl] at hs; exact Or.inl (.edge j o p trivial hj ho hs)
      · rw [sl] at hs
        rcases mem_set_slot hs with hs | hs
        · exact Or.inl (.edge j o p trivial hj ho hs)
        · subst hs
          exact Or.inl (.temp p trivial ((holds_iff a p).mp hv))

theorem step_doomed {a : Arena} (h : Inv a) (op : Op) (hop : op.isMutator = true) {i : Nat} {o : Obj}
    (d : Doomed (fun _ => True) a.ctx a.root a.temps i o) :
    Doomed (fun _ => True) (a.step op).1.ctx (a.step op).1.root (a.step op).1.temps i o := by
  have m := step_mutFacts h op hop
  have hph : (a.step op).1.ctx.phase = a.ctx.phase := (step_quiet h op hop).phase
  obtain ⟨ho, hw, hne, hsw⟩ := d
  have hnh : ¬ Held a i := fun ⟨q, hq, hqt⟩ => hne ⟨q, hqt, .inr (.inl hq)⟩
  obtain ⟨o', ho', _, _, _, _, hu, _⟩ := m.keep i o ho
  refine ⟨hu hnh ▸ ho', hw, fun ht => ?_, fun hp => by rw [m.rest]; exact hsw (hph ▸ hp)⟩
  rcases exposed_mono_step m ht.exposed with he | he
  · exact hne (he.touchable ho hw)
  · have := Heap.lt_size_of_get _ _ _ ho; omega

theorem step_released {a : Arena} (h : Inv a) (op : Op) (hop : op.isMutator = true) {i : Nat}
    (r : Released a.ctx i) : Released (a.step op).1.ctx i := by
  have q := step_quiet h op hop
  obtain ⟨hn, hlt, hf⟩ := r
  refine ⟨?_, Nat.lt_of_lt_of_le hlt q.sizeLe, by rw [q.log]; exact hf⟩
  cases ho' : (a.step op).1.ctx.heap.get i with
  | none => rfl
  | some o' =>
    rcases q.noNew i o' ho' with ⟨o, ho⟩ | ⟨hsz, _⟩
    · rw [hn] at ho; cases ho
    · omega

def FateRel (K : Ptr → Prop) (i : Nat) (o : Obj) (a a' : Arena) : Prop :=
  Fate i (Doomed K a.ctx a.root a.temps i o) (Doomed K a'.ctx a'.root a'.temps i o) a.ctx a'.ctx

/-- A mutator operation completes no cycle and releases nothing. -/
theorem fateRel_of_mutator {K} {a : Arena} (h : Inv a) {op : Op} (hop : op.isMutator = true) {i : Nat}
    {o : Obj} (hd : Doomed K a.ctx a.root a.temps i o →
      Doomed K (a.step op).1.ctx (a.step op).1.root (a.step op).1.temps i o) :
    FateRel K i o a (a.step op).1 := by
  have hz : zc (a.step op).1.ctx = zc a.ctx := by unfold zc; rw [(step_mutFacts h op hop).steps]
  exact ⟨Nat.le_of_eq hz.symm, step_released h op hop, fun d => .inr ⟨hz, hd d⟩⟩

theorem CollectRel.fateRel {K : Ptr → Prop} (hK : ∀ t, K (.strong t)) {a a' : Arena} (h : Inv a)
    (rel : CollectRel a a') (i : Nat) (o : Obj) : FateRel K i o a a' := by
  unfold FateRel
  rw [rel.root, rel.temps]
  exact rel.lift
    (R := fun c c' => Fate i (Doomed K c a.root a.temps i o) (Doomed K c' a.root a.temps i o) c c')
    h (fun _ => .refl) .trans (fun h0 st => micro_fate hK h0 st i o)

theorem run_fateRel (i : Nat) (o : Obj) (ops : List Op) {a : Arena} (h : Inv a)
    (hal : (a.run ops).alive = true) : FateRel (fun _ => True) i o a (a.run ops) :=
  run_lift (R := FateRel (fun _ => True) i o) (fun _ => .refl) .trans
    (fun h hop => fateRel_of_mutator h hop (step_doomed h _ hop))
    (fun h rel => rel.fateRel (fun _ => trivial) h i o) ops h hal

/-- **Whatever is white and has no pointer to it in any exposed place is released by the time the
    cycle completes** — under any interleaving of callbacks (with any mutator operations) and
    collection calls. -/
theorem doomed_released_run {a : Arena} (hinv : Inv a) (i : Nat) (o : Obj) (ops : List Op)
    (d : Doomed (fun _ => True) a.ctx a.root a.temps i o) (halive : (a.run ops).alive = true)
    (hz : zc a.ctx < zc (a.run ops).ctx) :
    (a.run ops).ctx.heap.get i = none ∧ Event.freed i ∈ (a.run ops).ctx.log := by
  rcases (run_fateRel i o ops hinv halive).fate d with r | ⟨he, _⟩
  · exact ⟨r.1, r.2.2⟩
  · omega

theorem zc_lt_of_suffix {c c' : Ctx} {new : List Char} (e : c'.steps = new ++ c.steps) (hz : 'Z' ∈ new) :
    zc c < zc c' := by
  unfold zc
  rw [e, List.count_append]
  have := List.count_pos_iff.mpr hz
  omega

end GcArena
