import GcArena.Model.Builder
import GcArena.Proofs.LayoutLemmas
/-!
  Behind `GcArena.Props.C18`: the trace invariant of the builder state
  machine and the behaviour of `run` on the action sequences of the safe API.
-/
namespace GcArena.Builder

open GcArena.Layout

theorem deallocEvents_of_gcAlloc {c : Cfg} {p : Plan}
    (h : gcAlloc c.maxSize c.hdr c.pk c.ptrMeta = some p) :
    deallocEvents c = [.deallocB p.alloc] := by
  unfold deallocEvents
  rw [gcDealloc_of_gcAlloc 0 h]

/-- The arena side is exactly as before the builder was created. -/
def Untouched (g a : Nat) (s : BState) : Prop :=
  s.gcs = g ∧ s.allocated = a ∧ s.onAllList = false ∧ s.live = false

/-- What the event trace and the arena side look like in each stage. -/
def BInv (c : Cfg) (g a : Nat) (s : BState) : Prop :=
  match s.stage with
  | .start => s.events = [] ∧ s.written = [] ∧ Untouched g a s
  | .failed => gcAlloc c.maxSize c.hdr c.pk c.ptrMeta = none ∧ s.events = [.panic] ∧
      s.written = [] ∧ Untouched g a s
  | .new => ∃ p, gcAlloc c.maxSize c.hdr c.pk c.ptrMeta = some p ∧
      s.events = [.allocB p.alloc] ∧ s.written = [] ∧ Untouched g a s
  | .headerWritten => ∃ p, gcAlloc c.maxSize c.hdr c.pk c.ptrMeta = some p ∧
      s.events = [.allocB p.alloc] ∧ s.written = [] ∧ Untouched g a s
  | .elems k => ∃ p, gcAlloc c.maxSize c.hdr c.pk c.ptrMeta = some p ∧
      s.events = [.allocB p.alloc] ∧ s.written.length = k ∧ 1 ≤ k ∧ k ≤ c.n ∧ Untouched g a s
  | .linked => ∃ p, gcAlloc c.maxSize c.hdr c.pk c.ptrMeta = some p ∧
      s.events = [.allocB p.alloc, .link] ∧ s.gcs = g + 1 ∧ s.allocated = a + 1 ∧
      s.onAllList = true ∧ s.live = true
  | .dropped => ∃ p, gcAlloc c.maxSize c.hdr c.pk c.ptrMeta = some p ∧ Untouched g a s ∧
      ∃ (pan : Bool) (init : Option Nat),
        s.events = [.allocB p.alloc] ++ (if pan then [.panic] else []) ++
          (match init with | some k => dropEvents k | none => []) ++ [.deallocB p.alloc] ∧
        (∀ k, init = some k → k = s.written.length ∧ k ≤ c.n)

theorem inv_initial (c : Cfg) (g a : Nat) : BInv c g a (initial g a) := by
  simp [BInv, initial, Untouched]

theorem BInv.pending {c : Cfg} {g a : Nat} {s : BState} (h : BInv c g a s)
    (hs : s.stage = .new ∨ s.stage.initLen.isSome = true) :
    ∃ p, gcAlloc c.maxSize c.hdr c.pk c.ptrMeta = some p ∧ s.events = [.allocB p.alloc] ∧
      Untouched g a s ∧ (s.stage = .new → s.written = []) ∧
      ∀ k, s.stage.initLen = some k → k = s.written.length ∧ k ≤ c.n := by
  unfold BInv at h
  cases hst : s.stage <;> rw [hst] at h hs <;> simp only [Stage.initLen] at h hs ⊢
  case new =>
    obtain ⟨p, hp, he, hw, hu⟩ := h
    exact ⟨p, hp, he, hu, fun _ => hw, nofun⟩
  case headerWritten =>
    obtain ⟨p, hp, he, hw, hu⟩ := h
    exact ⟨p, hp, he, hu, nofun, fun k hk => by cases hk; rw [hw]; exact ⟨rfl, Nat.zero_le _⟩⟩
  case elems k =>
    obtain ⟨p, hp, he, hw, _, h2, hu⟩ := h
    exact ⟨p, hp, he, hu, nofun, fun k' hk => by cases hk; exact ⟨hw.symm, h2⟩⟩
  all_goals simp at hs

theorem BInv.not_dropped {c : Cfg} {g a : Nat} {s : BState} (h : BInv c g a s)
    (hd : s.stage ≠ .dropped) :
    (∀ l, Event.deallocB l ∉ s.events) ∧
      (s.stage ≠ .linked → Event.link ∉ s.events ∧ Untouched g a s) := by
  unfold BInv at h
  cases hs : s.stage <;> rw [hs] at h
  case start => obtain ⟨he, _, hu⟩ := h; simp [he, hu]
  case failed => obtain ⟨_, he, _, hu⟩ := h; simp [he, hu]
  case new => obtain ⟨p, _, he, _, hu⟩ := h; simp [he, hu]
  case headerWritten => obtain ⟨p, _, he, _, hu⟩ := h; simp [he, hu]
  case elems k => obtain ⟨p, _, he, _, _, _, hu⟩ := h; simp [he, hu]
  case linked => obtain ⟨p, _, he, _⟩ := h; simp [he]
  case dropped => exact absurd hs hd

/-- An action that does not apply only sets `stuck`, which `BInv` does not look at. -/
theorem inv_stick {c : Cfg} {g a : Nat} {s : BState} (h : BInv c g a s) : BInv c g a s.stick := h

/-- `assume_init` from any stage that holds a block, with any contents. -/
theorem BInv.link {c : Cfg} {g a : Nat} {s : BState} (h : BInv c g a s) (w : List Nat)
    (hs : s.stage = .new ∨ s.stage.initLen.isSome = true) :
    BInv c g a { s with written := w }.link := by
  obtain ⟨p, hp, he, ⟨h1, h2, _, _⟩, _⟩ := h.pending hs
  exact ⟨p, hp, by rw [he]; rfl, by rw [h1]; rfl, by rw [h2]; rfl, rfl, rfl⟩

/-- Dropping a bare `GcBuilder` (`init = none`, stage `new`) or a slice builder with
    `init_length = k`, by going out of scope or by unwinding. -/
theorem BInv.abandon {c : Cfg} {g a : Nat} {s : BState} (h : BInv c g a s) (init : Option Nat)
    (pan : Bool)
    (hs : match init with | none => s.stage = .new | some k => s.stage.initLen = some k) :
    BInv c g a (s.abandon c init pan) := by
  obtain ⟨p, hp, he, hu, _, hi⟩ := h.pending (by
    cases init with
    | none => exact .inl hs
    | some k => exact .inr (by rw [hs]; rfl))
  unfold BInv BState.abandon
  refine ⟨p, hp, hu, pan, init, ?_, fun k hk => hi k (by subst hk; exact hs)⟩
  cases init <;> simp [he, deallocEvents_of_gcAlloc hp]

theorem inv_step (c : Cfg) (g a : Nat) (s : BState) (act : Action) (h : BInv c g a s) :
    BInv c g a (step c s act) := by
  cases hst : s.stuck
  case true => unfold step; rw [if_pos hst]; exact h
  cases act <;> unfold step <;> simp only [hst, Bool.false_eq_true, if_false]
  case create =>
    split
    · next hs =>
      unfold BInv at h
      rw [hs] at h
      obtain ⟨he, hw, hu⟩ := h
      split
      · next p hg =>
        have hev : s.events ++ [.allocB p.alloc] = [.allocB p.alloc] := by rw [he]; rfl
        split <;> exact ⟨p, hg, hev, hw, hu⟩
      · next hg => exact ⟨hg, by rw [he]; rfl, hw, hu⟩
    · exact inv_stick h
  case writeHeader =>
    split
    · next hs =>
      obtain ⟨p, hp, he, hu, hw, _⟩ := h.pending (.inl hs)
      split
      · exact ⟨p, hp, he, hw hs, hu⟩
      · exact inv_stick h
    · exact inv_stick h
  case writeElem v =>
    split
    · split
      · next k hk =>
        obtain ⟨p, hp, he, hu, _, hi⟩ := h.pending (.inr (by rw [hk]; rfl))
        split
        · next hlt =>
          exact ⟨p, hp, he, by rw [List.length_append, ← (hi k hk).1]; rfl, Nat.le_add_left 1 k,
            hlt, hu⟩
        · exact inv_stick h
      · exact inv_stick h
    · exact inv_stick h
  case ctorPanic =>
    split
    · split
      · next k hk =>
        split
        · exact h.abandon (some k) true hk
        · exact inv_stick h
      · exact inv_stick h
    · exact inv_stick h
  case finish =>
    split
    · split
      · next k hk =>
        split
        · exact h.link s.written (.inr (by rw [hk]; rfl))
        · exact inv_stick h
      · exact inv_stick h
    · exact inv_stick h
  case assumeInit =>
    split
    · next hs =>
      split
      · exact h.link s.written (.inl hs)
      · exact inv_stick h
    · next hs => exact h.link s.written (.inr (by rw [hs]; rfl))
    · exact inv_stick h
  case write v =>
    split
    · next hs =>
      split
      · exact h.link [v] (.inl hs)
      · exact inv_stick h
    · exact inv_stick h
  case copy src =>
    split
    · next hs =>
      split
      · exact h.link src (.inr (by rw [hs]; rfl))
      · exact h.abandon (some 0) true (by rw [hs]; rfl)
    · exact inv_stick h
  case drop =>
    split
    · next hs => exact h.abandon none false hs
    · next hs => exact h.abandon (some 0) false (by rw [hs]; rfl)
    · next k hs => exact h.abandon (some k) false (by rw [hs]; rfl)
    · exact inv_stick h

theorem inv_run (c : Cfg) (g a : Nat) (acts : List Action) (s : BState) (h : BInv c g a s) :
    BInv c g a (run c s acts) := by
  induction acts generalizing s with
  | nil => exact h
  | cons act acts ih => exact ih _ (inv_step c g a s act h)

/-- Creating a slice / slice-with-header / str builder (and writing the header where the API has
    that step) leaves a `GcSliceWithHeaderSliceBuilder` with `init_length = 0`. -/
theorem run_create_prefix (c : Cfg) (g a : Nat) {p : Plan} (hk : c.kind ≠ .gc)
    (hp : gcAlloc c.maxSize c.hdr c.pk c.ptrMeta = some p) (rest : List Action) :
    run c (initial g a) ((if c.kind = .swh then [.create, .writeHeader] else [.create]) ++ rest) =
      run c { stage := .headerWritten, events := [.allocB p.alloc], gcs := g, allocated := a }
        rest := by
  cases hkind : c.kind with
  | gc => exact absurd hkind hk
  | slice => simp [run, step, initial, hp, hkind]
  | swh => simp [run, step, initial, hp, hkind]
  | str => simp [run, step, initial, hp, hkind]

/-- Stage of a `GcSliceWithHeaderSliceBuilder` whose `init_length` is `k`. -/
def stageOf : Nat → Stage
  | 0 => .headerWritten
  | k + 1 => .elems (k + 1)

theorem stageOf_initLen (k : Nat) : (stageOf k).initLen = some k := by
  cases k <;> rfl

/-- `write_slice_with` storing the elements `vs` one after the other. -/
theorem run_writeElems (c : Cfg) (hk : c.kind = .slice ∨ c.kind = .swh) (vs : List Nat)
    (rest : List Action) (s : BState) (k : Nat) (hs : s.stuck = false)
    (hst : s.stage = stageOf k) (hle : k + vs.length ≤ c.n) :
    run c s (vs.map .writeElem ++ rest) =
      run c { s with stage := stageOf (k + vs.length), written := s.written ++ vs } rest := by
  induction vs generalizing s k with
  | nil =>
    simp only [List.map_nil, List.nil_append, List.length_nil, Nat.add_zero, List.append_nil]
    rw [← hst]
  | cons v vs ih =>
    have hlt : k < c.n := by simp at hle; omega
    have hstep : step c s (.writeElem v) =
        { s with stage := stageOf (k + 1), written := s.written ++ [v] } := by
      unfold step
      simp only [hs, Bool.false_eq_true, if_false, if_pos hk, hst, stageOf_initLen, if_pos hlt]
      rfl
    simp only [List.map_cons, List.cons_append, run]
    rw [hstep, ih { s with stage := stageOf (k + 1), written := s.written ++ [v] } (k + 1) hs rfl
      (by simp at hle ⊢; omega)]
    simp only [List.length_cons, List.append_assoc, List.singleton_append]
    rw [show k + 1 + vs.length = k + (vs.length + 1) by omega]

theorem dropEvents_count (k i : Nat) :
    (dropEvents k).count (.dropElem i) = (if i < k then 1 else 0) ∧
      (dropEvents k).count .dropHeader = 1 ∧ Event.link ∉ dropEvents k ∧
      (∀ l, Event.deallocB l ∉ dropEvents k) ∧ (∀ l, Event.allocB l ∉ dropEvents k) := by
  unfold dropEvents
  refine ⟨?_, ?_, by simp, by simp, by simp⟩
  · -- `dropElem` is injective, so this is the count of `i` in `range k`
    rw [List.count_cons_of_ne (by simp), ← List.count_range, List.count, List.countP_map]
    exact List.countP_congr fun j _ => by simp
  · rw [List.count_cons_self, List.count_eq_zero.2 (by simp)]

/-! ### builder episodes on one arena (C11: repeated faults) -/

/-- Run builder episodes one after another on the same arena: each episode is one builder
    (its configuration and everything the client does with it, faults included), started on the
    arena side (`total_gc_count`, allocations this cycle) the previous one left.  Returns the
    final arena side and the number of episodes that ended with a `Gc`. -/
def runEpisodes : Nat → Nat → Nat → List (Cfg × List Action) → Nat × Nat × Nat
  | g, a, l, [] => (g, a, l)
  | g, a, l, (c, acts) :: rest =>
    runEpisodes (run c (initial g a) acts).gcs (run c (initial g a) acts).allocated
      (if (run c (initial g a) acts).stage = .linked then l + 1 else l) rest

end GcArena.Builder
