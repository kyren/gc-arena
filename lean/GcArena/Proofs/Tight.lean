import GcArena.Proofs.Stable
/-!
  Tightness of marking while no mutator step intervenes: during a collection cycle that started
  from `Sleep` and has only been advanced by the collector itself,

  * every gray or black object is strongly reachable from the root,
  * every weakly marked object is weakly held by the root or by something strongly reachable,
  * (sweep, sleep) every object the sweep has passed and kept is either undestructed and strongly
    reachable, or a destructed shell that is weakly held.

  The collector steps are taken literally from Model/Context (`trace`, `trace_weak`, the slot
  loop, `make_gray_again`, `mark_one` with or without an unwinding `trace`, `sweep_one`, the
  phase switches).
-/
namespace GcArena

/-- Marks are justified: gray/black objects satisfy `R`, weakly marked ones satisfy `Wk`. -/
def TM (R Wk : Nat → Prop) (c : Ctx) : Prop :=
  ∀ i o, c.heap.get i = some o →
    ((o.color = .gray ∨ o.color = .black) → R i) ∧ (o.color = .whiteWeak → Wk i)

theorem TM.ofHeap {R Wk} {c c' : Ctx} (t : TM R Wk c) (h : ∀ j, c'.heap.get j = c.heap.get j) :
    TM R Wk c' := fun i o ho => t i o (by rw [← h]; exact ho)

theorem TM.imp {R Wk R' Wk' : Nat → Prop} {c : Ctx} (t : TM R Wk c) (hR : ∀ i, R i → R' i)
    (hW : ∀ i, Wk i → Wk' i) : TM R' Wk' c :=
  fun i o ho => ⟨fun hc => hR i ((t i o ho).1 hc), fun hc => hW i ((t i o ho).2 hc)⟩

theorem trace_self (c : Ctx) (t : Nat) (o' : Obj) (h : (c.trace t).heap.get t = some o') :
    c.heap.get t = some o' ∨ o'.color = .gray ∨ o'.color = .black := by
  unfold Ctx.trace at h
  split at h
  · exact .inl (Ctx.fail_heap .. ▸ h)
  · split at h
    · exact .inl h
    · exact .inl h
    · -- the cell is set gray or black; the counter update after it leaves the heap alone
      rename_i o _ _ _ _
      have hm : ∀ (X : Ctx) (b : Prop) [Decidable b] (f : Metrics → Metrics),
          (if b then X.withMetrics f else X).heap = X.heap := by intros; split <;> rfl
      rw [hm] at h
      split at h
      · have : o' = { o with color := .gray } := by
          simpa [Ctx.setObj_get] using h.symm
        exact .inr (.inl (this ▸ rfl))
      · have : o' = { o with color := .black } := by
          simpa [Ctx.setObj_get] using h.symm
        exact .inr (.inr (this ▸ rfl))

theorem traceWeak_self (c : Ctx) (t : Nat) (o' : Obj) (h : (c.traceWeak t).heap.get t = some o') :
    c.heap.get t = some o' ∨ o'.color = .whiteWeak := by
  cases ho : c.heap.get t with
  | none => left; simp [Ctx.traceWeak, ho] at h
  | some o =>
    by_cases hw : o.color = .white <;> simp [Ctx.traceWeak, ho, hw] at h <;> subst h <;> simp

theorem TM.trace {R Wk} {c : Ctx} (t : TM R Wk c) {x : Nat} (hR : R x) : TM R Wk (c.trace x) := by
  intro i o' ho'
  by_cases hi : i = x
  · subst hi
    rcases trace_self c i o' ho' with h | h
    · exact t i o' h
    · exact ⟨fun _ => hR, fun hw => (Color.dead_not_marked (.inr hw) h).elim⟩
  · rw [Ctx.trace_frame c x i hi] at ho'; exact t i o' ho'

theorem TM.traceWeak {R Wk} {c : Ctx} (t : TM R Wk c) {x : Nat} (hW : Wk x) :
    TM R Wk (c.traceWeak x) := by
  intro i o' ho'
  by_cases hi : i = x
  · subst hi
    rcases traceWeak_self c i o' ho' with h | h
    · exact t i o' h
    · exact ⟨fun hc => (Color.dead_not_marked (.inr h) hc).elim, fun _ => hW⟩
  · rw [Ctx.traceWeak_frame c x i hi] at ho'; exact t i o' ho'

theorem TM.setObj {R Wk} {c : Ctx} (t : TM R Wk c) {i : Nat} {o : Obj}
    (hR : (o.color = .gray ∨ o.color = .black) → R i) (hW : o.color = .whiteWeak → Wk i) :
    TM R Wk (c.setObj i o) := by
  intro j oj hoj
  rw [Ctx.setObj_get] at hoj
  by_cases hj : j = i
  · subst hj; simp at hoj; subst hoj; exact ⟨hR, hW⟩
  · simp only [hj, if_false] at hoj; exact t j oj hoj

theorem TM.makeGrayAgain {R Wk} {c : Ctx} (t : TM R Wk c) {i : Nat} (hR : R i) :
    TM R Wk (c.makeGrayAgain i) := by
  unfold Ctx.makeGrayAgain
  cases ho : c.heap.get i with
  | none => exact t.ofHeap (fun _ => by rw [Ctx.fail_heap])
  | some o =>
    simp only
    have t1 : TM R Wk (if o.color = .black then c else c.fail .debugAssert) := by
      split
      · exact t
      · exact t.ofHeap (fun _ => by rw [Ctx.fail_heap])
    exact (t1.setObj (i := i) (o := { o with color := .gray }) (fun _ => hR) (fun hw => nomatch hw)).ofHeap
      (fun _ => rfl)

theorem TM.markOne {R Wk} {c : Ctx} {root : List Slot} (t : TM R Wk c) (f : Option Nat)
    (hq : ∀ i, i ∈ c.gray ∨ i ∈ c.grayAgain → R i)
    (hedge : ∀ i o, R i → c.heap.get i = some o →
      (∀ x, some (Ptr.strong x) ∈ o.slots → R x) ∧ (∀ x, some (Ptr.weak x) ∈ o.slots → Wk x))
    (hroot : (∀ x, some (Ptr.strong x) ∈ root → R x) ∧ (∀ x, some (Ptr.weak x) ∈ root → Wk x)) :
    TM R Wk (c.markOne root f).1 := by
  have src : ∀ p, (some p ∈ root ∨ ∃ i o, (i ∈ c.gray ∨ i ∈ c.grayAgain) ∧ c.heap.get i = some o ∧
      some p ∈ o.slots) → (∀ x, p = .strong x → R x) ∧ (∀ x, p = .weak x → Wk x) := by
    rintro p (hp | ⟨i, o, hi, ho, hp⟩)
    · exact ⟨fun x e => hroot.1 x (e ▸ hp), fun x e => hroot.2 x (e ▸ hp)⟩
    · exact ⟨fun x e => (hedge i o (hq i hi) ho).1 x (e ▸ hp), fun x e => (hedge i o (hq i hi) ho).2 x (e ▸ hp)⟩
  refine markOne_induct c root f (fun e t => t.ofHeap (fun _ => by rw [e]))
    (fun i _ hi _ t => t.setObj (fun _ => hq i hi) (fun hw => nomatch hw)) (fun p hp t => ?_)
    (fun i hi t => t.makeGrayAgain (hq i hi)) t
  cases p with
  | strong x => exact t.trace ((src _ hp).1 x rfl)
  | weak x => exact t.traceWeak ((src _ hp).2 x rfl)

/-- Marks are justified by reachability from the root; outside `Mark`, so is everything the
    sweep has kept. -/
structure Tight (c : Ctx) (root : List Slot) : Prop where
  tm : TM (StrongReachC c root) (WeakHeld c root) c
  kept : c.phase ≠ .mark → ∀ i, i ∈ c.pre → ∀ o, c.heap.get i = some o →
    (o.live = true → StrongReachC c root i) ∧ (o.live = false → WeakHeld c root i)

theorem Tight.transfer {c c' : Ctx} {root} (sr : SameReach c c' root)
    (tm : TM (StrongReachC c root) (WeakHeld c root) c')
    (kept : c'.phase ≠ .mark → ∀ i, i ∈ c'.pre → ∀ o, c'.heap.get i = some o →
      (o.live = true → StrongReachC c root i) ∧ (o.live = false → WeakHeld c root i)) :
    Tight c' root :=
  ⟨tm.imp (fun i => (sr.reach i).mpr) (fun i => (sr.weak i).mpr),
   fun hp i hi o ho => ⟨fun hl => (sr.reach i).mpr ((kept hp i hi o ho).1 hl),
     fun hl => (sr.weak i).mpr ((kept hp i hi o ho).2 hl)⟩⟩

theorem Tight.ofHeap {c c' : Ctx} {root} (t : Tight c root) (hh : ∀ j, c'.heap.get j = c.heap.get j)
    (hpre : c'.phase ≠ .mark → ∀ i, i ∈ c'.pre → c.phase ≠ .mark ∧ i ∈ c.pre) : Tight c' root :=
  Tight.transfer (sameReach_of_shrink (Shrink.ofHeap hh) (Shrink.ofHeap fun j => (hh j).symm)) (t.tm.ofHeap hh)
    (fun hp i hi o ho =>
    t.kept (hpre hp i hi).1 i (hpre hp i hi).2 o (by rw [← hh]; exact ho))

/-- `Sleep → Mark`: everything is white, so tightness holds outright. -/
theorem wake_tight {c : Ctx} {root} (h : CInv c root []) (hp : c.phase = .sleep) :
    Tight (c.switch .mark) root := by
  refine ⟨?_, fun hne => absurd rfl hne⟩
  intro i o ho
  have hw := h.sleepWhite hp i o ho
  exact ⟨fun hc => (Color.dead_not_marked (.inl hw) hc).elim,
    fun hc => (by rw [hw] at hc; cases hc)⟩

theorem markOne_tight {c : Ctx} {root} (h : CInv c root []) (hm : c.phase = .mark)
    (t : Tight c root) (f : Option Nat) : Tight (c.markOne root f).1 root := by
  obtain ⟨h', fr⟩ := markOne_spec h hm f
  have sr : SameReach c (c.markOne root f).1 root :=
    sameReach_of h (fun i o ho _ => by
      obtain ⟨o', ho'⟩ := (fr.alloc i).mpr ⟨o, ho⟩
      exact ⟨o', ho', (fr.live i o o' ho ho').2.1⟩) fr.shrink
  refine Tight.transfer sr ?_ (fun hne => absurd (fr.phase.trans hm) hne)
  apply t.tm.markOne f
  · intro i hi
    obtain ⟨o, ho, hg⟩ := h.qGray i hi
    exact (t.tm i o ho).1 (Or.inl hg)
  · intro i o hRi ho
    exact ⟨fun x hx => .edge i x hRi ⟨o, ho, hx⟩, fun x hx => Or.inr ⟨i, o, hRi, ho, hx⟩⟩
  · exact ⟨fun x hx => .root x hx, fun x hx => Or.inl hx⟩

theorem sweepOne_tight {c : Ctx} {root} (h : CInv c root []) (hp : c.phase = .sweep) (hr : c.rest ≠ [])
    (t : Tight c root) : Tight c.sweepOne.1 root := by
  obtain ⟨i, rest', hr⟩ := List.exists_cons_of_ne_nil hr
  obtain ⟨o, ho⟩ := (h.memAll i).mp (by rw [hr]; simp)
  obtain ⟨hframe, hcases⟩ := sweepOne_cases hr ho
  have hnm : c.phase ≠ .mark := by rw [hp]; simp
  have hi_np : i ∉ c.pre := fun hmem =>
    (List.nodup_append.mp (hr ▸ h.nodup)).2.2 i hmem i (by simp) rfl
  -- the cell under the cursor: whitened (or released), and kept in the list only if it was black,
  -- hence reachable and undestructed, or weakly marked, hence weakly held and now a shell
  have cell : ∀ oi, c.sweepOne.1.heap.get i = some oi →
      (oi.color = .white ∨ oi = o) ∧ (i ∈ c.sweepOne.1.pre →
        (oi.live = true → StrongReachC c root i) ∧ (oi.live = false → WeakHeld c root i)) := by
    intro oi hoi
    rcases hcases with ⟨_, hn, _⟩ | ⟨hc, _, o', ho', hw', hl', _⟩ | ⟨hc, _, hb⟩ | ⟨_, hpre, hg⟩
    · rw [hn] at hoi; cases hoi
    · rw [ho'] at hoi; cases hoi
      exact ⟨.inl hw', fun _ => ⟨fun hl => (by rw [hl'] at hl; cases hl), fun _ => (t.tm i o ho).2 hc⟩⟩
    · rw [hb] at hoi; cases hoi
      exact ⟨.inl rfl, fun _ => ⟨fun _ => (t.tm i o ho).1 (.inr hc),
        fun hl => by rw [show o.live = true from h.markedLive i o ho (.inr hc)] at hl; cases hl⟩⟩
    · rw [hg] at hoi; cases hoi
      exact ⟨.inr rfl, fun hi => absurd (hpre ▸ hi) hi_np⟩
  refine Tight.transfer (sameReach_of h (sweepOne_persist h hp) (sweepOne_shrink c)) ?_ ?_
  · intro j oj hoj
    by_cases hj : j = i
    · subst hj
      rcases (cell oj hoj).1 with hw | rfl
      · exact ⟨fun hc => (Color.dead_not_marked (.inl hw) hc).elim,
          fun hc => (by rw [hw] at hc; cases hc)⟩
      · exact t.tm j oj ho
    · exact t.tm j oj (hframe j hj ▸ hoj)
  · intro _ j hj oj hoj
    by_cases hji : j = i
    · subst hji; exact (cell oj hoj).2 hj
    · refine t.kept hnm j ?_ oj (hframe j hji ▸ hoj)
      rcases hcases with ⟨_, _, hpre⟩ | ⟨_, hpre, _⟩ | ⟨_, hpre, _⟩ | ⟨_, hpre, _⟩ <;> rw [hpre] at hj
      · exact hj
      · exact (List.mem_append.mp hj).resolve_right (fun h1 => hji (List.mem_singleton.mp h1))
      · exact (List.mem_append.mp hj).resolve_right (fun h1 => hji (List.mem_singleton.mp h1))
      · exact hj

/-- Every enabled micro-step taken asleep (it is the wake-up) or in a tight state ends tight. -/
theorem micro_tight {c c' : Ctx} {root} {m : Micro} (h : CInv c root []) (st : MicroStep root c m c')
    (t : c.phase ≠ .sleep → Tight c root) : Tight c' root := by
  have tc : ∀ {p : Phase}, c.phase = p → p ≠ .sleep → Tight c root := fun hp hne => t (hp ▸ hne)
  cases st with
  | wake hp => exact wake_tight h hp
  | markStep f hp => exact markOne_tight h hp (tc hp (by simp)) f
  | markBreak hp => exact (tc hp (by simp)).ofHeap (fun _ => rfl) (fun hne => absurd hp hne)
  | toSweep hp => exact (tc hp (by simp)).ofHeap (fun _ => rfl) (fun _ _ hi => by cases hi)
  | sweepStep hp hr => exact sweepOne_tight h hp hr (tc hp (by simp))
  | sweepEnd hp | toSleep _ hp =>
    exact (tc hp (by simp)).ofHeap (fun _ => rfl) (fun _ _ hi => ⟨by rw [hp]; simp, hi⟩)

theorem micros_tight {root} (ms : List Micro) {c c' : Ctx} (h : CInv c root [])
    (t : c.phase ≠ .sleep → Tight c root) (hs : c.micros root ms = some c') :
    c'.phase ≠ .sleep → Tight c' root :=
  micros_lift (R := fun c c' => (c.phase ≠ .sleep → Tight c root) → c'.phase ≠ .sleep → Tight c' root)
    (fun _ t => t) (fun h1 h2 t => h2 (h1 t)) (fun h st t _ => micro_tight h st t) ms h hs t

end GcArena
