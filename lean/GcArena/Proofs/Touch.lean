import GcArena.Proofs.Recolor
import GcArena.Proofs.MutStep
/-!
  What the primitives of src/context.rs that a callback can reach (`trace`, `trace_weak`,
  `make_gray_again`, `resurrect`, the four barriers, `upgrade`) do, without any invariant: they
  recolour — upward in the marking order white < white-weak < gray/black — only objects they were
  handed a pointer to, push on the gray queues, bump counters and may set `err`.  Phase, lists,
  root flag, event log, step log, heap size, liveness, slots are untouched.  `Touch` says all of it
  at once, one lemma per primitive.
-/
namespace GcArena

/-- `c'` is `c` with some objects satisfying `T` recoloured upward; step log and sweep list equal. -/
structure Recol (T : Nat → Prop) (c c' : Ctx) : Prop where
  steps : c'.steps = c.steps
  rest : c'.rest = c.rest
  pre : c'.pre = c.pre
  keep : ∀ j o, c.heap.get j = some o → ∃ o', c'.heap.get j = some o' ∧ o'.live = o.live ∧
    o'.slots = o.slots ∧ o'.needsTrace = o.needsTrace ∧ cls o.color ≤ cls o'.color ∧ (¬ T j → o' = o)
  noNew : ∀ j o', c'.heap.get j = some o' → ∃ o, c.heap.get j = some o

theorem Recol.trans {T} {a b c : Ctx} (h1 : Recol T a b) (h2 : Recol T b c) : Recol T a c := by
  refine ⟨h2.steps.trans h1.steps, h2.rest.trans h1.rest, h2.pre.trans h1.pre, ?_, ?_⟩
  · intro j o ho
    obtain ⟨o1, ho1, l1, s1, n1, c1, u1⟩ := h1.keep j o ho
    obtain ⟨o2, ho2, l2, s2, n2, c2, u2⟩ := h2.keep j o1 ho1
    exact ⟨o2, ho2, l2.trans l1, s2.trans s1, n2.trans n1, Nat.le_trans c1 c2,
      fun hT => (u2 hT).trans (u1 hT)⟩
  · intro j o2 ho2
    obtain ⟨o1, ho1⟩ := h2.noNew j o2 ho2
    exact h1.noNew j o1 ho1

theorem Recol.mono {T T' : Nat → Prop} {c c' : Ctx} (h : Recol T c c') (hT : ∀ j, T j → T' j) :
    Recol T' c c' :=
  ⟨h.steps, h.rest, h.pre, fun j o ho => by
    obtain ⟨o', ho', l, s, n, cl, u⟩ := h.keep j o ho
    exact ⟨o', ho', l, s, n, cl, fun hn => u (fun ht => hn (hT j ht))⟩, h.noNew⟩

/-- `Recol` together with everything else a recolouring primitive leaves alone; the queues only
    grow, and no tracing object becomes black (it is queued gray first). -/
structure Touch (T : Nat → Prop) (c c' : Ctx) : Prop extends Recol T c c' where
  phase : c'.phase = c.phase
  rnt : c'.rootNeedsTrace = c.rootNeedsTrace
  log : c'.log = c.log
  size : c'.heap.size = c.heap.size
  gray : ∀ j, j ∈ c.gray → j ∈ c'.gray
  grayAgain : ∀ j, j ∈ c.grayAgain → j ∈ c'.grayAgain
  noNewBlack : ∀ j o o', c.heap.get j = some o → c'.heap.get j = some o' → o'.color = .black →
    o.needsTrace = true → o.color = .black

theorem Touch.ofBookkeeping {T} (c : Ctx) (g ga : List Nat) (m : Metrics) (e : Option Fault)
    (hg : ∀ j, j ∈ c.gray → j ∈ g) (hga : ∀ j, j ∈ c.grayAgain → j ∈ ga) :
    Touch T c { c with gray := g, grayAgain := ga, metrics := m, err := e } :=
  ⟨⟨rfl, rfl, rfl, fun _ o ho => ⟨o, ho, rfl, rfl, rfl, Nat.le_refl _, fun _ => rfl⟩,
    fun _ o' ho' => ⟨o', ho'⟩⟩, rfl, rfl, rfl, rfl, hg, hga,
   fun _ o o' ho ho' hb _ => by rw [ho] at ho'; cases ho'; exact hb⟩

theorem Touch.refl {T} (c : Ctx) : Touch T c c :=
  Touch.ofBookkeeping c c.gray c.grayAgain c.metrics c.err (fun _ h => h) (fun _ h => h)

theorem Touch.trans {T} {a b c : Ctx} (h1 : Touch T a b) (h2 : Touch T b c) : Touch T a c := by
  refine ⟨h1.toRecol.trans h2.toRecol, h2.phase.trans h1.phase, h2.rnt.trans h1.rnt,
    h2.log.trans h1.log, h2.size.trans h1.size, fun j h => h2.gray j (h1.gray j h),
    fun j h => h2.grayAgain j (h1.grayAgain j h), ?_⟩
  intro j o o2 ho ho2 hb hn
  obtain ⟨o1, ho1, _, _, n1, _⟩ := h1.keep j o ho
  exact h1.noNewBlack j o o1 ho ho1 (h2.noNewBlack j o1 o2 ho1 ho2 hb (n1.trans hn)) hn

theorem Ctx.fail_eq (c : Ctx) (f : Fault) : c.fail f = { c with err := some (c.err.getD f) } := by
  cases c with | mk _ _ _ _ _ _ _ _ _ _ err => cases err <;> rfl

theorem touch_fail {T} (c : Ctx) (f : Fault) : Touch T c (c.fail f) := by
  rw [Ctx.fail_eq]
  exact Touch.ofBookkeeping c c.gray c.grayAgain c.metrics _ (fun _ h => h) (fun _ h => h)

theorem Touch.ofRecolor {T} {c : Ctx} {t : Nat} {o : Obj} {col : Color} (ho : c.heap.get t = some o)
    (hT : T t) (hcls : cls o.color ≤ cls col)
    (hb : col = .black → o.needsTrace = true → o.color = .black)
    (g ga : List Nat) (m : Metrics) (e : Option Fault)
    (hg : ∀ j, j ∈ c.gray → j ∈ g) (hga : ∀ j, j ∈ c.grayAgain → j ∈ ga) :
    Touch T c { c with heap := c.heap.set t (some { o with color := col }), gray := g,
                       grayAgain := ga, metrics := m, err := e } := by
  have hget : ∀ j, (c.heap.set t (some { o with color := col })).get j =
      if j = t then some { o with color := col } else c.heap.get j := fun j => Heap.get_set ..
  refine ⟨⟨rfl, rfl, rfl, ?_, ?_⟩, rfl, rfl, rfl, ?_, hg, hga, ?_⟩
  · intro j oj hoj
    by_cases hj : j = t
    · subst hj
      rw [ho] at hoj; cases hoj
      exact ⟨{ o with color := col }, by simp only [hget, if_true], rfl, rfl, rfl, hcls,
        fun hn => absurd hT hn⟩
    · exact ⟨oj, by simp only [hget, hj, if_false, hoj], rfl, rfl, rfl, Nat.le_refl _, fun _ => rfl⟩
  · intro j o' ho'
    simp only [hget] at ho'
    by_cases hj : j = t
    · subst hj; exact ⟨o, ho⟩
    · simp only [hj, if_false] at ho'; exact ⟨o', ho'⟩
  · simp only [Heap.size_set, Nat.max_eq_left (Nat.succ_le_of_lt (Heap.lt_size_of_get _ _ _ ho))]
  · intro j oj o' hoj ho' hbl hn
    simp only [hget] at ho'
    by_cases hj : j = t
    · subst hj
      rw [ho] at hoj; cases hoj
      simp only [if_true, Option.some.injEq] at ho'; subst ho'
      exact hb hbl hn
    · simp only [hj, if_false] at ho'
      rw [hoj] at ho'; cases ho'; exact hbl

/-- A `debug_assert!` in front of the real work. -/
theorem touch_assert {T} (c : Ctx) (b : Prop) [Decidable b] (f : Fault) :
    Touch T c (if b then c else c.fail f) ∧ (if b then c else c.fail f).heap = c.heap := by
  split
  · exact ⟨Touch.refl _, rfl⟩
  · exact ⟨touch_fail _ _, Ctx.fail_heap _ _⟩

theorem touch_queue {T} {c : Ctx} {t : Nat} {o : Obj} (ho : c.heap.get t = some o) (hT : T t)
    (f : Metrics → Metrics) :
    Touch T c ({ (c.setObj t { o with color := .gray }) with gray := t :: c.gray }.withMetrics f) :=
  .ofRecolor ho hT (cls_le_gray _) (fun h => by cases h) _ _ _ _
    (fun _ h => List.mem_cons_of_mem _ h) (fun _ h => h)

/-- The tail `if col == White { mark_gc_marked() }` of `trace` / `resurrect`. -/
theorem touch_countIf {T} {c X : Ctx} (b : Prop) [Decidable b] (f : Metrics → Metrics)
    (h : ∀ g, Touch T c (X.withMetrics g)) : Touch T c (if b then X.withMetrics f else X) := by
  split
  · exact h f
  · exact h id

theorem touch_trace {T} (c : Ctx) (t : Nat) (hT : T t) : Touch T c (c.trace t) := by
  unfold Ctx.trace
  split
  · exact touch_fail _ _
  · rename_i o ho
    split
    · exact Touch.refl _
    · exact Touch.refl _
    · refine touch_countIf _ _ (fun g => ?_)
      by_cases hnt : o.needsTrace = true
      · obtain ⟨h1, e1⟩ := touch_assert (T := T) c (o.live = true) .debugAssert
        rw [if_pos hnt]
        exact h1.trans (touch_queue (by rw [e1]; exact ho) hT g)
      · have hw : cls o.color ≤ cls .black := by cases hc : o.color <;> simp [cls]
        rw [if_neg hnt]
        exact .ofRecolor ho hT hw (fun _ h => absurd h hnt) _ _ _ _ (fun _ h => h) (fun _ h => h)

theorem touch_traceWeak {T} (c : Ctx) (t : Nat) (hT : T t) : Touch T c (c.traceWeak t) := by
  unfold Ctx.traceWeak
  split
  · exact touch_fail _ _
  · rename_i o ho
    split
    · rename_i hw
      exact .ofRecolor ho hT (by simp [hw, cls]) (fun h => by cases h) _ _ _ _ (fun _ h => h) (fun _ h => h)
    · exact Touch.refl _

theorem touch_makeGrayAgain {T} (c : Ctx) (t : Nat) (hT : T t) : Touch T c (c.makeGrayAgain t) := by
  unfold Ctx.makeGrayAgain
  split
  · exact touch_fail _ _
  · rename_i o ho
    have := Touch.ofRecolor (T := T) ho hT (cls_le_gray _) (fun h => by cases h) c.gray (t :: c.grayAgain)
      c.metrics.markGcUntraced (if o.color = .black then c else c.fail .debugAssert).err
      (fun _ h => h) (fun _ h => List.mem_cons_of_mem _ h)
    by_cases hb : o.color = .black <;>
      simpa only [hb, if_true, if_false, Ctx.fail_eq c, Ctx.setObj] using this

theorem touch_resurrect {T} (c : Ctx) (t : Nat) (hT : T t) : Touch T c (c.resurrect t) := by
  unfold Ctx.resurrect
  split
  · exact touch_fail _ _
  · rename_i o ho
    obtain ⟨h1, e1⟩ := touch_assert (T := T) c (c.phase = .mark) .debugAssert
    obtain ⟨h2, e2⟩ := touch_assert (T := T) (if c.phase = .mark then c else c.fail .debugAssert)
      (o.live = true) .debugAssert
    have ho2 := ho
    rw [← e1, ← e2] at ho2
    have h12 := h1.trans h2
    dsimp only
    by_cases hw : (o.color = .white || o.color = .whiteWeak) = true
    · rw [if_pos hw]
      exact touch_countIf _ _ (fun g => h12.trans (touch_queue ho2 hT g))
    · rw [if_neg hw]; exact h12

theorem touch_backwardBarrier {T} (c : Ctx) (p : Nat) (ch : Option Nat) (hT : T p) :
    Touch T c (c.backwardBarrier p ch) := by
  unfold Ctx.backwardBarrier
  repeat' split
  all_goals first | exact touch_fail _ _ | exact touch_makeGrayAgain _ _ hT | exact Touch.refl _

theorem touch_backwardBarrierWeak {T} (c : Ctx) (p ch : Nat) (hT : T p) :
    Touch T c (c.backwardBarrierWeak p ch) := by
  unfold Ctx.backwardBarrierWeak
  repeat' split
  all_goals first | exact touch_fail _ _ | exact touch_makeGrayAgain _ _ hT | exact Touch.refl _

theorem touch_forwardBarrier {T} (c : Ctx) (p : Option Nat) (ch : Nat) (hT : T ch) :
    Touch T c (c.forwardBarrier p ch) := by
  unfold Ctx.forwardBarrier
  repeat' split
  all_goals first | exact touch_fail _ _ | exact touch_trace _ _ hT | exact Touch.refl _

theorem touch_forwardBarrierWeak {T} (c : Ctx) (p : Option Nat) (ch : Nat) (hT : T ch) :
    Touch T c (c.forwardBarrierWeak p ch) := by
  unfold Ctx.forwardBarrierWeak
  repeat' split
  all_goals first | exact touch_fail _ _ | exact touch_traceWeak _ _ hT | exact Touch.refl _

theorem touch_upgrade {T} (c : Ctx) (w : Nat) : Touch T c (c.upgrade w).1 := by
  unfold Ctx.upgrade
  repeat' split
  all_goals first | exact touch_fail _ _ | exact Touch.refl _

theorem touch_barrier {T} (c : Ctx) (b : BarrierOp) (hT : T b.target.target) : Touch T c (b.apply c) := by
  cases b with
  | bb p ch => exact touch_backwardBarrier c p ch hT
  | bbw p ch => exact touch_backwardBarrierWeak c p ch hT
  | fb p ch => exact touch_forwardBarrier c p ch hT
  | fbw p ch => exact touch_forwardBarrierWeak c p ch hT

theorem MutStep.ctx_rel {R : Ctx → Ctx → Prop} {a a' : Arena} {fin : Bool} {op : Op}
    {out : String} (st : MutStep a fin op a' out) (refl : ∀ c, R c c) (trans : ∀ {x y z}, R x y → R y z → R x z)
    (touch : ∀ {c c'}, Touch (Held a) c c' → R c c')
    (metrics : ∀ f, R a.ctx (a.ctx.withMetrics f))
    (rootBarrier : R a.ctx a.ctx.rootBarrier)
    (link : ∀ o : Obj, o.color = .white → o.live = true → (∀ p, some p ∈ o.slots → p ∈ a.temps) →
      R a.ctx (a.ctx.link o).1)
    (setSlot : ∀ c path p i v, op = .store path p i v → Ptr.strong p ∈ a.temps →
      R c (Arena.setSlot c p i v)) :
    R a.ctx a'.ctx := by
  cases st with
  | same | enter | leave | rootStore => exact refl _
  | hold => simp only [Arena.push_ctx]; exact refl _
  | setPacing p => exact metrics (·.setPacing p)
  | adjustDebt x => exact metrics (·.adjustDebt x)
  | enterRoot => exact rootBarrier
  | alloc nt slots _ hs _ => simp only [Arena.push_ctx]; exact link _ rfl rfl hs
  | upgradeSome | upgradeNone => simp only [Arena.push_ctx]; exact touch (touch_upgrade _ _)
  | dangling => exact touch (touch_fail _ _)
  | resurrect p _ hp _ => simp only [Arena.push_ctx]; exact touch (touch_resurrect _ _ (held_of_mem hp))
  | barrier b _ hb => exact touch (touch_barrier _ b (held_of_mem (hb _ b.target_mem)))
  | store path p i v _ hp =>
    have bb := fun c => touch (touch_backwardBarrier c p none (held_of_mem (p := .strong p) hp))
    cases path with
    | write => exact trans (bb _) (setSlot _ _ p i v rfl hp)
    | raw => exact setSlot _ _ p i v rfl hp
    | storeThenBarrier => exact trans (setSlot _ _ p i v rfl hp) (bb _)

end GcArena
