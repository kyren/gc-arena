import GcArena.Proofs.Step
import GcArena.Proofs.WriteCapLemmas
/-!
# Bridge: Write-capability calculus (C13) ⟶ collector model (C01 / C06)

`Model/WriteCap.lean` speaks of places, holders and a predicate `B` ("a write barrier has been
applied to this object during the current callback"); `Model/Arena.lean` speaks of `Op.store`
with a `StorePath` and of the ghost list `Arena.cover` (barriers issued since the last collection
call).  The interpretation used here:

* an object of the calculus is an object id of the collector heap (`Obj = Nat` on both sides);
* `coverB a o` — "`Cover.parent o ∈ a.cover`": an unrestricted backward barrier
  (`backward_barrier(o, None)`, i.e. `Gc::write(mc, o)`) was issued on `o` and no collection call
  has happened since (every `collect` clears `cover`);
* an `unlock`ed store item `.store place pf` of the calculus, performed on holder `o`, is the
  collector operation `Op.store .raw o i v` for some slot `i` and value `v`
  (`StorePath.raw` is the path "store through a cell obtained after an explicit barrier");
  a pointer-free place (`pf = true`: its type is `'static`) can only be given `v = none`.
-/
namespace GcArena.WriteCap

open GcArena

/-- "A backward barrier on `o` is in force": `Cover.parent o` is in the arena's ghost cover. -/
def coverB (a : Arena) : Obj → Prop := fun o => a.cover.contains (Cover.parent o) = true

/-- `Covered` under `coverB` is the collector model's `coverOK` for every holder of the place. -/
theorem covered_coverOK (a : Arena) (env : Env) (it : Item) (h : Covered env (coverB a) it)
    (o : Obj) (ho : o ∈ holders env it.place) (v : Slot) (hv : it.ptrFree = true → v = none) :
    a.coverOK o v = true := by
  rcases h with hpf | hb
  · rw [hv hpf]; rfl
  · have hc : Cover.parent o ∈ a.cover := List.contains_iff_mem.mp (hb o ho)
    rcases v with _ | c | c
    · rfl
    all_goals simp [Arena.coverOK, hc]

/-- With the side conditions every store shares (a callback is running, the client holds the
object and the value, the slot exists, a non-tracing type holds no pointer), a covered raw store
is **accepted** by `stepBody` and is exactly `setSlot`. -/
theorem raw_store_accepted (a : Arena) (fin : Bool) (o i : Nat) (v s : Slot)
    (hcov : a.coverOK o v = true)
    (hcb : a.cb.isSome = true) (hh : a.holds (.strong o) = true) (hs : a.holdsSlot v = true)
    (hslot : Arena.slotOf a.ctx o i = some s)
    (htr : v.isSome = true → Arena.isTracing a.ctx o = true) :
    a.stepBody fin (.store .raw o i v) = ({ a with ctx := Arena.setSlot a.ctx o i v }, "ok") :=
  stepBody_store_accepted a fin .raw o i v s hcb hh hs hslot htr fun _ => hcov

/-- An accepted `backward_barrier(o, None)` establishes `coverB … o`, and keeps it for every other
object (the cover only grows until the next collection call). -/
theorem barrier_establishes_cover (a : Arena) (fin : Bool) (o : Nat)
    (hcb : a.cb.isSome = true) (hh : a.holds (.strong o) = true) :
    coverB (a.stepBody fin (.barrier (.bb o none))).1 o ∧
    ∀ o', coverB a o' → coverB (a.stepBody fin (.barrier (.bb o none))).1 o' := by
  have hcb' : a.cb.isNone = false := Option.isNone_eq_false_iff.mpr hcb
  constructor
  · simp [coverB, Arena.stepBody, hcb', hh]
  · intro o' ho'
    have ho' : Cover.parent o' ∈ a.cover := List.contains_iff_mem.mp ho'
    simp [coverB, Arena.stepBody, hcb', hh, ho']

end GcArena.WriteCap
