import GcArena.Model.WriteCap
/-! What `Table.ok` says entry by entry, and who holds a projected place: an exclusive receiver
keeps the holders of its base, through a shared one the holders are the owners of the target cell. -/
namespace GcArena.WriteCap

theorem Table.ok_unpack {t : Table} (h : t.ok = true) :
    (∀ c, c ∈ t.ctors → c.ok = true) ∧ (∀ p, p ∈ t.projs → p.ok t.projs = true) ∧
    (∀ u, u ∈ t.unlocks → u.ok = true) ∧ (∀ f, f ∈ t.lockFns → f.ok = true) ∧
    t.fieldMacro = .byPattern ∧ (∀ r, r ∈ t.rawSites → r.ok = true) ∧
    t.markerTraitsUnsafe = true := by
  simp only [Table.ok, Bool.and_eq_true, List.all_eq_true, beq_iff_eq] at h
  obtain ⟨⟨⟨⟨⟨⟨⟨⟨_, h1⟩, h2⟩, h3⟩, h4⟩, h5⟩, _⟩, h7⟩, h8⟩ := h
  exact ⟨h1, h2, h3, h4, h5, h7, h8⟩

theorem holders_projPlace_exclusive (env : Env) (cls : OwnClass) (p : Place) (k : Nat)
    (h : cls.exclusive = true) : holders env (projPlace cls p k) = holders env p := by
  cases cls <;> first | rfl | cases h

theorem holders_projPlace_shared (env : Env) (cls : OwnClass) (p : Place) (k : Nat)
    (h : cls.exclusive = false) : holders env (projPlace cls p k) = env.owners k := by
  cases cls <;> first | rfl | cases h

/-- A projection impl whose receiver does not own its target exclusively and whose target is not
bounded by `'static` yields an uncovered capability from any capability on a place pointing to a
shared cell one of whose owners has not been barriered. -/
theorem uncovered_of_shared_proj {t : Table} {env : Env} {B : Obj → Prop} (pi : ProjImpl)
    (hpi : pi ∈ t.projs) (hex : pi.recv.cls.exclusive = false) (hns : pi.targetStatic = false)
    {p : Place} (hp : Der t env B (.cap p false)) (hpt : PointsTo env p 0)
    {o : Obj} (ho : o ∈ env.owners 0) (hB : ¬ B o) :
    ∃ it, Der t env B it ∧ ¬ Covered env B it := by
  refine ⟨_, Der.proj pi p false 0 hpi hp (fun _ => hpt), ?_⟩
  rintro (h | h)
  · simp [Item.ptrFree, hns] at h
  · exact hB (h o (by rw [Item.place, holders_projPlace_shared env _ p 0 hex]; exact ho))

/-! Entries used by `Props/C13.mutant_witness` and the non-vacuity examples: the six slice
entries as extracted, the `Vec` entry as it is in the crate, and the mutated one. -/
namespace Example

def sliceEntries : List ProjImpl :=
  ["usize", "Range<usize>", "RangeFrom<usize>", "RangeInclusive<usize>", "RangeTo<usize>",
   "RangeToInclusive<usize>"].map (fun i =>
    { kind := .index, recv := .slice, text := "<T> IndexWrite<" ++ i ++ "> for [T]",
      targetStatic := false, idx := .concrete, gate := "" })

/-- `unsafe impl<T, I> IndexWrite<I> for Vec<T> where [T]: IndexWrite<I>, Self: Index<I> {}` -/
def vecCurrent : ProjImpl :=
  { kind := .index, recv := .vec,
    text := "<T, I> IndexWrite<I> for Vec<T> where [T]: IndexWrite<I>, Self: Index<I>",
    targetStatic := false, idx := .delegates .slice, gate := "" }

/-- `unsafe impl<T, I> IndexWrite<I> for Vec<T> where Self: Index<I> {}` -/
def vecMutant : ProjImpl :=
  { kind := .index, recv := .vec, text := "<T, I> IndexWrite<I> for Vec<T> where Self: Index<I>",
    targetStatic := false, idx := .unconstrained, gate := "" }

/-- `unsafe impl<T, I, const N: usize> IndexWrite<I> for [T; N] where [T]: Index<I> {}`
(std's array impl forwards to `<[T] as Index<I>>::index`, which a client may write). -/
def arrayMutant : ProjImpl :=
  { kind := .index, recv := .array, text := "<T, I, const N: usize> IndexWrite<I> for [T; N] where [T]: Index<I>",
    targetStatic := false, idx := .unconstrained, gate := "" }

def gcWriteCtor : Ctor := ⟨"Gc::write", .gcWrite, false, false, true⟩

def tableWith (projs : List ProjImpl) : Table :=
  { ctors := [gcWriteCtor], projs := projs, unlocks := [⟨"RefLock", true, true⟩], cells := [],
    lockFns := [], rawSites := [⟨"Write::unlock", false, true, false⟩], fieldMacro := .byPattern,
    writeNonExhaustive := true, markerTraitsUnsafe := true, unclassified := [] }

end Example

end GcArena.WriteCap
