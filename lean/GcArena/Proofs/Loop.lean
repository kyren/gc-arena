import GcArena.Proofs.Collect
/-!
  The driver loop `Ctx.collectLoop` in rule form.  One iteration is an `Arm`: the state it reaches,
  the new `has_slept` flag and `trace` count, and the exit taken there, if any.  `Arm.eq` unfolds
  `collectLoop` once; everything else about the loop is an induction over arms
  (`collectLoop_induct`) or a case analysis of the arm that returned (`collectLoop_exit`, and
  `doCollection_exit` for a whole call).  The decomposition needs no invariant.
-/
namespace GcArena

/-- The debt test that follows a step of the loop: return if `debtBreak`, else loop on. -/
def Ctx.debtExit (c : Ctx) (ru : RunUntil) : Option Exit :=
  if c.debtBreak ru then some .returned else none

theorem debtExit_eq_some {c : Ctx} {ru : RunUntil} {ex : Exit} :
    c.debtExit ru = some ex ↔ c.debtBreak ru = true ∧ ex = .returned := by
  unfold Ctx.debtExit
  split
  · rename_i h; simp [h, eq_comm]
  · rename_i h; simp [h]

theorem debtExit_eq_none {c : Ctx} {ru : RunUntil} :
    c.debtExit ru = none ↔ c.debtBreak ru = false := by
  unfold Ctx.debtExit
  split <;> simp_all

theorem debtBreak_stop (c : Ctx) : c.debtBreak .stop = false := rfl

theorem debtBreak_iff {c : Ctx} {ru : RunUntil} : c.debtBreak ru = true ↔
    ru = .payDebt ∧ c.metrics.hasDebt = false ∧ ¬ (c.phase = .sweep ∧ c.rest = []) := by
  simp only [Ctx.debtBreak, Bool.and_eq_true, Bool.not_eq_true', decide_eq_true_eq, Bool.and_eq_false_iff,
    decide_eq_false_iff_not, List.isEmpty_eq_false_iff, Classical.not_and_iff_not_or_not, and_assoc]

/-- One iteration of `loop { … }` in `do_collection`, started in `c` with `has_slept = hs` after `k`
    `trace` calls: the state reached, the new `has_slept` and `k`, and the exit taken there
    (`none`: the loop goes on). -/
inductive Arm (root : List Slot) (ru : RunUntil) (stop : Stop) (fault : TraceFault) (c : Ctx) (hs : Bool)
    (k : Nat) : Ctx → Bool → Nat → Option Exit → Prop
  | wake (hp : c.phase = .sleep) :
      Arm root ru stop fault c hs k (c.switch .mark) true k ((c.switch .mark).debtExit ru)
  | mark (hp : c.phase = .mark) (hg : c.grayRemaining = true)
      (hf : (c.markOne root (faultAt fault k)).2 = .continue) :
      Arm root ru stop fault c hs k (c.markOne root (faultAt fault k)).1 hs (k + 1)
        ((c.markOne root (faultAt fault k)).1.debtExit ru)
  | unwind (hp : c.phase = .mark) (hg : c.grayRemaining = true)
      (hf : (c.markOne root (faultAt fault k)).2 = .unwind) :
      Arm root ru stop fault c hs k (c.markOne root (faultAt fault k)).1 hs (k + 1) (some .unwound)
  | marked (hp : c.phase = .mark) (hg : c.grayRemaining = false) (hst : stop ≤ Stop.fullyMarked) :
      Arm root ru stop fault c hs k (c.step 'b') hs k (some .returned)
  | toSweep (hp : c.phase = .mark) (hg : c.grayRemaining = false) (hst : ¬ stop ≤ Stop.fullyMarked) :
      Arm root ru stop fault c hs k (c.step 'b').enterSweep hs k ((c.step 'b').enterSweep.debtExit ru)
  | atSweep (hp : c.phase = .sweep) (hst : stop ≤ Stop.atSweep) :
      Arm root ru stop fault c hs k c hs k (some .returned)
  | sweep (hp : c.phase = .sweep) (hst : ¬ stop ≤ Stop.atSweep) (hr : c.rest ≠ []) :
      Arm root ru stop fault c hs k c.sweepOne.1 hs k (c.sweepOne.1.debtExit ru)
  | toSleep (hp : c.phase = .sweep) (hst : ¬ stop ≤ Stop.atSweep) (hr : c.rest = []) :
      Arm root ru stop fault c hs k ((c.step 'e').enterSleep hs) hs k
        (if stop = .finishCycle ∨ hs = true then some .returned
         else ((c.step 'e').enterSleep hs).debtExit ru)
  | drop (hp : c.phase = .drop) :
      Arm root ru stop fault c hs k (c.fail .unreachable) hs k (some .returned)

variable {root : List Slot} {ru : RunUntil} {stop : Stop} {fault : TraceFault}
  {c c1 : Ctx} {hs hs1 : Bool} {k k1 : Nat} {e : Option Exit}

theorem Arm.total (root ru stop fault) (c : Ctx) (hs : Bool) (k : Nat) :
    ∃ c1 hs1 k1 e, Arm root ru stop fault c hs k c1 hs1 k1 e := by
  cases hp : c.phase with
  | sleep => exact ⟨_, _, _, _, .wake hp⟩
  | mark =>
    cases hg : c.grayRemaining with
    | false =>
      by_cases hst : stop ≤ Stop.fullyMarked
      · exact ⟨_, _, _, _, .marked hp hg hst⟩
      · exact ⟨_, _, _, _, .toSweep hp hg hst⟩
    | true =>
      cases hf : (c.markOne root (faultAt fault k)).2 with
      | «continue» => exact ⟨_, _, _, _, .mark hp hg hf⟩
      | unwind => exact ⟨_, _, _, _, .unwind hp hg hf⟩
      | «break» => exact absurd hf (markOne_not_break _ hg)
  | sweep =>
    by_cases hst : stop ≤ Stop.atSweep
    · exact ⟨_, _, _, _, .atSweep hp hst⟩
    · by_cases hr : c.rest = []
      · exact ⟨_, _, _, _, .toSleep hp hst hr⟩
      · exact ⟨_, _, _, _, .sweep hp hst hr⟩
  | drop => exact ⟨_, _, _, _, .drop hp⟩

/-- Past `stop <= AtSweep` and `stop == FinishCycle` only `Full` is left: the
    `assert!(stop == Stop::Full)` of the loop cannot fire. -/
theorem stop_full (h1 : ¬ stop ≤ Stop.atSweep) (h2 : stop ≠ .finishCycle) : stop = .full := by
  cases stop
  · exact absurd (by decide) h1
  · exact absurd (by decide) h1
  · exact absurd rfl h2
  · rfl

theorem Arm.eq (a : Arm root ru stop fault c hs k c1 hs1 k1 e) (fuel : Nat) :
    Ctx.collectLoop root ru stop fault (fuel + 1) c hs k =
      match (generalizing := false) e with
      | some ex => (c1, ex)
      | none => Ctx.collectLoop root ru stop fault fuel c1 hs1 k1 := by
  conv => lhs; unfold Ctx.collectLoop
  cases a with
  | wake hp =>
    simp only [hp, Ctx.debtExit]
    split <;> rfl
  | mark hp hg hf =>
    simp only [hp, hg, if_true, Ctx.debtExit]
    rw [show c.markOne root (faultAt fault k) = (_, .continue) from Prod.ext rfl hf]
    simp only
    split <;> rfl
  | unwind hp hg hf =>
    simp only [hp, hg, if_true]
    rw [show c.markOne root (faultAt fault k) = (_, .unwind) from Prod.ext rfl hf]
  | marked hp hg hst => simp only [hp, markOne_break _ hg, hst, if_true]
  | toSweep hp hg hst =>
    simp only [hp, markOne_break _ hg, hg, hst, if_false, Bool.false_eq_true, Ctx.debtExit]
    split <;> rfl
  | atSweep hp hst => simp only [hp, hst, if_true]
  | sweep hp hst hr =>
    simp only [hp, hst, if_false, Ctx.debtExit]
    rw [show c.sweepOne = (_, .continue) from Prod.ext rfl (sweepOne_flow hr)]
    simp only
    split <;> rfl
  | toSleep hp hst hr =>
    simp only [hp, hst, if_false, sweepOne_end hr, Ctx.debtExit]
    by_cases hfc : stop = .finishCycle
    · simp only [hfc, true_or, if_true]
    · cases stop_full hst hfc
      cases hs
      · simp only [reduceCtorEq, Bool.false_eq_true, or_self, if_false]
        split <;> rfl
      · simp only [reduceCtorEq, or_true, if_true, if_false]
  | drop hp => simp only [hp]

theorem collectLoop_succ (root ru stop fault) (fuel : Nat) (c : Ctx) (hs : Bool) (k : Nat) :
    ∃ c1 hs1 k1 e, Arm root ru stop fault c hs k c1 hs1 k1 e ∧
      Ctx.collectLoop root ru stop fault (fuel + 1) c hs k =
        match e with
        | some ex => (c1, ex)
        | none => Ctx.collectLoop root ru stop fault fuel c1 hs1 k1 := by
  obtain ⟨c1, hs1, k1, e, a⟩ := Arm.total root ru stop fault c hs k
  exact ⟨c1, hs1, k1, e, a, a.eq fuel⟩

/-- Induction over the iterations of the loop: `I` holds of the fuel and loop variables at the head
    of every iteration, `Q` of the state and exit the loop ends with. -/
theorem collectLoop_induct {I : Nat → Ctx → Bool → Nat → Prop} {Q : Ctx → Exit → Prop}
    (h0 : ∀ c hs k, I 0 c hs k → Q c .outOfFuel)
    (hexit : ∀ n c hs k c1 hs1 k1 ex, I (n + 1) c hs k →
      Arm root ru stop fault c hs k c1 hs1 k1 (some ex) → Q c1 ex)
    (hnext : ∀ n c hs k c1 hs1 k1, I (n + 1) c hs k →
      Arm root ru stop fault c hs k c1 hs1 k1 none → I n c1 hs1 k1) :
    ∀ fuel c hs k, I fuel c hs k →
      Q (Ctx.collectLoop root ru stop fault fuel c hs k).1
        (Ctx.collectLoop root ru stop fault fuel c hs k).2 := by
  intro fuel
  induction fuel with
  | zero => intro c hs k hi; exact h0 c hs k hi
  | succ n ih =>
    intro c hs k hi
    obtain ⟨c1, hs1, k1, e, a, heq⟩ := collectLoop_succ root ru stop fault n c hs k
    rw [heq]
    cases e with
    | some ex => exact hexit n c hs k c1 hs1 k1 ex hi a
    | none => exact ih c1 hs1 k1 (hnext n c hs k c1 hs1 k1 hi a)

/-- The same for a loop whose result is given by an equation, with an invariant that does not
    mention the fuel. -/
theorem collectLoop_induct' {I : Ctx → Bool → Nat → Prop} {Q : Ctx → Exit → Prop}
    (h0 : ∀ c hs k, I c hs k → Q c .outOfFuel)
    (hexit : ∀ c hs k c1 hs1 k1 ex, I c hs k →
      Arm root ru stop fault c hs k c1 hs1 k1 (some ex) → Q c1 ex)
    (hnext : ∀ c hs k c1 hs1 k1, I c hs k →
      Arm root ru stop fault c hs k c1 hs1 k1 none → I c1 hs1 k1)
    {fuel : Nat} {c c' : Ctx} {hs : Bool} {k : Nat} {ex : Exit} (hi : I c hs k)
    (h : Ctx.collectLoop root ru stop fault fuel c hs k = (c', ex)) : Q c' ex := by
  have := collectLoop_induct (I := fun _ => I) (Q := Q) (root := root) (ru := ru) (stop := stop)
    (fault := fault) h0 (fun _ => hexit) (fun _ => hnext) fuel c hs k hi
  rwa [h] at this

/-- Every arm is one or two enabled micro-steps (the `Drop` arm is none: the loop never runs in
    that phase). -/
theorem Arm.reaches (a : Arm root ru stop fault c hs k c1 hs1 k1 e) (hd : c.phase ≠ .drop) :
    Reaches c root c1 := by
  cases a with
  | wake hp => exact .step .wake (micro_iff.mpr (.wake hp))
  | mark hp hg hf => exact .step (.markStep _) (micro_iff.mpr (.markStep _ hp hg))
  | unwind hp hg hf => exact .step (.markStep _) (micro_iff.mpr (.markStep _ hp hg))
  | marked hp hg hst => exact .step .markBreak (micro_iff.mpr (.markBreak hp hg))
  | toSweep hp hg hst =>
    exact (Reaches.step .markBreak (micro_iff.mpr (.markBreak hp hg))).trans
      (.step .toSweep (micro_iff.mpr (.toSweep hp hg)))
  | atSweep hp hst => exact .refl c root
  | sweep hp hst hr => exact .step .sweepStep (micro_iff.mpr (.sweepStep hp hr))
  | toSleep hp hst hr =>
    exact (Reaches.step .sweepEnd (micro_iff.mpr (.sweepEnd hp hr))).trans
      (.step (.toSleep hs) (micro_iff.mpr (.toSleep hs hp hr)))
  | drop hp => exact absurd hp hd

theorem Arm.inv (a : Arm root ru stop fault c hs k c1 hs1 k1 e) (h : CInv c root []) :
    CInv c1 root [] :=
  (a.reaches h.notDrop).inv h

theorem Arm.exit_cases {ex : Exit} (a : Arm root ru stop fault c hs k c1 hs1 k1 (some ex)) :
    ex = .returned ∨ (ex = .unwound ∧ (c.markOne root (faultAt fault k)).2 = .unwind) := by
  generalize hex : some ex = e at a
  cases a with
  | wake | mark | toSweep | sweep => exact .inl (debtExit_eq_some.mp hex.symm).2
  | marked | atSweep | drop => cases hex; exact .inl rfl
  | unwind hp hg hf => cases hex; exact .inr ⟨rfl, hf⟩
  | toSleep =>
    split at hex
    · cases hex; exact .inl rfl
    · exact .inl (debtExit_eq_some.mp hex.symm).2

theorem Arm.exit_ne_outOfFuel {ex : Exit} (a : Arm root ru stop fault c hs k c1 hs1 k1 (some ex)) :
    ex ≠ .outOfFuel := by
  rcases a.exit_cases with h | ⟨h, _⟩ <;> simp [h]

/-- Where a call that returned normally stopped: the debt test let it go, or it sits at its `Stop`
    (or it was made in the `Drop` phase, in which the loop never runs). -/
theorem collectLoop_exit {fuel : Nat} {c' : Ctx}
    (h : Ctx.collectLoop root ru stop fault fuel c hs k = (c', .returned)) :
    c'.debtBreak ru = true ∨ (stop ≤ Stop.fullyMarked ∧ Arena.isMarked c' = true) ∨
      (stop ≤ Stop.atSweep ∧ c'.phase = .sweep) ∨
      (∃ c1 b, c' = Ctx.enterSleep c1 b ∧ (stop = .finishCycle ∨ b = true)) ∨
      (c'.phase = .drop ∧ c'.err ≠ none) := by
  refine collectLoop_induct' (root := root) (ru := ru) (stop := stop) (fault := fault)
    (I := fun _ _ _ => True)
    (Q := fun c' ex => ex = .returned → c'.debtBreak ru = true ∨
      (stop ≤ Stop.fullyMarked ∧ Arena.isMarked c' = true) ∨ (stop ≤ Stop.atSweep ∧ c'.phase = .sweep) ∨
      (∃ c1 b, c' = Ctx.enterSleep c1 b ∧ (stop = .finishCycle ∨ b = true)) ∨
      (c'.phase = .drop ∧ c'.err ≠ none))
    (fun _ _ _ _ hx => nomatch hx) ?_ (fun _ _ _ _ _ _ _ _ => trivial) trivial h rfl
  intro c hs k c1 hs1 k1 ex _ a hret
  subst hret
  generalize hex : some Exit.returned = e at a
  cases a with
  | wake | mark | toSweep | sweep => exact .inl (debtExit_eq_some.mp hex.symm).1
  | unwind => cases hex
  | marked hp hg hst =>
    exact .inr (.inl ⟨hst, isMarked_iff.mpr ⟨hp, hg⟩⟩)
  | atSweep hp hst => exact .inr (.inr (.inl ⟨hst, hp⟩))
  | toSleep hp hst hr =>
    split at hex
    · rename_i hc; exact .inr (.inr (.inr (.inl ⟨_, _, rfl, hc⟩)))
    · exact .inl (debtExit_eq_some.mp hex.symm).1
  | drop hp =>
    refine .inr (.inr (.inr (.inr ?_)))
    unfold Ctx.fail
    split
    · exact ⟨hp, by simp⟩
    · rename_i he; exact ⟨hp, by simp [he]⟩

/-- A call is the early return `if run_until == PayDebt && !(debt > 0.0) { return }`, or the loop
    from `has_slept = false`. -/
theorem doCollection_cases (c : Ctx) (root ru stop fault) :
    (ru = .payDebt ∧ c.metrics.hasDebt = false ∧ c.doCollection root ru stop fault = (c, .returned)) ∨
    ((ru = .payDebt → c.metrics.hasDebt = true) ∧ c.doCollection root ru stop fault =
      Ctx.collectLoop root ru stop fault (2 * c.fuelBound root + 8) c false 0) := by
  unfold Ctx.doCollection
  cases ru <;> cases c.metrics.hasDebt <;> simp

/-- Where a call that returned normally stopped: with no debt to pay (at once, or not parked at the
    end of the sweep list), or at its `Stop`, or it was made in the `Drop` phase. -/
theorem doCollection_exit {c' : Ctx} (h : c.doCollection root ru stop fault = (c', .returned)) :
    (ru = .payDebt ∧ c'.metrics.hasDebt = false ∧ (c' = c ∨ ¬ (c'.phase = .sweep ∧ c'.rest = []))) ∨
      (stop ≤ Stop.fullyMarked ∧ Arena.isMarked c' = true) ∨ (stop ≤ Stop.atSweep ∧ c'.phase = .sweep) ∨
      (∃ c1 b, c' = Ctx.enterSleep c1 b ∧ (stop = .finishCycle ∨ b = true)) ∨
      (c'.phase = .drop ∧ c'.err ≠ none) := by
  rcases doCollection_cases c root ru stop fault with ⟨hru, hnd, he⟩ | ⟨_, he⟩ <;> rw [he] at h
  · cases h; exact .inl ⟨hru, hnd, .inl rfl⟩
  · rcases collectLoop_exit h with hb | rest
    · obtain ⟨hru, hnd, hnp⟩ := debtBreak_iff.mp hb
      exact .inl ⟨hru, hnd, .inr hnp⟩
    · exact .inr rest

end GcArena
