import GcArena.Proofs.MarkOne
import GcArena.Proofs.Sweep
/-!
  The micro-steps of the driver loop in rule form (`MicroStep`, `micro_iff`), each of which
  preserves the invariant, and the induction over sequences of them (`micros_rel`, `micros_lift`).
  That every run of `Context::do_collection` is such a sequence is `collectLoop_reaches`
  (Proofs/Step).
-/
namespace GcArena

theorem markOne_break {c : Ctx} {root} (f : Option Nat) (hg : c.grayRemaining = false) :
    c.markOne root f = (c.step 'b', .break) := by
  obtain ⟨hg, hga, hr⟩ := Ctx.grayRemaining_eq_false.mp hg
  simp [Ctx.markOne, hg, hga, hr]

theorem markObj_flow (c : Ctx) (i : Nat) (f : Option Nat) : (c.markObj i f).2 ≠ .break := by
  unfold Ctx.markObj
  simp only
  split
  · simp
  · split <;> simp

theorem markOne_not_break {c : Ctx} {root} (f : Option Nat) (hg : c.grayRemaining = true) :
    (c.markOne root f).2 ≠ .break := by
  rcases markOne_cases c root f with ⟨i, g, ga, _, _, e⟩ | ⟨_, e⟩ | ⟨hg', _⟩
  · rw [e]; exact markObj_flow _ _ _
  · rw [e]; cases f <;> simp
  · rw [hg'] at hg; cases hg

theorem sweepOne_end {c : Ctx} (hr : c.rest = []) : c.sweepOne = (c.step 'e', .break) := by
  simp [Ctx.sweepOne, hr]

theorem sweepOne_flow {c : Ctx} (hr : c.rest ≠ []) : c.sweepOne.2 = .continue := by
  unfold Ctx.sweepOne
  cases h : c.rest with
  | nil => exact absurd h hr
  | cons i r =>
    simp only
    split
    · rfl
    · split <;> rfl

/-- The enabled micro-steps of the driver loop in rule form: what `Ctx.micro` demands of the state
    and what it returns. -/
inductive MicroStep (root : List Slot) (c : Ctx) : Micro → Ctx → Prop
  | wake (hp : c.phase = .sleep) : MicroStep root c .wake (c.switch .mark)
  | markStep (f : Option Nat) (hp : c.phase = .mark) (hg : c.grayRemaining = true) :
      MicroStep root c (.markStep f) (c.markOne root f).1
  | markBreak (hp : c.phase = .mark) (hg : c.grayRemaining = false) :
      MicroStep root c .markBreak (c.step 'b')
  | toSweep (hp : c.phase = .mark) (hg : c.grayRemaining = false) : MicroStep root c .toSweep c.enterSweep
  | sweepStep (hp : c.phase = .sweep) (hr : c.rest ≠ []) : MicroStep root c .sweepStep c.sweepOne.1
  | sweepEnd (hp : c.phase = .sweep) (hr : c.rest = []) : MicroStep root c .sweepEnd (c.step 'e')
  | toSleep (hs : Bool) (hp : c.phase = .sweep) (hr : c.rest = []) :
      MicroStep root c (.toSleep hs) (c.enterSleep hs)

theorem micro_iff {c c' : Ctx} {root} {m : Micro} : c.micro root m = some c' ↔ MicroStep root c m c' := by
  constructor
  · intro hs
    cases m <;> simp only [Ctx.micro] at hs <;> split at hs <;> cases hs <;> rename_i hp <;>
      (try simp only [Bool.and_eq_true, decide_eq_true_eq, List.isEmpty_iff, Bool.not_eq_eq_eq_not,
        Bool.not_true, List.isEmpty_eq_false_iff] at hp)
    · exact .wake hp
    · exact .markStep _ hp.1 hp.2
    · rw [markOne_break none hp.2]; exact .markBreak hp.1 hp.2
    · exact .toSweep hp.1 hp.2
    · exact .sweepStep hp.1 hp.2
    · rw [sweepOne_end hp.2]; exact .sweepEnd hp.1 hp.2
    · exact .toSleep _ hp.1 hp.2
  · intro h
    cases h <;> simp_all [Ctx.micro, markOne_break, sweepOne_end]

theorem MicroStep.kind {root : List Slot} {c c' : Ctx} {m : Micro} (st : MicroStep root c m c') :
    (c'.heap = c.heap ∧ c'.log = c.log) ∨ (c.phase = .mark ∧ ∃ f, c' = (c.markOne root f).1) ∨
      (c.phase = .sweep ∧ c' = c.sweepOne.1) := by
  cases st with
  | wake | markBreak | toSweep | sweepEnd | toSleep => exact .inl ⟨rfl, rfl⟩
  | markStep f hp => exact .inr (.inl ⟨hp, f, rfl⟩)
  | sweepStep hp => exact .inr (.inr ⟨hp, rfl⟩)

theorem micro_inv {c c' : Ctx} {root} (h : CInv c root []) (m : Micro)
    (hs : c.micro root m = some c') : CInv c' root [] := by
  cases micro_iff.mp hs with
  | wake hp => exact wake_spec h hp
  | markStep f hp hg => exact (markOne_spec h hp f).1
  | markBreak hp hg =>
    have := (markOne_spec (root := root) h hp none).1
    rwa [markOne_break none hg] at this
  | toSweep hp hg => exact enterSweep_spec h hp hg
  | sweepStep hp hr => exact (sweepOne_spec h hp).1
  | sweepEnd hp hr =>
    have := (sweepOne_spec h hp).1
    rwa [sweepOne_end hr] at this
  | toSleep b hp hr => exact enterSleep_spec h hp hr b

theorem micros_rel {R : Ctx → Ctx → Prop} {root} (refl : ∀ c, R c c)
    (trans : ∀ {x y z}, R x y → R y z → R x z)
    (step : ∀ {c c' m}, MicroStep root c m c' → R c c') (ms : List Micro) :
    ∀ {c c' : Ctx}, c.micros root ms = some c' → R c c' := by
  induction ms with
  | nil => intro c c' hs; cases hs; exact refl c
  | cons m ms ih =>
    intro c c' hs
    simp only [Ctx.micros] at hs
    split at hs
    · rename_i c1 hc1; exact trans (step (micro_iff.mp hc1)) (ih hs)
    · cases hs

/-- `micros_rel` for steps that relate only states satisfying the invariant: the run carries it along. -/
theorem micros_lift {R : Ctx → Ctx → Prop} {root} (refl : ∀ c, R c c)
    (trans : ∀ {x y z}, R x y → R y z → R x z)
    (step : ∀ {c c' m}, CInv c root [] → MicroStep root c m c' → R c c') (ms : List Micro)
    {c c' : Ctx} (h : CInv c root []) (hs : c.micros root ms = some c') : R c c' :=
  (micros_rel (R := fun c c' => CInv c root [] → CInv c' root [] ∧ R c c') (fun c h => ⟨h, refl c⟩)
    (fun h1 h2 h => let ⟨hy, r1⟩ := h1 h; let ⟨hz, r2⟩ := h2 hy; ⟨hz, trans r1 r2⟩)
    (fun st h => ⟨micro_inv h _ (micro_iff.mpr st), step h st⟩) ms hs h).2

theorem micros_inv {root} (ms : List Micro) {c c' : Ctx} (h : CInv c root [])
    (hs : c.micros root ms = some c') : CInv c' root [] :=
  micros_rel (R := fun c c' => CInv c root [] → CInv c' root []) (fun _ h => h)
    (fun h1 h2 h => h2 (h1 h)) (fun st h => micro_inv h _ (micro_iff.mpr st)) ms hs h

theorem micros_append {root} (ms1 ms2 : List Micro) : ∀ {c c1 : Ctx},
    c.micros root ms1 = some c1 → c.micros root (ms1 ++ ms2) = c1.micros root ms2 := by
  induction ms1 with
  | nil => intro c c1 h; cases h; rfl
  | cons m ms ih =>
    intro c c1 h
    simp only [Ctx.micros, List.cons_append] at h ⊢
    cases hc2 : c.micro root m with
    | none => rw [hc2] at h; cases h
    | some c2 =>
      rw [hc2] at h
      exact ih h

/-- A state reachable from `c` by enabled micro-steps. -/
def Reaches (c : Ctx) (root : List Slot) (c' : Ctx) : Prop := ∃ ms, c.micros root ms = some c'

theorem Reaches.refl (c : Ctx) (root) : Reaches c root c := ⟨[], rfl⟩

theorem Reaches.trans {a b c : Ctx} {root} (h1 : Reaches a root b) (h2 : Reaches b root c) :
    Reaches a root c := by
  obtain ⟨m1, h1⟩ := h1
  obtain ⟨m2, h2⟩ := h2
  exact ⟨m1 ++ m2, by rw [micros_append m1 m2 h1]; exact h2⟩

theorem Reaches.step {c c' : Ctx} {root} (m : Micro) (h : c.micro root m = some c') :
    Reaches c root c' := ⟨[m], by simp [Ctx.micros, h]⟩

theorem Reaches.inv {c c' : Ctx} {root} (r : Reaches c root c') (h : CInv c root []) :
    CInv c' root [] := by
  obtain ⟨ms, hs⟩ := r; exact micros_inv ms h hs

end GcArena
