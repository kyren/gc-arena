import GcArena.Proofs.Recolor
/-!
  `Context::trace` and `trace_weak` preserve the invariant.  On an allocated, live object the
  recolouring primitives return the state with that one cell recoloured (`trace_eq`,
  `traceWeak_eq`, `resurrect_eq`), so each is an instance of `CInvH.recolor_queue`.
-/
namespace GcArena

/-- `c'` marks at least what `c` marks and changes nothing else the invariant reads. -/
structure MarkMono (c c' : Ctx) : Prop where
  phase : c'.phase = c.phase
  rnt : c'.rootNeedsTrace = c.rootNeedsTrace
  pre : c'.pre = c.pre
  rest : c'.rest = c.rest
  log : c'.log = c.log
  mono : ∀ i o, c.heap.get i = some o → ∃ o', c'.heap.get i = some o' ∧ cls o.color ≤ cls o'.color ∧
            o'.slots = o.slots ∧ o'.live = o.live ∧ o'.needsTrace = o.needsTrace
  noNew : ∀ i o', c'.heap.get i = some o' → ∃ o, c.heap.get i = some o

theorem MarkMono.refl (c : Ctx) : MarkMono c c :=
  ⟨rfl, rfl, rfl, rfl, rfl, fun _ o ho => ⟨o, ho, Nat.le_refl _, rfl, rfl, rfl⟩, fun _ o' ho' => ⟨o', ho'⟩⟩

theorem MarkMono.trans {a b c : Ctx} (h1 : MarkMono a b) (h2 : MarkMono b c) : MarkMono a c := by
  refine ⟨h2.phase.trans h1.phase, h2.rnt.trans h1.rnt, h2.pre.trans h1.pre, h2.rest.trans h1.rest,
    h2.log.trans h1.log, ?_, ?_⟩
  · intro i o ho
    obtain ⟨o1, ho1, hc1, hs1, hl1, hn1⟩ := h1.mono i o ho
    obtain ⟨o2, ho2, hc2, hs2, hl2, hn2⟩ := h2.mono i o1 ho1
    exact ⟨o2, ho2, Nat.le_trans hc1 hc2, hs2.trans hs1, hl2.trans hl1, hn2.trans hn1⟩
  · intro i o' ho'
    obtain ⟨o1, ho1⟩ := h2.noNew i o' ho'
    exact h1.noNew i o1 ho1

theorem MarkMono.marked {c c' : Ctx} (h : MarkMono c c') {p : Ptr} (hp : PtrMarked c p) :
    PtrMarked c' p :=
  PtrMarked.mono (fun i o ho => let ⟨o', ho', hc, _⟩ := h.mono i o ho; ⟨o', ho', hc⟩) hp

theorem MarkMono.safe {c c' : Ctx} (h : MarkMono c c') (hm : c.phase = .mark) {i : Nat}
    (hs : Safe c i) : Safe c' i := by
  obtain ⟨o, ho, hl, _⟩ := hs
  obtain ⟨o', ho', _, _, hl', _⟩ := h.mono i o ho
  refine ⟨o', ho', hl'.trans hl, ?_⟩
  intro hp; rw [h.phase, hm] at hp; cases hp

theorem MarkMono.allocated {c c' : Ctx} (h : MarkMono c c') {i : Nat}
    (hs : ∃ o, c.heap.get i = some o) : ∃ o, c'.heap.get i = some o := by
  obtain ⟨o, ho⟩ := hs
  obtain ⟨o', ho', _⟩ := h.mono i o ho
  exact ⟨o', ho'⟩

theorem Recolored.markMono {c c' t o col} (r : Recolored c c' t o col) (hcls : cls o.color ≤ cls col)
    (hlog : c'.log = c.log) : MarkMono c c' := by
  refine ⟨r.phase, r.rnt, r.pre, r.rest, hlog, ?_, ?_⟩
  · intro i oi hoi
    rw [r.heap]
    by_cases hi : i = t
    · subst hi
      rw [r.get_t] at hoi; cases hoi
      exact ⟨{ o with color := col }, by simp, hcls, rfl, rfl, rfl⟩
    · exact ⟨oi, by simp [hi, hoi], Nat.le_refl _, rfl, rfl, rfl⟩
  · intro i o' ho'
    rw [r.heap] at ho'
    by_cases hi : i = t
    · subst hi; exact ⟨o, r.get_t⟩
    · simp [hi] at ho'; exact ⟨o', ho'⟩

/-- Recolouring an object that is not queued: the queues stay as they are, or — when the new colour
    is gray — gain exactly that object (on either of them). -/
theorem CInvH.recolor_queue {c c' : Ctx} {root temps hole} {t : Nat} {o : Obj} {col : Color}
    (h : CInvH c root temps hole) (hm : c.phase = .mark) (r : Recolored c c' t o col)
    (hcls : cls o.color ≤ cls col) (hlive : col = .gray ∨ col = .black → o.live = true)
    (hoc : o.color ≠ .gray)
    (hq : (c'.gray ++ c'.grayAgain).Perm
      (if col = .gray then t :: (c.gray ++ c.grayAgain) else c.gray ++ c.grayAgain))
    (hblack : col = .black → some t ≠ hole → ∀ p, some p ∈ o.slots → PtrMarked c' p) :
    CInvH c' root temps hole := by
  have hnq : t ∉ c.gray ++ c.grayAgain := by
    intro hmem
    obtain ⟨o', ho', hgr⟩ := h.qGray t (List.mem_append.mp hmem)
    rw [r.get_t] at ho'; cases ho'; exact hoc hgr
  refine h.recolor hm r hcls hlive (fun i => ?_) ?_ hblack
  · rw [← List.mem_append, ← List.mem_append, hq.mem_iff]
    by_cases hc : col = .gray
    · by_cases hi : i = t <;> simp [hc, hi, hnq]
    · have : i ∈ c.gray ++ c.grayAgain → i ≠ t := fun hm he => hnq (he ▸ hm)
      simp only [hc, if_false, and_false, or_false]
      exact ⟨fun hm => ⟨this hm, hm⟩, fun hm => hm.2⟩
  · rw [hq.nodup_iff]
    split
    · exact List.nodup_cons.mpr ⟨hnq, h.qNodup⟩
    · exact h.qNodup

/-! ### The primitives on an allocated, live object: what they return when no assertion fails -/

/-- `c` with `t` recoloured; `q = true` pushes `t` on the gray stack; `f` updates the counters. -/
abbrev Ctx.withColor (c : Ctx) (t : Nat) (o : Obj) (col : Color) (q : Bool) (f : Metrics → Metrics) : Ctx :=
  { c with heap := c.heap.set t (some { o with color := col }),
           gray := if q then t :: c.gray else c.gray, metrics := f c.metrics }

theorem Recolored.withColor {c : Ctx} {t : Nat} {o : Obj} (ho : c.heap.get t = some o) (col : Color)
    (q : Bool) {f : Metrics → Metrics} (hu : (f c.metrics).underflow = c.metrics.underflow)
    (ht : (f c.metrics).totalGcs = c.metrics.totalGcs) : Recolored c (c.withColor t o col q f) t o col :=
  ⟨ho, fun _ => Heap.get_set .., rfl, rfl, rfl, rfl, rfl, hu, ht⟩

/-- `if col == White { mark_gc_marked() }`. -/
def countIfWhite (o : Obj) : Metrics → Metrics := if o.color = .white then Metrics.markGcMarked else id

theorem countIfWhite_frame (o : Obj) (m : Metrics) :
    (countIfWhite o m).underflow = m.underflow ∧ (countIfWhite o m).totalGcs = m.totalGcs := by
  unfold countIfWhite; split <;> exact ⟨rfl, rfl⟩

theorem trace_eq {c : Ctx} {t : Nat} {o : Obj} (ho : c.heap.get t = some o) (hl : o.live = true)
    (hng : o.color ≠ .gray) (hnb : o.color ≠ .black) :
    c.trace t = if o.needsTrace = true then c.withColor t o .gray true (countIfWhite o)
      else c.withColor t o .black false (countIfWhite o) := by
  unfold Ctx.trace countIfWhite
  cases hc : o.color <;> cases hn : o.needsTrace <;>
    simp_all [Ctx.withColor, Ctx.setObj, Ctx.withMetrics]

theorem traceWeak_eq {c : Ctx} {t : Nat} {o : Obj} (ho : c.heap.get t = some o) (hw : o.color = .white) :
    c.traceWeak t = c.withColor t o .whiteWeak false Metrics.markGcMarked := by
  simp [Ctx.traceWeak, ho, hw, Ctx.withColor, Ctx.setObj, Ctx.withMetrics]

theorem resurrect_eq {c : Ctx} {t : Nat} {o : Obj} (ho : c.heap.get t = some o) (hm : c.phase = .mark)
    (hl : o.live = true) (hng : o.color ≠ .gray) (hnb : o.color ≠ .black) :
    c.resurrect t = c.withColor t o .gray true (countIfWhite o) := by
  unfold Ctx.resurrect countIfWhite
  cases hc : o.color <;> simp_all [Ctx.withColor, Ctx.setObj, Ctx.withMetrics]

/-- Colouring a live white or weakly marked object gray and pushing it on the gray stack. -/
theorem CInvH.queue {c : Ctx} {root temps hole} (h : CInvH c root temps hole) (hm : c.phase = .mark)
    {t : Nat} {o : Obj} (ho : c.heap.get t = some o) (hl : o.live = true) (hng : o.color ≠ .gray) :
    CInvH (c.withColor t o .gray true (countIfWhite o)) root temps hole ∧
      MarkMono c (c.withColor t o .gray true (countIfWhite o)) ∧
      PtrMarked (c.withColor t o .gray true (countIfWhite o)) (.strong t) := by
  have r := Recolored.withColor ho .gray true (countIfWhite_frame o _).1 (countIfWhite_frame o _).2
  exact ⟨h.recolor_queue hm r (cls_le_gray _) (fun _ => hl) hng (.refl _) (fun hc => by cases hc),
    r.markMono (cls_le_gray _) rfl,
    _, (r.heap t).trans (if_pos rfl), .inl rfl⟩

/-! ### `Context::trace_weak` -/

theorem traceWeak_spec {c : Ctx} {root temps hole} (h : CInvH c root temps hole) (hm : c.phase = .mark)
    {t : Nat} (ht : ∃ o, c.heap.get t = some o) :
    CInvH (c.traceWeak t) root temps hole ∧ MarkMono c (c.traceWeak t) ∧
      PtrMarked (c.traceWeak t) (.weak t) := by
  obtain ⟨o, ho⟩ := ht
  by_cases hw : o.color = .white
  · rw [traceWeak_eq ho hw]
    have r := Recolored.withColor (f := Metrics.markGcMarked) ho .whiteWeak false rfl rfl
    have hcls : cls o.color ≤ cls Color.whiteWeak := by simp [hw, cls]
    exact ⟨h.recolor_queue hm r hcls (by simp) (by simp [hw]) (.refl _) (fun hc => by cases hc),
      r.markMono hcls rfl, _, (r.heap t).trans (if_pos rfl), by simp⟩
  · rw [show c.traceWeak t = c by simp [Ctx.traceWeak, ho, hw]]
    exact ⟨h, MarkMono.refl c, o, ho, hw⟩

/-! ### `Context::trace` -/

theorem trace_spec {c : Ctx} {root temps hole} (h : CInvH c root temps hole) (hm : c.phase = .mark)
    {t : Nat} (ht : Safe c t) :
    CInvH (c.trace t) root temps hole ∧ MarkMono c (c.trace t) ∧
      PtrMarked (c.trace t) (.strong t) := by
  obtain ⟨o, ho, hlive, _⟩ := ht
  by_cases hmk : o.color = .gray ∨ o.color = .black
  · rw [show c.trace t = c by rcases hmk with hc | hc <;> simp [Ctx.trace, ho, hc]]
    exact ⟨h, MarkMono.refl c, o, ho, hmk⟩
  · have hng : o.color ≠ .gray := fun hc => hmk (.inl hc)
    rw [trace_eq ho hlive hng (fun hc => hmk (.inr hc))]
    split
    · exact h.queue hm ho hlive hng
    · rename_i hnt
      -- a leaf is blackened at once: it holds no pointers
      have r := Recolored.withColor ho .black false (countIfWhite_frame o _).1 (countIfWhite_frame o _).2
      have hcls : cls o.color ≤ cls Color.black := by cases hcol : o.color <;> simp [cls]
      refine ⟨h.recolor_queue hm r hcls (fun _ => hlive) hng (.refl _) ?_, r.markMono hcls rfl,
        _, (r.heap t).trans (if_pos rfl), .inr rfl⟩
      intro _ _ p hp
      cases h.leafNoPtr t o ho (by simpa using hnt) _ hp

end GcArena
