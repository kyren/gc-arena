import GcArena.Proofs.MarkOne
import GcArena.Proofs.Sweep
/-!
  Mutator-side primitives preserve the invariant: `link` (allocation), slot stores under the
  barrier premises, holding more / fewer pointers in the callback, root replacement.
-/
namespace GcArena

/-! ### Holding pointers in the callback -/

theorem CInvH.withTemps {c : Ctx} {root temps temps' hole} (h : CInvH c root temps hole)
    (ht : ∀ p, p ∈ temps' → PtrOK c p) : CInvH c root temps' hole :=
  { h with tempsOK := ht }

theorem CInvH.pushTemp {c : Ctx} {root temps hole} (h : CInvH c root temps hole) {p : Ptr}
    (hp : PtrOK c p) : CInvH c root (p :: temps) hole :=
  h.withTemps (fun q hq => by
    simp only [List.mem_cons] at hq
    rcases hq with hq | hq
    · subst hq; exact hp
    · exact h.tempsOK q hq)

theorem CInvH.clearTemps {c : Ctx} {root temps hole} (h : CInvH c root temps hole) :
    CInvH c root [] hole := h.withTemps (fun _ hq => by cases hq)

/-- `Gc::downgrade`: a weak pointer to a safe object is fine. -/
theorem weakOK_of_safe {c : Ctx} {t : Nat} (h : Safe c t) : WeakOK c t := by
  obtain ⟨o, ho, _, hb⟩ := h
  exact ⟨o, ho, fun hp hm => Or.inr (hb hp hm)⟩

/-- `GcWeak::upgrade` succeeding yields a safe object (C05 soundness, in every phase). -/
theorem safe_of_upgrade {c : Ctx} {t : Nat} (h : WeakOK c t) (hu : (c.upgrade t).2 = true) :
    Safe c t := by
  obtain ⟨o, ho, hw⟩ := h
  unfold Ctx.upgrade at hu
  simp only [ho] at hu
  cases hl : o.live with
  | false => simp [hl] at hu
  | true =>
    simp only [hl, Bool.not_true, Bool.false_eq_true, if_false] at hu
    refine ⟨o, ho, hl, ?_⟩
    intro hp hm
    rcases hw hp hm with hc | hc
    · simp [hp, hc] at hu
    · exact hc

theorem upgrade_ctx {c : Ctx} {t : Nat} (h : ∃ o, c.heap.get t = some o) : (c.upgrade t).1 = c := by
  obtain ⟨o, ho⟩ := h
  unfold Ctx.upgrade
  simp only [ho]
  split
  · rfl
  · split <;> rfl

/-! ### `Context::link` -/

theorem link_get (c : Ctx) (o : Obj) (j : Nat) :
    (c.link o).1.heap.get j = if j = c.heap.size then some o else c.heap.get j := by
  simp [Ctx.link, Heap.get_set, Heap.fresh]

theorem link_size (c : Ctx) (o : Obj) : (c.link o).1.heap.size = c.heap.size + 1 := by
  simp only [Ctx.link]
  rw [Heap.size_set]; simp [Heap.fresh]

theorem link_spec {c : Ctx} {root temps} (h : CInv c root temps) (nt : Bool) (slots : List Slot)
    (hs : ∀ p, some p ∈ slots → PtrOK c p) (hleaf : nt = false → ∀ s, s ∈ slots → s = none) :
    let o : Obj := { color := .white, needsTrace := nt, live := true, slots := slots }
    CInv (c.link o).1 root (.strong (c.link o).2 :: temps) ∧
      (∀ j, j ≠ c.heap.fresh → (c.link o).1.heap.get j = c.heap.get j) ∧
      (c.link o).1.heap.get c.heap.fresh = some o := by
  intro o
  have hfresh : c.heap.get c.heap.fresh = none := Heap.get_fresh _
  let i := c.heap.fresh
  have hget : ∀ j, (c.link o).1.heap.get j = if j = i then some o else c.heap.get j := link_get c o
  -- every old cell is still there
  have old : ∀ {t ot}, c.heap.get t = some ot → (c.link o).1.heap.get t = some ot := by
    intro t ot hot
    rw [hget, if_neg (fun he => by rw [he, hfresh] at hot; cases hot)]; exact hot
  have hi_nm : i ∉ c.pre ++ c.rest := fun hm => by
    obtain ⟨oi, hoi⟩ := (h.memAll i).mp hm
    rw [hfresh] at hoi; cases hoi
  have hptr : ∀ p, PtrOK c p → PtrOK (c.link o).1 p := by
    rintro (t | t) ⟨ot, hot, hb⟩
    · exact ⟨ot, old hot, hb⟩
    · exact ⟨ot, old hot, hb⟩
  have hmk : ∀ p, PtrMarked c p → PtrMarked (c.link o).1 p := by
    rintro (t | t) ⟨ot, hot, hc⟩
    · exact ⟨ot, old hot, hc⟩
    · exact ⟨ot, old hot, hc⟩
  refine ⟨?_, fun j hj => by rw [hget]; simp [hj, i], by rw [hget]; simp [i]⟩
  have hc : CInvH (c.link o).1 root temps none := by
    refine h.ofCell (hget := hget) (hphase := rfl) (hrnt := rfl) (herr := rfl)
      (hunder := by simpa [Ctx.link, Metrics.markGcAllocated] using h.noUnderflow)
      (hnodup := List.nodup_cons.mpr ⟨hi_nm, h.nodup⟩) (hall := fun j => ?_) (hrestNil := h.restNil)
      (hcount := by simp [Ctx.link, Metrics.markGcAllocated, h.count]) (hpre := fun j hj hji => ?_)
      (hq := fun _ _ => Iff.rfl) (hqi := ?_) (hqnd := h.qNodup) (hqm := h.qMark) (hx := ?_)
      (hmk := fun _ => hmk) (hptr := hptr) (hback := ?_)
    · show j ∈ i :: (c.pre ++ c.rest) ↔ _
      by_cases hj : j = i <;> simp [hj]
    · exact (List.mem_cons.mp hj).resolve_left hji
    · constructor
      · intro hq; obtain ⟨y, hy, _⟩ := h.qGray i hq
        rw [hfresh] at hy; cases hy
      · rintro ⟨y, hy, hg⟩; cases hy; cases hg
    · intro y hy
      cases hy
      exact ⟨fun hc => (by rcases hc with hc | hc <;> cases hc), fun hl => (by cases hl), hleaf,
        fun _ => rfl, fun _ _ => rfl, fun _ hb => (by cases hb), fun _ p hp => hptr p (hs p hp)⟩
    · rintro j hj ⟨ot, hot, hb⟩
      rw [hget, if_neg hj] at hot
      exact ⟨ot, hot, hb⟩
  refine { hc with tempsOK := ?_ }
  intro p hp
  rcases List.mem_cons.mp hp with rfl | hp
  · exact ⟨o, by rw [hget]; simp [Ctx.link, i], rfl,
      fun _ hm => absurd (List.mem_append_right _ hm) hi_nm⟩
  · exact hptr p (h.tempsOK p hp)


/-! ### Storing into a slot of an allocated object -/

/-- Replacing the slot list of object `p` (header flags untouched) keeps the invariant when every
    new entry was there before or (`hnew`) points to an allocated object that — if `p` is already
    black while marking — is marked, and `p`'s type may hold pointers at all. -/
theorem setSlots_spec {c : Ctx} {root temps} (h : CInv c root temps) {p : Nat} {o : Obj}
    (ho : c.heap.get p = some o) (slots' : List Slot)
    (hnew : ∀ q, some q ∈ slots' → some q ∈ o.slots ∨
      (PtrOK c q ∧ (c.phase = .mark → o.color = .black → PtrMarked c q) ∧ o.needsTrace = true))
    (hdead : o.live = false → slots' = []) :
    CInv (c.setObj p { o with slots := slots' }) root temps := by
  let x : Obj := { o with slots := slots' }
  have hget : ∀ j, (c.setObj p x).heap.get j = if j = p then some x else c.heap.get j := by simp [x]
  -- nothing the pointer predicates read changes: colour, liveness and allocation of every object
  have same : ∀ {P : Obj → Prop}, (∀ y : Obj, P { y with slots := slots' } ↔ P y) → ∀ t,
      (∃ y, (c.setObj p x).heap.get t = some y ∧ P y) ↔ ∃ y, c.heap.get t = some y ∧ P y := by
    intro P hP t
    rw [hget]
    by_cases ht : t = p
    · subst ht; simp only [if_true, ho, Option.some.injEq, exists_eq_left', x, hP]
    · simp only [ht, if_false]
  have hsafe : ∀ t, Safe (c.setObj p x) t ↔ Safe c t := fun t => same (P := fun y => y.live = true ∧
    (c.phase = .sweep → t ∈ c.rest → y.color = .black)) (fun _ => Iff.rfl) t
  have hptr : ∀ q, PtrOK (c.setObj p x) q ↔ PtrOK c q := by
    rintro (t | t)
    · exact hsafe t
    · exact same (P := fun y => c.phase = .sweep → t ∈ c.rest → y.color = .whiteWeak ∨ y.color = .black)
        (fun _ => Iff.rfl) t
  have hmk : ∀ q, PtrMarked (c.setObj p x) q ↔ PtrMarked c q := by
    rintro (t | t)
    · exact same (P := fun y => y.color = .gray ∨ y.color = .black) (fun _ => Iff.rfl) t
    · exact same (P := fun y => y.color ≠ .white) (fun _ => Iff.rfl) t
  refine h.ofCell (hget := hget) (hphase := rfl) (hrnt := rfl) (herr := rfl) (hunder := h.noUnderflow)
    (hnodup := h.nodup) (hall := fun j => ?_) (hrestNil := h.restNil) (hcount := h.count)
    (hpre := fun _ hj _ => hj) (hq := fun _ _ => Iff.rfl) (hqi := ?_) (hqnd := h.qNodup)
    (hqm := h.qMark) (hx := ?_) (hmk := fun _ q hq => (hmk q).mpr hq)
    (hptr := fun q hq => (hptr q).mpr hq) (hback := fun j _ hs => (hsafe j).mp hs)
  · by_cases hj : j = p
    · simp only [hj, if_true, Option.isSome_some, iff_true]; exact (h.memAll p).mpr ⟨o, ho⟩
    · simp only [hj, if_false]; exact Iff.rfl
  · constructor
    · intro hq; obtain ⟨y, hy, hg⟩ := h.qGray p hq
      rw [ho] at hy; cases hy; exact ⟨x, rfl, hg⟩
    · rintro ⟨y, hy, hg⟩; cases hy; exact h.grayQ p o ho hg
  · intro y hy
    cases hy
    refine ⟨h.markedLive p o ho, hdead, fun hc s hs => ?_, fun hs => h.sleepWhite hs p o ho,
      fun hs hj => h.preWhite hs p hj o ho, fun hm hb hh q hq => (hmk q).mpr ?_,
      fun hs q hq => (hptr q).mpr ?_⟩
    · cases s with
      | none => rfl
      | some q =>
        rcases hnew q hs with hold | ⟨_, _, hnt⟩
        · exact h.leafNoPtr p o ho hc _ hold
        · rw [show o.needsTrace = false from hc] at hnt; cases hnt
    · rcases hnew q hq with hold | ⟨_, hmq, _⟩
      · exact h.tri hm p o ho hb hh q hold
      · exact hmq hm hb
    · rcases hnew q hq with hold | ⟨hok, _, _⟩
      · exact h.closed p o ho ((hsafe p).mp hs) q hold
      · exact hok

theorem mem_set_slot {l : List Slot} {i : Nat} {v : Slot} {q : Ptr} (h : some q ∈ l.set i v) :
    some q ∈ l ∨ v = some q := by
  rcases List.mem_or_eq_of_mem_set h with h | h
  · exact Or.inl h
  · exact Or.inr h.symm

/-- The slot store performed by every write path (`Arena.setSlot`). -/
theorem setSlot_spec {c : Ctx} {root temps} (h : CInv c root temps) {p i : Nat} {v : Slot} {o : Obj}
    (ho : c.heap.get p = some o) (hlive : o.live = true)
    (hv : ∀ q, v = some q → PtrOK c q ∧ (c.phase = .mark → o.color = .black → PtrMarked c q) ∧
      o.needsTrace = true) :
    CInv (Arena.setSlot c p i v) root temps := by
  unfold Arena.setSlot
  simp only [ho]
  apply setSlots_spec h ho
  · intro q hq
    rcases mem_set_slot hq with hq | hq
    · exact Or.inl hq
    · exact Or.inr (hv q hq)
  · intro hd; rw [hlive] at hd; cases hd

/-! ### Root replacement (`mutate_root`) -/

theorem setRoot_spec {c : Ctx} {root temps} (h : CInv c root temps) (root' : List Slot)
    (hnew : ∀ q, some q ∈ root' → some q ∈ root ∨ PtrOK c q)
    (hrnt : c.phase = .mark → c.rootNeedsTrace = true) : CInv c root' temps := by
  refine { h with triRoot := ?_, rootOK := ?_ }
  · intro hm hr; rw [hrnt hm] at hr; cases hr
  · intro q hq
    rcases hnew q hq with hq | hq
    · exact h.rootOK q hq
    · exact hq

end GcArena
