import GcArena.Model.DynRoots
/-
  The slot table of a `DynamicRootSet` (src/dynamic_roots.rs) holds one occupied slot per live stash,
  with a reference count one less than the number of live handles of that stash, and threads the
  vacant slots on a free list.  `SlotsOK` says this of one table against the multiset of live
  handles, `Inv` of a whole state, together with the ghost stash ids that tell stashes apart.
  `Slots::add` / `inc` / `dec` change a table at one index only, so each is shown to preserve
  `SlotsOK` through `SlotsOK.update`; `step` is put in rule form (`Step`), with `next_sets` for what a
  call does to the tables, and `Inv` follows along every history (`inv_run`).  Props/C14.lean reads
  the clauses of C14 off the invariant.
-/
namespace GcArena.DynRoots

/-- `Chain slots head l`: following `next_free` from `head` visits exactly the indices `l`, in
this order, every one a `Vacant` slot, and ends at `NULL_INDEX`. -/
inductive Chain (slots : List Slot) : Nat → List Nat → Prop
  | nil : Chain slots nullIndex []
  | cons {i nx : Nat} {l : List Nat} :
      i ≠ nullIndex → slots[i]? = some (.vacant nx) → Chain slots nx l → Chain slots i (i :: l)

def cnt (hs : List Handle) (s i : Nat) : Nat :=
  hs.countP (fun h => decide (h.set = s ∧ h.index = i))

theorem cnt_cons (h : Handle) (hs : List Handle) (s i : Nat) :
    cnt (h :: hs) s i = cnt hs s i + (if h.set = s ∧ h.index = i then 1 else 0) := by
  unfold cnt
  rw [List.countP_cons]
  simp

theorem cnt_erase {h : Handle} {hs : List Handle} (hm : h ∈ hs) (s i : Nat) :
    cnt (hs.erase h) s i + (if h.set = s ∧ h.index = i then 1 else 0) = cnt hs s i := by
  have := (List.perm_cons_erase hm).countP_eq (fun h => decide (h.set = s ∧ h.index = i))
  unfold cnt
  rw [this, List.countP_cons]
  simp

theorem cnt_pos {hs : List Handle} {s i : Nat} :
    0 < cnt hs s i ↔ ∃ h ∈ hs, h.set = s ∧ h.index = i := by
  unfold cnt
  rw [List.countP_pos_iff]
  simp

theorem cnt_eq_zero {hs : List Handle} {s i : Nat} :
    cnt hs s i = 0 ↔ ∀ h ∈ hs, ¬ (h.set = s ∧ h.index = i) := by
  unfold cnt
  rw [List.countP_eq_zero]
  simp

theorem Chain.null_inv {slots : List Slot} {l : List Nat} (h : Chain slots nullIndex l) : l = [] := by
  cases h with
  | nil => rfl
  | cons hi _ _ => exact absurd rfl hi

theorem Chain.head_inv {slots : List Slot} {i : Nat} {l : List Nat} (h : Chain slots i l)
    (hi : i ≠ nullIndex) :
    ∃ nx l', l = i :: l' ∧ slots[i]? = some (.vacant nx) ∧ Chain slots nx l' := by
  cases h with
  | nil => exact absurd rfl hi
  | cons _ hv hc => exact ⟨_, _, rfl, hv, hc⟩

theorem Chain.set_of_not_mem {slots : List Slot} {i : Nat} {l : List Nat} (h : Chain slots i l)
    (j : Nat) (x : Slot) (hj : j ∉ l) : Chain (slots.set j x) i l := by
  induction h with
  | nil => exact .nil
  | @cons i nx l hi hv _ ih =>
    have hne : j ≠ i := by
      intro e; subst e; simp at hj
    refine .cons hi ?_ (ih (by simp at hj; exact hj.2))
    rw [List.getElem?_set_ne hne]; exact hv

theorem Chain.append {slots : List Slot} {i : Nat} {l : List Nat} (h : Chain slots i l)
    (x : Slot) : Chain (slots ++ [x]) i l := by
  induction h with
  | nil => exact .nil
  | @cons i nx l hi hv _ ih =>
    refine .cons hi ?_ ih
    have hlt : i < slots.length := by
      have := (List.getElem?_eq_some_iff.1 hv); exact this.1
    rw [List.getElem?_append_left hlt]; exact hv

theorem Chain.mem_vacant {slots : List Slot} {i : Nat} {l : List Nat} (h : Chain slots i l) :
    ∀ j ∈ l, ∃ nx, slots[j]? = some (.vacant nx) := by
  induction h with
  | nil => intro j hj; simp at hj
  | @cons i nx l hi hv _ ih =>
    intro j hj
    simp at hj
    rcases hj with rfl | hj
    · exact ⟨nx, hv⟩
    · exact ih j hj

theorem Slots.mem_traced {sl : Slots} {p : Nat} :
    p ∈ sl.traced ↔ ∃ (i c : Nat), sl.slots[i]? = some (.occupied p c) := by
  have hx : ∀ x : Slot, x.traced = some p ↔ ∃ c, x = .occupied p c := fun x => by
    cases x <;> simp [Slot.traced]
  unfold Slots.traced
  rw [List.mem_filterMap]
  simp only [List.mem_iff_getElem?, hx]
  constructor
  · rintro ⟨_, ⟨i, hi⟩, c, rfl⟩; exact ⟨i, c, hi⟩
  · rintro ⟨i, c, hi⟩; exact ⟨_, ⟨i, hi⟩, c, rfl⟩

theorem Slots.add_ok_iff {sl sl' : Slots} {p idx : Nat} :
    sl.add p = .ok (sl', idx) ↔
      (sl.nextFree ≠ nullIndex ∧ idx = sl.nextFree ∧ ∃ nf, sl.slots[idx]? = some (.vacant nf) ∧
        sl' = ⟨sl.slots.set idx (.occupied p 0), nf⟩) ∨
      (sl.nextFree = nullIndex ∧ sl.slots.length < nullIndex ∧ idx = sl.slots.length ∧
        sl' = ⟨sl.slots ++ [.occupied p 0], sl.nextFree⟩) := by
  unfold Slots.add
  constructor
  · intro h
    split at h
    · next hn =>
      dsimp only at h
      split at h
      · cases h
      · next nf hv => cases h; exact .inl ⟨hn, rfl, nf, hv, rfl⟩
      · cases h
    · next hn =>
      split at h
      · cases h
      · next hl => cases h; exact .inr ⟨Decidable.not_not.1 hn, Nat.not_le.1 hl, rfl, rfl⟩
  · rintro (⟨hn, rfl, nf, hv, rfl⟩ | ⟨hn, hl, rfl, rfl⟩)
    · simp [hn, hv]
    · simp [hn, Nat.not_le.2 hl]

theorem Slots.inc_ok_iff {sl sl' : Slots} {i : Nat} :
    sl.inc i = .ok sl' ↔ ∃ r c, sl.slots[i]? = some (.occupied r c) ∧
      sl' = ⟨sl.slots.set i (.occupied r (c + 1)), sl.nextFree⟩ := by
  unfold Slots.inc
  constructor
  · intro h
    split at h
    · cases h
    · next r c hv => cases h; exact ⟨r, c, hv, rfl⟩
    · cases h
  · rintro ⟨r, c, hv, rfl⟩
    simp [hv]

theorem Slots.dec_ok_iff {sl sl' : Slots} {i : Nat} :
    sl.dec i = .ok sl' ↔ ∃ r c, sl.slots[i]? = some (.occupied r c) ∧
      sl' = if c = 0 then ⟨sl.slots.set i (.vacant sl.nextFree), i⟩
            else ⟨sl.slots.set i (.occupied r (c - 1)), sl.nextFree⟩ := by
  unfold Slots.dec
  constructor
  · intro h
    split at h
    · cases h
    · next r c hv =>
      refine ⟨r, c, hv, ?_⟩
      by_cases hc : c = 0
      · rw [if_pos hc] at h ⊢; cases h; rfl
      · rw [if_neg hc] at h ⊢; cases h; rfl
    · cases h
  · rintro ⟨r, c, hv, rfl⟩
    simp only [hv]
    split <;> rfl


/-- The table `sl` of set `s` refines the multiset `hs` of live handles. -/
structure SlotsOK (s : Nat) (sl : Slots) (hs : List Handle) : Prop where
  /-- the slot of a live handle is occupied by the handle's pointer -/
  occ : ∀ h ∈ hs, h.set = s → ∃ c, sl.slots[h.index]? = some (.occupied h.ptr c)
  /-- `ref_count + 1` = number of live handles of that slot -/
  count : ∀ i r c, sl.slots[i]? = some (.occupied r c) → cnt hs s i = c + 1
  /-- the free list is a duplicate-free chain through exactly the vacant slots -/
  free : ∃ l, Chain sl.slots sl.nextFree l ∧ l.Nodup ∧
          ∀ i, i ∈ l ↔ ∃ nx, sl.slots[i]? = some (.vacant nx)
  /-- `NULL_INDEX` is not a valid index -/
  len : sl.slots.length ≤ nullIndex

theorem SlotsOK.new (s : Nat) (hs : List Handle) (hno : ∀ h ∈ hs, h.set ≠ s) :
    SlotsOK s Slots.new hs := by
  refine ⟨?_, ?_, ⟨[], .nil, List.nodup_nil, ?_⟩, ?_⟩
  · intro h hm he; exact absurd he (hno h hm)
  · intro i r c h; simp [Slots.new] at h
  · intro i; simp [Slots.new]
  · simp [Slots.new]

theorem lt_of_getElem?_some {α} {l : List α} {i : Nat} {a : α} (h : l[i]? = some a) :
    i < l.length := (List.getElem?_eq_some_iff.1 h).1

theorem getElem?_concat_ne {α} {l : List α} {x : α} {j : Nat} (hj : j ≠ l.length) :
    (l ++ [x])[j]? = l[j]? := by
  rcases Nat.lt_or_gt_of_ne hj with h | h
  · exact List.getElem?_append_left h
  · rw [List.getElem?_eq_none (by rw [List.length_append]; exact h),
      List.getElem?_eq_none (Nat.le_of_lt h)]

theorem SlotsOK.cons_other {s : Nat} {sl : Slots} {hs : List Handle} (ok : SlotsOK s sl hs)
    (h : Handle) (hne : h.set ≠ s) : SlotsOK s sl (h :: hs) := by
  refine ⟨?_, ?_, ok.free, ok.len⟩
  · intro h' hm he
    simp at hm
    rcases hm with rfl | hm
    · exact absurd he hne
    · exact ok.occ h' hm he
  · intro i r c hv
    rw [cnt_cons, ok.count i r c hv]
    simp [hne]

theorem SlotsOK.erase_other {s : Nat} {sl : Slots} {hs : List Handle} (ok : SlotsOK s sl hs)
    (h : Handle) (hne : h.set ≠ s) : SlotsOK s sl (hs.erase h) := by
  refine ⟨?_, ?_, ok.free, ok.len⟩
  · intro h' hm he
    exact ok.occ h' (List.mem_of_mem_erase hm) he
  · intro i r c hv
    by_cases hm : h ∈ hs
    · have := cnt_erase hm s i
      rw [ok.count i r c hv] at this
      simp [hne] at this
      exact this
    · rw [List.erase_of_not_mem hm]; exact ok.count i r c hv

theorem mem_cons_of_mem_self {h x : Handle} {hs : List Handle} (hm : h ∈ hs)
    (hx : x ∈ h :: hs) : x ∈ hs := by
  rcases List.mem_cons.1 hx with rfl | hx
  · exact hm
  · exact hx

/-- The refinement for a table and a handle list that differ from good ones at index `i` only:
what concerns `i` is asked for, the rest is carried over. -/
theorem SlotsOK.update {s : Nat} {sl : Slots} {hs hs' : List Handle} (ok : SlotsOK s sl hs) (i : Nat)
    {slots' : List Slot} {nf' : Nat}
    (hslots : ∀ j, j ≠ i → slots'[j]? = sl.slots[j]?)
    (hold : ∀ h ∈ hs', h.set = s → h.index ≠ i → h ∈ hs)
    (hcnt : ∀ j, j ≠ i → cnt hs' s j = cnt hs s j)
    (hocc : ∀ h ∈ hs', h.set = s → h.index = i → ∃ c, slots'[i]? = some (.occupied h.ptr c))
    (hcount : ∀ r c, slots'[i]? = some (.occupied r c) → cnt hs' s i = c + 1)
    (hfree : ∃ l, Chain slots' nf' l ∧ l.Nodup ∧ ∀ j, j ∈ l ↔ ∃ nx, slots'[j]? = some (.vacant nx))
    (hlen : slots'.length ≤ nullIndex) : SlotsOK s ⟨slots', nf'⟩ hs' := by
  refine ⟨fun h hm hset => ?_, fun j r c hv => ?_, hfree, hlen⟩
  · by_cases hi : h.index = i
    · rw [hi]; exact hocc h hm hset hi
    · rw [show (Slots.mk slots' nf').slots[h.index]? = sl.slots[h.index]? from hslots _ hi]
      exact ok.occ h (hold h hm hset hi) hset
  · by_cases hj : j = i
    · subst hj; exact hcount r c hv
    · rw [hcnt j hj]
      exact ok.count j r c ((hslots j hj).symm.trans hv)

theorem SlotsOK.cnt_zero {s : Nat} {sl : Slots} {hs : List Handle} (ok : SlotsOK s sl hs) {i : Nat}
    (hi : ∀ r c, sl.slots[i]? ≠ some (.occupied r c)) : cnt hs s i = 0 := by
  rw [cnt_eq_zero]
  rintro h hm ⟨hset, rfl⟩
  obtain ⟨c, hv⟩ := ok.occ h hm hset
  exact hi _ _ hv

theorem SlotsOK.fill {s : Nat} {sl : Slots} {hs : List Handle} (ok : SlotsOK s sl hs) {i p : Nat}
    (g : Nat) {slots' : List Slot} {nf' : Nat} (hi : ∀ r c, sl.slots[i]? ≠ some (.occupied r c))
    (hi' : slots'[i]? = some (.occupied p 0)) (hslots : ∀ j, j ≠ i → slots'[j]? = sl.slots[j]?)
    (hfree : ∃ l, Chain slots' nf' l ∧ l.Nodup ∧ ∀ j, j ∈ l ↔ ∃ nx, slots'[j]? = some (.vacant nx))
    (hlen : slots'.length ≤ nullIndex) :
    SlotsOK s ⟨slots', nf'⟩ (⟨s, i, p, g⟩ :: hs) ∧ ∀ h ∈ hs, h.set = s → h.index ≠ i := by
  refine ⟨ok.update i hslots ?_ ?_ ?_ ?_ hfree hlen,
    fun h hm hset e => cnt_eq_zero.1 (ok.cnt_zero hi) h hm ⟨hset, e⟩⟩
  · intro h hm _ hne
    rcases List.mem_cons.1 hm with rfl | hm
    · exact absurd rfl hne
    · exact hm
  · intro j hj
    rw [cnt_cons, if_neg (fun e => hj e.2.symm)]; rfl
  · intro h hm hset hidx
    rcases List.mem_cons.1 hm with rfl | hm
    · exact ⟨0, hi'⟩
    · obtain ⟨c, hv⟩ := ok.occ h hm hset
      exact absurd (hidx ▸ hv) (hi _ _)
  · intro r c hv
    rw [hi'] at hv; cases hv
    rw [cnt_cons, ok.cnt_zero hi, if_pos ⟨rfl, rfl⟩]

theorem SlotsOK.recount {s : Nat} {sl : Slots} {hs hs' : List Handle} (ok : SlotsOK s sl hs)
    {i r c c' : Nat} (hv : sl.slots[i]? = some (.occupied r c)) (hsub : ∀ x ∈ hs', x ∈ hs)
    (hcnt : ∀ j, j ≠ i → cnt hs' s j = cnt hs s j) (hci : cnt hs' s i = c' + 1) :
    SlotsOK s ⟨sl.slots.set i (.occupied r c'), sl.nextFree⟩ hs' := by
  have hlt := lt_of_getElem?_some hv
  have hself : (sl.slots.set i (.occupied r c'))[i]? = some (.occupied r c') :=
    List.getElem?_set_self hlt
  obtain ⟨l, hc, hnd, hiff⟩ := ok.free
  have hnotin : i ∉ l := fun hmem => by
    obtain ⟨nx, hvv⟩ := (hiff _).1 hmem
    rw [hv] at hvv; cases hvv
  refine ok.update i (fun j hj => List.getElem?_set_ne hj.symm) (fun x hx _ _ => hsub x hx) hcnt
    ?_ ?_ ⟨l, hc.set_of_not_mem _ _ hnotin, hnd, fun j => ?_⟩
    (by rw [List.length_set]; exact ok.len)
  · intro x hx hset hidx
    obtain ⟨c0, hv0⟩ := ok.occ x (hsub x hx) hset
    rw [hidx, hv] at hv0; cases hv0
    exact ⟨c', hself⟩
  · intro r' c'' hv'
    rw [hself] at hv'; cases hv'; exact hci
  · by_cases hj : j = i
    · subst hj; rw [hself]
      exact ⟨fun h => absurd h hnotin, fun ⟨_, e⟩ => by cases e⟩
    · rw [List.getElem?_set_ne (Ne.symm hj)]; exact hiff j


/-- `Slots::add` never hits one of its panics on a good table (only `Vec::push` may give up). -/
theorem SlotsOK.add_error {s : Nat} {sl : Slots} {hs : List Handle} (ok : SlotsOK s sl hs)
    {p : Nat} {f : Fault} (he : sl.add p = .error f) :
    f = .capacityOverflow ∧ nullIndex ≤ sl.slots.length := by
  obtain ⟨l, hc, _, _⟩ := ok.free
  by_cases hn : sl.nextFree = nullIndex
  · by_cases hl : sl.slots.length < nullIndex
    · rw [Slots.add_ok_iff.2 (.inr ⟨hn, hl, rfl, rfl⟩)] at he; cases he
    · simp [Slots.add, hn, Nat.not_lt.1 hl] at he
      exact ⟨he.symm, Nat.not_lt.1 hl⟩
  · obtain ⟨nx, l', _, hv, _⟩ := hc.head_inv hn
    rw [Slots.add_ok_iff.2 (.inl ⟨hn, rfl, nx, hv, rfl⟩)] at he; cases he

theorem SlotsOK.add {s : Nat} {sl sl' : Slots} {hs : List Handle} (ok : SlotsOK s sl hs)
    {p idx : Nat} (g : Nat) (he : sl.add p = .ok (sl', idx)) :
    SlotsOK s sl' (⟨s, idx, p, g⟩ :: hs) ∧ (∀ h ∈ hs, h.set = s → h.index ≠ idx) ∧
      sl'.slots.length ≤ sl.slots.length + 1 := by
  obtain ⟨l, hc, hnd, hiff⟩ := ok.free
  rcases Slots.add_ok_iff.1 he with ⟨hn, rfl, nf, hv, rfl⟩ | ⟨hn, hl, rfl, rfl⟩
  · -- the head of the free list is taken; the rest of the list is the new free list
    obtain ⟨nx, l', rfl, hv', hc'⟩ := hc.head_inv hn
    rw [hv] at hv'; cases hv'
    have hlt := lt_of_getElem?_some hv
    have hnd' := List.nodup_cons.1 hnd
    have hself : (sl.slots.set sl.nextFree (.occupied p 0))[sl.nextFree]? = some (.occupied p 0) :=
      List.getElem?_set_self hlt
    refine and_assoc.1 ⟨ok.fill g (fun r c e => by rw [hv] at e; cases e) hself
      (fun j hj => List.getElem?_set_ne hj.symm)
      ⟨l', hc'.set_of_not_mem _ _ hnd'.1, hnd'.2, fun j => ?_⟩
      (by rw [List.length_set]; exact ok.len), by rw [List.length_set]; exact Nat.le_succ _⟩
    by_cases hj : j = sl.nextFree
    · subst hj; rw [hself]
      exact ⟨fun h => absurd h hnd'.1, fun ⟨_, e⟩ => by cases e⟩
    · rw [List.getElem?_set_ne (Ne.symm hj), ← hiff j]
      exact ⟨List.mem_cons_of_mem _, fun h => (List.mem_cons.1 h).resolve_left hj⟩
  · -- the free list is empty and stays so
    rw [hn] at hc
    cases hc.null_inv
    have hnone : sl.slots[sl.slots.length]? = none := List.getElem?_eq_none (Nat.le_refl _)
    refine and_assoc.1 ⟨ok.fill g (fun r c e => by rw [hnone] at e; cases e)
      List.getElem?_concat_length (fun j hj => getElem?_concat_ne hj)
      ⟨[], hn.symm ▸ Chain.nil, List.nodup_nil, fun j => ?_⟩
      (by rw [List.length_append]; exact hl), by rw [List.length_append]; exact Nat.le_refl _⟩
    refine ⟨fun h => absurd h List.not_mem_nil, fun ⟨nx, hv⟩ => ?_⟩
    -- the new slot is occupied, the old ones are not vacant since the free list is empty
    by_cases hj : j = sl.slots.length
    · subst hj; rw [List.getElem?_concat_length] at hv; cases hv
    · exact (hiff j).2 ⟨nx, (getElem?_concat_ne hj).symm.trans hv⟩

theorem SlotsOK.inc {s : Nat} {sl : Slots} {hs : List Handle} (ok : SlotsOK s sl hs)
    {h : Handle} (hm : h ∈ hs) (hset : h.set = s) :
    ∃ sl', sl.inc h.index = .ok sl' ∧ SlotsOK s sl' (h :: hs) ∧
      sl'.slots.length = sl.slots.length := by
  obtain ⟨c, hv⟩ := ok.occ h hm hset
  refine ⟨_, Slots.inc_ok_iff.2 ⟨_, _, hv, rfl⟩, ?_, List.length_set ..⟩
  refine ok.recount hv (fun x hx => mem_cons_of_mem_self hm hx) (fun j hj => ?_) ?_
  · rw [cnt_cons, if_neg (fun e => hj e.2.symm)]; rfl
  · rw [cnt_cons, if_pos ⟨hset, rfl⟩, ok.count _ _ _ hv]

theorem SlotsOK.dec {s : Nat} {sl : Slots} {hs : List Handle} (ok : SlotsOK s sl hs)
    {h : Handle} (hm : h ∈ hs) (hset : h.set = s) :
    ∃ sl', sl.dec h.index = .ok sl' ∧ SlotsOK s sl' (hs.erase h) ∧
      sl'.slots.length = sl.slots.length := by
  obtain ⟨c, hv⟩ := ok.occ h hm hset
  have hce := cnt_erase hm s
  have hcnt : ∀ j, j ≠ h.index → cnt (hs.erase h) s j = cnt hs s j := fun j hj => by
    have := hce j
    rw [if_neg (fun e => hj e.2.symm)] at this; exact this
  have hci : cnt (hs.erase h) s h.index = c := by
    have := hce h.index
    rw [if_pos ⟨hset, rfl⟩, ok.count _ _ _ hv] at this
    exact Nat.succ.inj this
  by_cases hc0 : c = 0
  · -- the last handle: the slot is vacated and becomes the head of the free list
    subst hc0
    have hlt := lt_of_getElem?_some hv
    have hself : (sl.slots.set h.index (.vacant sl.nextFree))[h.index]? =
        some (.vacant sl.nextFree) := List.getElem?_set_self hlt
    obtain ⟨l, hc, hnd, hiff⟩ := ok.free
    have hnotin : h.index ∉ l := fun hmem => by
      obtain ⟨nx, hvv⟩ := (hiff _).1 hmem
      rw [hv] at hvv; cases hvv
    refine ⟨⟨sl.slots.set h.index (.vacant sl.nextFree), h.index⟩,
      Slots.dec_ok_iff.2 ⟨_, _, hv, (if_pos rfl).symm⟩, ?_, List.length_set ..⟩
    refine ok.update h.index (fun j hj => List.getElem?_set_ne hj.symm)
      (fun x hx _ _ => List.mem_of_mem_erase hx) hcnt ?_ ?_
      ⟨h.index :: l, .cons ?_ hself (hc.set_of_not_mem _ _ hnotin),
        List.nodup_cons.2 ⟨hnotin, hnd⟩, fun j => ?_⟩ (by rw [List.length_set]; exact ok.len)
    · intro x hx hxs hxi
      exact absurd ⟨hxs, hxi⟩ (cnt_eq_zero.1 hci x hx)
    · intro r c hv'
      rw [hself] at hv'; cases hv'
    · exact Nat.ne_of_lt (Nat.lt_of_lt_of_le hlt ok.len)
    · by_cases hj : j = h.index
      · subst hj; rw [hself]
        exact ⟨fun _ => ⟨_, rfl⟩, fun _ => List.mem_cons_self ..⟩
      · rw [List.getElem?_set_ne (Ne.symm hj), ← hiff j]
        exact ⟨fun h => (List.mem_cons.1 h).resolve_left hj, List.mem_cons_of_mem _⟩
  · exact ⟨⟨sl.slots.set h.index (.occupied h.ptr (c - 1)), sl.nextFree⟩,
      Slots.dec_ok_iff.2 ⟨_, _, hv, (if_neg hc0).symm⟩,
      ok.recount hv (fun x hx => List.mem_of_mem_erase hx) hcnt (by omega), List.length_set ..⟩

/-- The invariant of the whole system: every alive set refines the live handles; the ghost stash
ids name stashes consistently. -/
structure Inv (st : State) : Prop where
  sets : ∀ (s : Nat) (rs : RootSet), st.sets[s]? = some rs → rs.alive = true →
          SlotsOK s rs.slots st.handles
  hset : ∀ h ∈ st.handles, h.set < st.sets.length
  hstash : ∀ h ∈ st.handles, h.stash < st.nextStash
  /-- one stash id = one handle value -/
  uniq : ∀ h1 ∈ st.handles, ∀ h2 ∈ st.handles, h1.stash = h2.stash → h1 = h2
  /-- one (set, index) pair = one stash, among live handles -/
  same : ∀ h1 ∈ st.handles, ∀ h2 ∈ st.handles, h1.set = h2.set → h1.index = h2.index →
          h1.stash = h2.stash
  /-- a table has at most as many slots as there were stashes -/
  cap : ∀ (s : Nat) (rs : RootSet), st.sets[s]? = some rs →
          rs.slots.slots.length ≤ st.nextStash

theorem liveSet_eq_some {st : State} {s : Nat} {rs : RootSet} :
    st.liveSet s = some rs ↔ st.sets[s]? = some rs ∧ rs.alive = true := by
  unfold State.liveSet
  cases st.sets[s]? with
  | none => simp
  | some rs' =>
    by_cases ha : rs'.alive = true <;> simp only [ha, if_true, Option.some.injEq]
    · exact ⟨fun e => ⟨e, e ▸ ha⟩, fun e => e.1⟩
    · exact ⟨fun e => (nomatch e), fun e => absurd (e.1 ▸ e.2) ha⟩

theorem liveSet_eq_none {st : State} {s : Nat} :
    st.liveSet s = none ↔ ∀ rs, st.sets[s]? = some rs → rs.alive = false := by
  unfold State.liveSet
  cases st.sets[s]? <;> simp

theorem Inv.live {st : State} (inv : Inv st) {s : Nat} {rs : RootSet}
    (hl : st.liveSet s = some rs) : SlotsOK s rs.slots st.handles :=
  inv.sets s rs (liveSet_eq_some.1 hl).1 (liveSet_eq_some.1 hl).2

theorem Inv.init : Inv State.init :=
  ⟨fun _ _ h => (nomatch h), fun _ h => (nomatch h), fun _ h => (nomatch h),
    fun _ h => (nomatch h), fun _ h => (nomatch h), fun _ _ h => (nomatch h)⟩

/-- The invariant for a state whose handles are among the old ones and whose stash counter is
the old one: only the tables have to be looked at. -/
theorem Inv.sub {st : State} (inv : Inv st) {sets' : List RootSet} {hs' : List Handle}
    (hsub : ∀ x ∈ hs', x ∈ st.handles) (hlen : st.sets.length ≤ sets'.length)
    (htab : ∀ s rs, sets'[s]? = some rs →
      (rs.alive = true → SlotsOK s rs.slots hs') ∧ rs.slots.slots.length ≤ st.nextStash) :
    Inv ⟨sets', hs', st.nextStash⟩ :=
  ⟨fun s rs hl => (htab s rs hl).1,
   fun h hm => Nat.lt_of_lt_of_le (inv.hset h (hsub h hm)) hlen,
   fun h hm => inv.hstash h (hsub h hm),
   fun h1 m1 h2 m2 => inv.uniq h1 (hsub h1 m1) h2 (hsub h2 m2),
   fun h1 m1 h2 m2 => inv.same h1 (hsub h1 m1) h2 (hsub h2 m2),
   fun s rs hl => (htab s rs hl).2⟩

/-- The two table clauses of `Inv` after the entry of set `s` has been replaced by `r`: `r` is
asked for, the other tables only see the change of the handle list. -/
theorem Inv.tables_set {st : State} (inv : Inv st) {s : Nat} {rs r : RootSet} {hs' : List Handle}
    {n' : Nat} (hls : st.sets[s]? = some rs) (hok : r.alive = true → SlotsOK s r.slots hs')
    (hoth : ∀ s' sl, s' ≠ s → SlotsOK s' sl st.handles → SlotsOK s' sl hs')
    (hlen : r.slots.slots.length ≤ n') (hn : st.nextStash ≤ n') (s' : Nat) (rs' : RootSet)
    (hl' : (st.sets.set s r)[s']? = some rs') :
    (rs'.alive = true → SlotsOK s' rs'.slots hs') ∧ rs'.slots.slots.length ≤ n' := by
  by_cases hs : s' = s
  · subst hs
    rw [List.getElem?_set_self (lt_of_getElem?_some hls)] at hl'
    cases hl'
    exact ⟨hok, hlen⟩
  · rw [List.getElem?_set_ne (Ne.symm hs)] at hl'
    exact ⟨fun ha => hoth s' _ hs (inv.sets s' rs' hl' ha), Nat.le_trans (inv.cap s' rs' hl') hn⟩

theorem ne_of_liveSet_none {st : State} {t s : Nat} {rs : RootSet} (hd : st.liveSet t = none)
    (hls : st.sets[s]? = some rs) (ha : rs.alive = true) : t ≠ s := by
  rintro rfl
  rw [liveSet_eq_some.2 ⟨hls, ha⟩] at hd
  cases hd

/-- Handles of a destroyed set `t` come or go: no table is touched. -/
theorem Inv.handles_dead {st : State} (inv : Inv st) {t : Nat} {hs' : List Handle}
    (hl : st.liveSet t = none) (hsub : ∀ x ∈ hs', x ∈ st.handles)
    (hoth : ∀ s sl, s ≠ t → SlotsOK s sl st.handles → SlotsOK s sl hs') :
    Inv { st with handles := hs' } :=
  inv.sub hsub (Nat.le_refl _) fun s rs hls =>
    ⟨fun ha => hoth s _ (ne_of_liveSet_none hl hls ha).symm (inv.sets s rs hls ha), inv.cap s rs hls⟩

/-- Handles of an alive set `t` come or go, and its table, which does not grow, follows. -/
theorem Inv.handles_live {st : State} (inv : Inv st) {t : Nat} {rs : RootSet} {sl : Slots}
    {hs' : List Handle} (hl : st.liveSet t = some rs) (hsub : ∀ x ∈ hs', x ∈ st.handles)
    (hoth : ∀ s sl, s ≠ t → SlotsOK s sl st.handles → SlotsOK s sl hs')
    (hok : SlotsOK t sl hs') (hlen : sl.slots.length = rs.slots.slots.length) :
    Inv { st with sets := st.sets.set t { rs with slots := sl }, handles := hs' } :=
  have hls := (liveSet_eq_some.1 hl).1
  inv.sub hsub (Nat.le_of_eq (List.length_set ..).symm)
    (inv.tables_set hls (fun _ => hok) hoth (hlen ▸ inv.cap _ _ hls) (Nat.le_refl _))

/-- `step d op = r`, one rule for every way a call is accepted and one for every way it panics, each
with what was checked on the way and the state it leaves written out.  Ill-formed calls are not
told apart. -/
inductive Step (d : State) : Op → Res → Prop
  | newSet : Step d .newSet
      (.ok { d with sets := d.sets ++ [⟨true, Slots.new⟩] } (.set d.sets.length))
  | stash {s p idx : Nat} {rs : RootSet} {sl : Slots} :
      d.liveSet s = some rs → rs.slots.add p = .ok (sl, idx) →
      Step d (.stash s p)
        (.ok ⟨d.sets.set s { rs with slots := sl }, ⟨s, idx, p, d.nextStash⟩ :: d.handles,
              d.nextStash + 1⟩ (.handle ⟨s, idx, p, d.nextStash⟩))
  | stashPanic {s p : Nat} {rs : RootSet} {f : Fault} :
      d.liveSet s = some rs → rs.slots.add p = .error f → Step d (.stash s p) (.panic f)
  | cloneDead {h : Handle} : h ∈ d.handles → d.liveSet h.set = none →
      Step d (.clone h) (.ok { d with handles := h :: d.handles } (.handle h))
  | cloneLive {h : Handle} {rs : RootSet} {sl : Slots} :
      h ∈ d.handles → d.liveSet h.set = some rs → rs.slots.inc h.index = .ok sl →
      Step d (.clone h)
        (.ok { d with sets := d.sets.set h.set { rs with slots := sl }, handles := h :: d.handles }
          (.handle h))
  | clonePanic {h : Handle} {rs : RootSet} {f : Fault} :
      h ∈ d.handles → d.liveSet h.set = some rs → rs.slots.inc h.index = .error f →
      Step d (.clone h) (.panic f)
  | dropDead {h : Handle} : h ∈ d.handles → d.liveSet h.set = none →
      Step d (.dropHandle h) (.ok { d with handles := d.handles.erase h } .unit)
  | dropLive {h : Handle} {rs : RootSet} {sl : Slots} :
      h ∈ d.handles → d.liveSet h.set = some rs → rs.slots.dec h.index = .ok sl →
      Step d (.dropHandle h)
        (.ok { d with sets := d.sets.set h.set { rs with slots := sl },
                      handles := d.handles.erase h } .unit)
  | dropPanic {h : Handle} {rs : RootSet} {f : Fault} :
      h ∈ d.handles → d.liveSet h.set = some rs → rs.slots.dec h.index = .error f →
      Step d (.dropHandle h) (.panic f)
  | fetch {s : Nat} {h : Handle} {rs : RootSet} :
      h ∈ d.handles → d.liveSet s = some rs → h.set = s → Step d (.fetch s h) (.ok d (.ptr h.ptr))
  | fetchPanic {s : Nat} {h : Handle} {rs : RootSet} :
      h ∈ d.handles → d.liveSet s = some rs → h.set ≠ s →
      Step d (.fetch s h) (.panic .mismatchedRootSet)
  | tryFetch {s : Nat} {h : Handle} {rs : RootSet} :
      h ∈ d.handles → d.liveSet s = some rs → h.set = s →
      Step d (.tryFetch s h) (.ok d (.ptr h.ptr))
  | tryFetchMiss {s : Nat} {h : Handle} {rs : RootSet} :
      h ∈ d.handles → d.liveSet s = some rs → h.set ≠ s → Step d (.tryFetch s h) (.ok d .mismatch)
  | contains {s : Nat} {h : Handle} {rs : RootSet} :
      h ∈ d.handles → d.liveSet s = some rs →
      Step d (.contains s h) (.ok d (.bool (containsB s h)))
  | destroy {s : Nat} {rs : RootSet} : d.liveSet s = some rs →
      Step d (.destroySet s) (.ok { d with sets := d.sets.set s { rs with alive := false } } .unit)
  | illFormed (op : Op) : Step d op .illFormed

theorem containsB_iff {s : Nat} {h : Handle} : containsB s h = true ↔ h.set = s := by
  simp [containsB]

theorem step_rule (d : State) (op : Op) : Step d op (step d op) := by
  cases op with
  | newSet => exact .newSet
  | stash s p =>
    simp only [step]
    split
    · exact .illFormed _
    · next rs hl =>
      split
      · next f ha => exact .stashPanic hl ha
      · next sl idx ha => exact .stash hl ha
  | clone h =>
    simp only [step]
    split
    · next hm =>
      split
      · next hl => exact .cloneDead hm hl
      · next rs hl =>
        split
        · next f hi => exact .clonePanic hm hl hi
        · next sl hi => exact .cloneLive hm hl hi
    · exact .illFormed _
  | dropHandle h =>
    simp only [step]
    split
    · next hm =>
      split
      · next hl => exact .dropDead hm hl
      · next rs hl =>
        split
        · next f hi => exact .dropPanic hm hl hi
        · next sl hi => exact .dropLive hm hl hi
    · exact .illFormed _
  | fetch s h =>
    simp only [step]
    split
    · next hm =>
      split
      · exact .illFormed _
      · next rs hl =>
        split
        · next hc => exact .fetch hm hl (containsB_iff.1 hc)
        · next hc => exact .fetchPanic hm hl (fun e => hc (containsB_iff.2 e))
    · exact .illFormed _
  | tryFetch s h =>
    simp only [step]
    split
    · next hm =>
      split
      · exact .illFormed _
      · next rs hl =>
        split
        · next hc => exact .tryFetch hm hl (containsB_iff.1 hc)
        · next hc => exact .tryFetchMiss hm hl (fun e => hc (containsB_iff.2 e))
    · exact .illFormed _
  | contains s h =>
    simp only [step]
    split
    · next hm =>
      split
      · exact .illFormed _
      · next rs hl => exact .contains hm hl
    · exact .illFormed _
  | destroySet s =>
    simp only [step]
    split
    · exact .illFormed _
    · next rs hl => exact .destroy hl

theorem Step.of_eq {d : State} {op : Op} {r : Res} (h : step d op = r) : Step d op r :=
  h ▸ step_rule d op

theorem next_cases (d : State) (op : Op) :
    next d op = d ∨ ∃ d' a, Step d op (.ok d' a) ∧ next d op = d' := by
  unfold next
  cases h : step d op with
  | ok d' a => exact .inr ⟨d', a, .of_eq h, rfl⟩
  | panic f => exact .inl rfl
  | illFormed => exact .inl rfl

theorem liveSet_set {d d' : State} {t : Nat} {r : RootSet} (hs : d'.sets = d.sets.set t r)
    (ht : t < d.sets.length) (s : Nat) :
    d'.liveSet s = if s = t then (if r.alive then some r else none) else d.liveSet s := by
  unfold State.liveSet
  rw [hs, List.getElem?_set]
  by_cases e : t = s
  · subst e; simp [ht]
  · simp [e, Ne.symm e]

theorem liveSet_append {d d' : State} {r : RootSet} (hs : d'.sets = d.sets ++ [r]) (s : Nat) :
    d'.liveSet s =
      if s = d.sets.length then (if r.alive then some r else none) else d.liveSet s := by
  unfold State.liveSet
  rw [hs]
  by_cases e : s = d.sets.length
  · rw [if_pos e, e, List.getElem?_concat_length]
  · rw [if_neg e, getElem?_concat_ne e]
theorem Inv.next {st : State} (inv : Inv st) (op : Op) : Inv (next st op) := by
  obtain e | ⟨d', a, hs, e⟩ := next_cases st op <;> rw [e]
  · exact inv
  cases hs with
  | newSet =>
    refine inv.sub (fun _ h => h) (by rw [List.length_append]; exact Nat.le_add_right _ _)
      (fun s rs hl => ?_)
    by_cases hs : s = st.sets.length
    · subst hs
      rw [List.getElem?_concat_length] at hl
      cases hl
      exact ⟨fun _ => SlotsOK.new _ _ (fun h hm => Nat.ne_of_lt (inv.hset h hm)), Nat.zero_le _⟩
    · rw [getElem?_concat_ne hs] at hl
      exact ⟨inv.sets s rs hl, inv.cap s rs hl⟩
  | @stash s p idx rs sl hl ha =>
    have hls := (liveSet_eq_some.1 hl).1
    obtain ⟨hok, hfresh, hlen⟩ := (inv.live hl).add st.nextStash ha
    have tab := inv.tables_set (r := { rs with slots := sl }) hls (fun _ => hok)
      (fun s' sl' hne ok => ok.cons_other _ hne.symm)
      (Nat.le_trans hlen (Nat.succ_le_succ (inv.cap _ _ hls))) (Nat.le_succ _)
    -- the new handle has a stash id and, within its set, an index that no old handle has
    refine ⟨fun s' rs' h => (tab s' rs' h).1, ?_, ?_, ?_, ?_, fun s' rs' h => (tab s' rs' h).2⟩
    · intro h hm
      rw [List.length_set]
      rcases List.mem_cons.1 hm with rfl | hm
      · exact lt_of_getElem?_some hls
      · exact inv.hset h hm
    · intro h hm
      rcases List.mem_cons.1 hm with rfl | hm
      · exact Nat.lt_succ_self _
      · exact Nat.lt_succ_of_lt (inv.hstash h hm)
    · intro h1 hm1 h2 hm2 he
      rcases List.mem_cons.1 hm1 with rfl | hm1 <;> rcases List.mem_cons.1 hm2 with rfl | hm2
      · rfl
      · exact absurd he.symm (Nat.ne_of_lt (inv.hstash h2 hm2))
      · exact absurd he (Nat.ne_of_lt (inv.hstash h1 hm1))
      · exact inv.uniq h1 hm1 h2 hm2 he
    · intro h1 hm1 h2 hm2 hes hei
      rcases List.mem_cons.1 hm1 with rfl | hm1 <;> rcases List.mem_cons.1 hm2 with rfl | hm2
      · rfl
      · exact absurd hei.symm (hfresh h2 hm2 hes.symm)
      · exact absurd hei (hfresh h1 hm1 hes)
      · exact inv.same h1 hm1 h2 hm2 hes hei
  | cloneDead hm hl =>
    exact inv.handles_dead hl (fun _ hx => mem_cons_of_mem_self hm hx)
      (fun _ _ hne ok => ok.cons_other _ hne.symm)
  | cloneLive hm hl hi =>
    obtain ⟨sl', hi', hok, hlen⟩ := (inv.live hl).inc hm rfl
    rw [hi] at hi'; cases hi'
    exact inv.handles_live hl (fun _ hx => mem_cons_of_mem_self hm hx)
      (fun _ _ hne ok => ok.cons_other _ hne.symm) hok hlen
  | dropDead _ hl =>
    exact inv.handles_dead hl (fun _ hx => List.mem_of_mem_erase hx)
      (fun _ _ hne ok => ok.erase_other _ hne.symm)
  | dropLive hm hl hi =>
    obtain ⟨sl', hi', hok, hlen⟩ := (inv.live hl).dec hm rfl
    rw [hi] at hi'; cases hi'
    exact inv.handles_live hl (fun _ hx => List.mem_of_mem_erase hx)
      (fun _ _ hne ok => ok.erase_other _ hne.symm) hok hlen
  | fetch | tryFetch | tryFetchMiss | contains => exact inv
  | @destroy s rs hl =>
    have hls := (liveSet_eq_some.1 hl).1
    exact inv.sub (fun _ hx => hx) (Nat.le_of_eq (List.length_set ..).symm)
      (inv.tables_set (r := { rs with alive := false }) hls (fun ha => by cases ha)
        (fun _ _ _ ok => ok) (inv.cap s rs hls) (Nat.le_refl _))

theorem Inv.run {st : State} (inv : Inv st) (ops : List Op) : Inv (run st ops) := by
  induction ops generalizing st with
  | nil => exact inv
  | cons op ops ih => exact ih (inv.next op)

theorem inv_run (ops : List Op) : Inv (run State.init ops) := Inv.init.run ops

theorem nextStash_next_le (st : State) (op : Op) :
    (next st op).nextStash ≤ st.nextStash + (stashCount [op]) := by
  obtain e | ⟨d', a, hs, e⟩ := next_cases st op <;> rw [e]
  · exact Nat.le_add_right _ _
  · -- an accepted call adds exactly `stashCount [op]`
    cases hs <;> exact Nat.le_refl _

theorem stashCount_cons (op : Op) (ops : List Op) :
    stashCount (op :: ops) = stashCount [op] + stashCount ops := by
  cases op <;> simp [stashCount] <;> omega

theorem nextStash_run_le (st : State) (ops : List Op) :
    (run st ops).nextStash ≤ st.nextStash + stashCount ops := by
  induction ops generalizing st with
  | nil => simp [run, stashCount]
  | cons op ops ih =>
    have h1 := ih (next st op)
    have h2 := nextStash_next_le st op
    rw [stashCount_cons]
    simp only [run]
    omega

theorem next_fetch (st : State) (s : Nat) (h : Handle) : next st (.fetch s h) = st := by
  obtain e | ⟨d', a, hs, e⟩ := next_cases st (.fetch s h) <;> rw [e]
  cases hs; rfl

theorem next_tryFetch (st : State) (s : Nat) (h : Handle) : next st (.tryFetch s h) = st := by
  obtain e | ⟨d', a, hs, e⟩ := next_cases st (.tryFetch s h) <;> rw [e]
  cases hs <;> rfl

theorem next_contains (st : State) (s : Nat) (h : Handle) : next st (.contains s h) = st := by
  obtain e | ⟨d', a, hs, e⟩ := next_cases st (.contains s h) <;> rw [e]
  cases hs; rfl

theorem liveSet_congr {d d' : State} (h : d'.sets = d.sets) (s : Nat) :
    d'.liveSet s = d.liveSet s := by
  unfold State.liveSet; rw [h]

/-- The set whose entry of `sets` a call may replace. -/
def Op.target : Op → Option Nat
  | .stash s _ => some s
  | .clone h => some h.set
  | .dropHandle h => some h.set
  | .destroySet s => some s
  | _ => none

/-- What a call does to `sets`: nothing; or `newSet` appends an empty set; or the entry of one alive
set, the call's target, is replaced, by an alive one unless the call is `destroySet`. -/
theorem next_sets (d : State) (op : Op) :
    (next d op).sets = d.sets ∨ (op = .newSet ∧ (next d op).sets = d.sets ++ [⟨true, Slots.new⟩]) ∨
    ∃ t rs r, op.target = some t ∧ d.liveSet t = some rs ∧ (next d op).sets = d.sets.set t r ∧
      (r.alive = true ∨ op = .destroySet t) := by
  obtain e | ⟨d', a, hs, e⟩ := next_cases d op <;> rw [e]
  · exact .inl rfl
  cases hs with
  | newSet => exact .inr (.inl ⟨rfl, rfl⟩)
  | stash hl _ | cloneLive _ hl _ | dropLive _ hl _ =>
    exact .inr (.inr ⟨_, _, _, rfl, hl, rfl, .inl (liveSet_eq_some.1 hl).2⟩)
  | destroy hl => exact .inr (.inr ⟨_, _, _, rfl, hl, rfl, .inr rfl⟩)
  | cloneDead | dropDead | fetch | tryFetch | tryFetchMiss | contains => exact .inl rfl

theorem lt_of_liveSet {d : State} {t : Nat} {rs : RootSet} (h : d.liveSet t = some rs) :
    t < d.sets.length := lt_of_getElem?_some (liveSet_eq_some.1 h).1

theorem next_keeps_dead (st : State) (s : Nat) (hex : s < st.sets.length)
    (hd : st.liveSet s = none) (op : Op) :
    (next st op).liveSet s = none ∧ s < (next st op).sets.length := by
  rcases next_sets st op with e | ⟨_, e⟩ | ⟨t, rs, r, _, hl, e, _⟩
  · rw [liveSet_congr e, e]; exact ⟨hd, hex⟩
  · rw [liveSet_append e, if_neg (Nat.ne_of_lt hex), e, List.length_append]
    exact ⟨hd, Nat.lt_add_right _ hex⟩
  · -- the entry replaced is that of an alive set, so not that of `s`
    have hne : s ≠ t := by rintro rfl; rw [hl] at hd; cases hd
    rw [liveSet_set e (lt_of_liveSet hl), if_neg hne, e, List.length_set]
    exact ⟨hd, hex⟩

/-- Only `destroySet s` ends the life of set `s`. -/
theorem next_alive (d : State) (op : Op) (s : Nat) (rs : RootSet) (hne : op ≠ .destroySet s)
    (hl : d.liveSet s = some rs) : ∃ rs', (next d op).liveSet s = some rs' := by
  rcases next_sets d op with e | ⟨_, e⟩ | ⟨t, rt, r, _, ht, e, hr⟩
  · exact ⟨rs, (liveSet_congr e s).trans hl⟩
  · rw [liveSet_append e, if_neg (Nat.ne_of_lt (lt_of_liveSet hl))]; exact ⟨rs, hl⟩
  · rw [liveSet_set e (lt_of_liveSet ht)]
    by_cases he : s = t
    · subst he
      rw [if_pos rfl, if_pos (hr.resolve_right hne)]; exact ⟨r, rfl⟩
    · rw [if_neg he]; exact ⟨rs, hl⟩

theorem SlotsOK.occupied_iff {s : Nat} {sl : Slots} {hs : List Handle} (ok : SlotsOK s sl hs)
    {i r : Nat} : (∃ c, sl.slots[i]? = some (.occupied r c)) ↔
      ∃ h ∈ hs, h.set = s ∧ h.index = i ∧ h.ptr = r := by
  constructor
  · rintro ⟨c, hv⟩
    have hp : 0 < cnt hs s i := by rw [ok.count i r c hv]; exact Nat.succ_pos c
    obtain ⟨h, hm, hset, hi⟩ := cnt_pos.1 hp
    obtain ⟨c', hv'⟩ := ok.occ h hm hset
    rw [hi, hv] at hv'; cases hv'
    exact ⟨h, hm, hset, hi, rfl⟩
  · rintro ⟨h, hm, hset, rfl, rfl⟩
    exact ok.occ h hm hset

/-- One live handle for every occupied slot of the part `l` of a table that starts at index `i`,
picked from left to right, so that every later pick has a larger index. -/
theorem exists_reps {hs : List Handle} {s : Nat} (l : List Slot) (i : Nat)
    (H : ∀ j r c, l[j]? = some (.occupied r c) →
      ∃ h ∈ hs, h.set = s ∧ h.index = i + j ∧ h.ptr = r) :
    ∃ reps : List Handle, (∀ x ∈ reps, x ∈ hs ∧ x.set = s ∧ i ≤ x.index) ∧
      (reps.map (·.index)).Nodup ∧
      (∀ j r c, l[j]? = some (.occupied r c) → ∃ x ∈ reps, x.index = i + j) ∧
      l.filterMap Slot.traced = reps.map (·.ptr) := by
  induction l generalizing i with
  | nil => exact ⟨[], by simp⟩
  | cons y l ih =>
    obtain ⟨reps, hmem, hnd, hall, htr⟩ := ih (i + 1) fun j r c hj => by
      obtain ⟨h, hm, hset, hi, hp⟩ := H (j + 1) r c hj
      exact ⟨h, hm, hset, by omega, hp⟩
    have hall' : ∀ j r c, l[j]? = some (.occupied r c) → ∃ x ∈ reps, x.index = i + (j + 1) :=
      fun j r c hj => by
        obtain ⟨x, hx, e⟩ := hall j r c hj
        exact ⟨x, hx, by omega⟩
    cases y with
    | vacant nf =>
      refine ⟨reps, fun x hx => ⟨(hmem x hx).1, (hmem x hx).2.1, Nat.le_of_succ_le (hmem x hx).2.2⟩,
        hnd, fun j r c hj => ?_, htr⟩
      cases j with
      | zero => cases hj
      | succ j => exact hall' j r c hj
    | occupied r0 c0 =>
      obtain ⟨h, hm, hset, hi, hp⟩ := H 0 r0 c0 rfl
      refine ⟨h :: reps, fun x hx => ?_, List.nodup_cons.2 ⟨fun hin => ?_, hnd⟩,
        fun j r c hj => ?_, ?_⟩
      · rcases List.mem_cons.1 hx with rfl | hx
        · exact ⟨hm, hset, Nat.le_of_eq hi.symm⟩
        · exact ⟨(hmem x hx).1, (hmem x hx).2.1, Nat.le_of_succ_le (hmem x hx).2.2⟩
      · obtain ⟨x, hx, e⟩ := List.mem_map.1 hin
        exact Nat.ne_of_gt (hmem x hx).2.2 (e.trans hi)
      · cases j with
        | zero => exact ⟨h, List.mem_cons_self .., hi⟩
        | succ j =>
          obtain ⟨x, hx, e⟩ := hall' j r c hj
          exact ⟨x, List.mem_cons_of_mem _ hx, e⟩
      · rw [List.filterMap_cons_some (f := Slot.traced) (b := r0) rfl, htr, List.map_cons, hp]
theorem run_append (st : State) (ops ops' : List Op) :
    run st (ops ++ ops') = run (run st ops) ops' := by
  induction ops generalizing st with
  | nil => rfl
  | cons op ops ih => exact ih (next st op)

/-- the history used by the non-vacuity examples of Props/C14.lean: two stashes, a clone, the
first stash dropped completely, a third stash that reuses slot 0 -/
def demo : List Op :=
  [.newSet, .stash 0 7, .stash 0 8, .clone ⟨0, 0, 7, 0⟩, .dropHandle ⟨0, 0, 7, 0⟩,
   .dropHandle ⟨0, 0, 7, 0⟩, .stash 0 9]

/-- where `demo` ends, evaluated once for the examples -/
theorem run_demo : run State.init demo =
    ⟨[⟨true, ⟨[.occupied 9 0, .occupied 8 0], nullIndex⟩⟩], [⟨0, 0, 9, 2⟩, ⟨0, 1, 8, 1⟩], 3⟩ := by
  decide

end GcArena.DynRoots
