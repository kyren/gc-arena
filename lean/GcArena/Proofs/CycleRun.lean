import GcArena.Proofs.Sleep
/-!
  One collection cycle over whole operation sequences.

  * `CycRel`: what a stretch of history that appended no `'Z'` (no `Sweep → Sleep` switch, i.e. no
    `finish_cycle`) to the step log, changed no pacing and made no negative `adjust_debt` does to
    the metrics — the debit side only grows by allocations, `total_gcs + freed - allocated` is
    constant, and `allocated` grows by exactly the number of successful `alloc` operations.
  * `WInv`: the wake-up amount is never negative, and while asleep `allocated ≤ total_gcs`.
-/
namespace GcArena

theorem MicroStep.cycleKind {c c' : Ctx} {root} {m : Micro} (h : CInv c root []) (st : MicroStep root c m c') :
    (∃ b, c.phase = .sweep ∧ c' = c.enterSleep b) ∨
    (∃ ch, ch ≠ 'Z' ∧ c'.steps = ch :: c.steps ∧ CFrame c.metrics c'.metrics ∧ c'.phase ≠ .sleep) := by
  have ne : ∀ {p : Phase}, p = .mark ∨ p = .sweep → p ≠ .sleep := by
    rintro _ (rfl | rfl) <;> simp
  cases st with
  | wake hp => exact .inr ⟨'W', by decide, rfl, CFrame.refl _, ne (.inl rfl)⟩
  | markStep f hp hg =>
    obtain ⟨ch, hz, _, est⟩ := markOne_steps c root f
    have p := markOne_markPrim h f (root := root)
    exact .inr ⟨ch, hz, est, p.cframe, ne (.inl (p.phase.trans hp))⟩
  | markBreak hp hg => exact .inr ⟨'b', by decide, rfl, CFrame.refl _, ne (.inl hp)⟩
  | toSweep hp hg => exact .inr ⟨'S', by decide, rfl, CFrame.refl _, ne (.inr rfl)⟩
  | sweepStep hp hr =>
    obtain ⟨ch, hz, _, est⟩ := sweepOne_steps c
    exact .inr ⟨ch, hz, est, sweepOne_cframe h, ne (.inr (sweepOne_spec h hp).2)⟩
  | sweepEnd hp hr => exact .inr ⟨'e', by decide, rfl, CFrame.refl _, ne (.inr hp)⟩
  | toSleep b hp hr => exact .inl ⟨b, hp, rfl⟩

/-- The step log only grew, and if no `'Z'` (the `Sweep → Sleep` switch, i.e. `finish_cycle`) was
    appended then `X` holds. -/
def NoZ (c c' : Ctx) (X : Prop) : Prop :=
  ∃ new, c'.steps = new ++ c.steps ∧ ('Z' ∉ new → X)

theorem NoZ.same {c c' : Ctx} {X : Prop} (hs : c'.steps = c.steps) (h : X) : NoZ c c' X :=
  ⟨[], hs, fun _ => h⟩

theorem NoZ.trans {a b c : Ctx} {X Y Z : Prop} (h1 : NoZ a b X) (h2 : NoZ b c Y) (f : X → Y → Z) :
    NoZ a c Z := by
  obtain ⟨n1, e1, f1⟩ := h1
  obtain ⟨n2, e2, f2⟩ := h2
  exact ⟨n2 ++ n1, by rw [e2, e1, List.append_assoc], fun hn =>
    f (f1 fun hm => hn (List.mem_append_right _ hm)) (f2 fun hm => hn (List.mem_append_left _ hm))⟩

theorem NoZ.mono {c c' : Ctx} {X Y : Prop} (h : NoZ c c' X) (f : X → Y) : NoZ c c' Y := by
  obtain ⟨n, e, g⟩ := h
  exact ⟨n, e, fun hn => f (g hn)⟩

theorem MicroStep.noZ {c c' : Ctx} {root} {m : Micro} (h : CInv c root [])
    (st : MicroStep root c m c') : NoZ c c' (CFrame c.metrics c'.metrics) := by
  rcases st.cycleKind h with ⟨b, _, rfl⟩ | ⟨ch, hz, e, f, _⟩
  · exact ⟨['Z'], rfl, fun hn => absurd (List.mem_singleton.mpr rfl) hn⟩
  · exact ⟨[ch], e, fun _ => f⟩

/-- A micro-step sequence that appended no `'Z'` stayed inside the cycle. -/
theorem Reaches.cframe {c c' : Ctx} {root} (r : Reaches c root c') (h : CInv c root []) :
    NoZ c c' (CFrame c.metrics c'.metrics) := by
  obtain ⟨ms, hs⟩ := r
  exact micros_lift (R := fun c c' => NoZ c c' (CFrame c.metrics c'.metrics))
    (fun c => .same rfl (CFrame.refl _)) (fun h1 h2 => h1.trans h2 CFrame.trans) MicroStep.noZ ms h hs

/-- From `m` to `m'` no `finish_cycle` ran, the pacing was not changed and the debt was not
    artificially reduced. -/
structure SameCycle (m m' : Metrics) : Prop where
  pacing : m'.pacing = m.pacing
  wakeup : m'.wakeup = m.wakeup
  art : m.artificial ≤ m'.artificial
  ghost : m'.totalGcs + m'.freed + m.allocated = m.totalGcs + m.freed + m'.allocated

/-- The step log only grew, and if no `'Z'` was appended the metrics stayed inside the cycle and
    `allocated` grew by exactly `k`. -/
def CycRel (k : Nat) (c c' : Ctx) : Prop :=
  NoZ c c' (SameCycle c.metrics c'.metrics ∧ c'.metrics.allocated = c.metrics.allocated + k)

theorem CycRel.trans {k1 k2 : Nat} {a b c : Ctx} (h1 : CycRel k1 a b) (h2 : CycRel k2 b c) :
    CycRel (k1 + k2) a c := by
  refine NoZ.trans h1 h2 fun ⟨s1, a1⟩ ⟨s2, a2⟩ => ?_
  refine ⟨⟨s2.pacing.trans s1.pacing, s2.wakeup.trans s1.wakeup, Rat.le_trans s1.art s2.art, ?_⟩, ?_⟩
  · have g1 := s1.ghost; have g2 := s2.ghost; omega
  · omega

theorem CycRel.refl (c : Ctx) : CycRel 0 c c := .same rfl ⟨⟨rfl, rfl, Rat.le_refl, rfl⟩, rfl⟩

theorem CFrame.sameCycle {m m' : Metrics} (f : CFrame m m') :
    SameCycle m m' ∧ m'.allocated = m.allocated + 0 :=
  ⟨⟨f.mf.pacing, f.mf.wakeup, by rw [f.mf.artificial]; exact Rat.le_refl, f.ghost⟩, f.mf.allocated⟩

theorem CollectRel.cycRel {a a' : Arena} (h : Inv a) (rel : CollectRel a a') : CycRel 0 a.ctx a'.ctx :=
  rel.lift h CycRel.refl CycRel.trans fun hc st => (st.noZ hc).mono CFrame.sameCycle

theorem setSlot_steps (c : Ctx) (p i : Nat) (v : Slot) : (Arena.setSlot c p i v).steps = c.steps := by
  unfold Arena.setSlot
  split
  · exact Ctx.fail_steps _ _
  · rfl

theorem rootBarrier_steps (c : Ctx) : c.rootBarrier.steps = c.steps := by
  unfold Ctx.rootBarrier; split <;> rfl

theorem stepBody_steps (a : Arena) (fin : Bool) (op : Op) (hop : op.isMutator = true) :
    (a.stepBody fin op).1.ctx.steps = a.ctx.steps :=
  (stepBody_mutStep a fin op hop).ctx_rel (R := fun c c' => c'.steps = c.steps) (fun _ => rfl)
    (fun h1 h2 => h2.trans h1) (fun t => t.steps) (fun _ => rfl) (rootBarrier_steps _)
    (fun _ _ _ _ => rfl) (fun c _ p i v _ _ => setSlot_steps c p i v)

theorem step_steps (a : Arena) (op : Op) (hop : op.isMutator = true) :
    (a.step op).1.ctx.steps = a.ctx.steps := by
  unfold Arena.step
  split
  · rfl
  · exact stepBody_steps _ _ op hop

/-- The `alloc` operation is accepted in `a` (inside a callback, operands held, a non-tracing value
    holds no pointers): exactly then `Context::link` runs. -/
def Arena.allocates (a : Arena) : Op → Bool
  | .alloc nt slots =>
    a.alive && a.cb.isSome && slots.all a.holdsSlot && (nt || slots.all (· == none))
  | _ => false

theorem step_alloc_allocated (a : Arena) (nt : Bool) (slots : List Slot) :
    (a.step (.alloc nt slots)).1.ctx.metrics.allocated =
      a.ctx.metrics.allocated + (if a.allocates (.alloc nt slots) then 1 else 0) := by
  unfold Arena.step
  by_cases hal : a.alive = true
  · have hnot : (!a.alive) = false := by rw [hal]; rfl
    rw [hnot]
    simp only [Bool.false_eq_true, if_false]
    generalize hb : ({ a with marked := false } : Arena) = b
    have e1 : b.ctx = a.ctx := by rw [← hb]
    have e2 : b.cb = a.cb := by rw [← hb]
    have e3 : b.holdsSlot = a.holdsSlot := by
      rw [← hb]; funext s; cases s <;> rfl
    have hn : a.cb.isNone = !a.cb.isSome := by cases a.cb <;> rfl
    simp only [Arena.stepBody, Arena.allocates, hal, e2, e3, hn, Bool.true_and]
    cases h0 : a.cb.isSome <;> cases h1 : slots.all a.holdsSlot <;> cases nt <;>
      cases h2 : slots.all (· == none) <;>
      simp [Arena.bad, Arena.push_ctx, Ctx.link, Metrics.markGcAllocated, e1]
  · have hal' : a.alive = false := by simpa using hal
    simp [hal', Arena.bad, Arena.allocates]

/-- Operations that can neither change the pacing nor reduce the debt artificially: everything
    except `set_pacing` and `adjust_debt` with a negative amount. -/
def Op.keepsCycle : Op → Bool
  | .setPacing _ => false
  | .adjustDebt x => decide (0 ≤ x)
  | _ => true

theorem MetFrame.sameCycle {op : Op} {m m' : Metrics} (f : MetFrame op m m') : SameCycle m m' :=
  ⟨f.pacing, f.wakeup, by rw [f.artificial]; exact Rat.le_refl, by rw [f.freed]; have := f.count; omega⟩

theorem allocates_of_not_isAlloc (a : Arena) {op : Op} (h : op.isAlloc = false) :
    a.allocates op = false := by
  cases op <;> first | rfl | cases h

theorem step_cycRel {a : Arena} (h : Inv a) (op : Op) (hk : op.keepsCycle = true)
    (hal : (a.step op).1.alive = true) :
    CycRel (if a.allocates op then 1 else 0) a.ctx (a.step op).1.ctx := by
  by_cases hmut : op.isMutator = true
  · refine .same (step_steps a op hmut) ?_
    cases hkn : op.isKnob with
    | true =>
      cases op with
      | setPacing p => cases hk
      | adjustDebt x =>
        have hx : (0 : Rat) ≤ x := by simpa [Op.keepsCycle] using hk
        rw [step_eq h.alive]
        refine ⟨⟨rfl, rfl, ?_, rfl⟩, rfl⟩
        show a.ctx.metrics.artificial ≤ a.ctx.metrics.artificial + x
        grind
      | _ => cases hkn
    | false =>
      have fr := (step_metStep a op hmut hkn).frame
      refine ⟨fr.sameCycle, ?_⟩
      cases hia : op.isAlloc with
      | true =>
        cases op with
        | alloc nt slots => exact step_alloc_allocated a nt slots
        | _ => cases hia
      | false =>
        have l2 := fr.bound
        rw [hia] at l2
        rw [allocates_of_not_isAlloc a hia]
        exact Nat.le_antisymm l2 fr.mono
  · cases op with
    | collect m k f o => exact (step_collect_rel h m k f o).cycRel h
    | dropArena =>
      rcases step_kind h .dropArena hal with hm | rel
      · cases hm
      · exact rel.cycRel h
    | _ => exact absurd rfl hmut

/-- The number of `alloc` operations of `ops` that are accepted when `ops` is run from `a`. -/
def allocsIn (a : Arena) : List Op → Nat
  | [] => 0
  | op :: ops => (if a.allocates op then 1 else 0) + allocsIn (a.step op).1 ops

theorem run_cycRel (ops : List Op) : ∀ (a : Arena), Inv a → (∀ op, op ∈ ops → op.keepsCycle = true) →
    (a.run ops).alive = true → CycRel (allocsIn a ops) a.ctx (a.run ops).ctx := by
  induction ops with
  | nil => intro a _ _ _; exact CycRel.refl _
  | cons op ops ih =>
    intro a h hall hal
    simp only [Arena.run] at hal ⊢
    have hal1 := alive_of_run_alive hal
    exact (step_cycRel h op (hall op (by simp)) hal1).trans
      (ih _ (inv_step h op hal1) (fun o ho => hall o (List.mem_cons_of_mem _ ho)) hal)

/-- One cycle over a history, the facts behind the ρ-bound and the heap bound: from a sleeping
    state `a0` with positive debt, over operations `more` that keep the cycle (`Op.keepsCycle`) and
    append no `'Z'`, followed by a `cycle_debt` call that returns with the cycle unfinished:
    `allocated` grew by exactly the number of accepted `alloc` operations; the allocations the
    cycle has had to deal with are those held in `a0` plus those; the arena held something in
    `a0`; and the ρ-bound holds when the arena is not empty at the end. -/
theorem cycle_from_sleep {a0 : Arena} (h0 : Inv a0) (hacc0 : Acc a0.ctx)
    (hs : a0.ctx.phase = .sleep) (hd : 0 < a0.ctx.metrics.allocationDebt)
    (more : List Op) (hk : ∀ op, op ∈ more → op.keepsCycle = true)
    (hal : (a0.run more).alive = true) (hcb : (a0.run more).cb = none)
    (new : List Char) (hsteps : (a0.run more).ctx.steps = new ++ a0.ctx.steps) (hz : 'Z' ∉ new)
    {ρ : Rat} (hp : RhoPacing a0.ctx.metrics.pacing ρ) {fault : TraceFault} {c' : Ctx}
    (hr : (a0.run more).ctx.doCollection (a0.run more).root .payDebt .finishCycle fault = (c', .returned))
    (hns : c'.phase ≠ .sleep) :
    (a0.run more).ctx.metrics.allocated = a0.ctx.metrics.allocated + allocsIn a0 more ∧
    c'.metrics.totalGcs + c'.metrics.freed = a0.ctx.metrics.totalGcs + allocsIn a0 more ∧
    a0.ctx.metrics.totalGcs ≠ 0 ∧
    (c'.metrics.totalGcs ≠ 0 →
      ((allocsIn a0 more : Nat) : Rat) * (1 - ρ) < ρ * (a0.ctx.metrics.totalGcs : Rat)) := by
  obtain ⟨new', e', f'⟩ := run_cycRel more a0 h0 hk hal
  have hnew : new' = new := List.append_cancel_right (e'.symm.trans hsteps)
  obtain ⟨sc, hallo⟩ := f' (hnew ▸ hz)
  have hi2 := inv_run_from more h0 hal
  have hc2 := hi2.cinv0 hcb
  have hfr0 : a0.ctx.metrics.freed = 0 := (hacc0.1 hs).2.2.2.2
  obtain ⟨hne0, hdeb, _⟩ := debt_pos_iff.mp hd
  have hH : a0.ctx.metrics.totalGcs + allocsIn a0 more
      = (a0.run more).ctx.metrics.totalGcs + (a0.run more).ctx.metrics.freed := by
    have := sc.ghost; omega
  obtain ⟨fr, _⟩ := doCollection_cycle_frame hc2 hr hns
  refine ⟨hallo, by rw [fr.sum]; exact hH.symm, hne0, fun hne => ?_⟩
  refine rho_bound_ctx (Aw := a0.ctx.metrics.allocated) hc2 (ctx_run_from acc_step more a0 (fun _ => h0) hacc0)
    (by rw [sc.pacing]; exact hp) hallo.symm hH ?_ hr hns hne
  rw [sc.wakeup]
  unfold Metrics.cycleDebits at hdeb
  have := sc.art
  grind

/-- A collection call made asleep with positive debt wakes the collector — a debt-driven one
    because of the debt, `finish_marking` / `finish_cycle` anyway: the steps it appends start with
    `'W'`. -/
theorem doCollection_wakes {c : Ctx} {root : List Slot} {ru : RunUntil} {stop : Stop} {fault : TraceFault}
    (h : CInv c root []) (hs : c.phase = .sleep) (hd : 0 < c.metrics.allocationDebt) :
    ∃ new, (c.doCollection root ru stop fault).1.steps = new ++ 'W' :: c.steps := by
  rcases doCollection_cases c root ru stop fault with ⟨_, hnd, _⟩ | ⟨_, he⟩
  · rw [hasDebt_of_pos hd] at hnd; cases hnd
  · rw [he, (Arm.wake hs).eq]
    split
    · exact ⟨[], rfl⟩
    · obtain ⟨new, e, _⟩ := (collectLoop_reaches (ru := ru) (stop := stop) (fault := fault)
        (2 * c.fuelBound root + 7) (c.switch .mark) true 0 (wake_spec h hs)).cframe (wake_spec h hs)
      exact ⟨new, e⟩

/-- The wake-up amount is never negative, and asleep `allocated ≤ total_gcs` (nothing is demanded of
    a dropped arena). -/
def WInv (c : Ctx) : Prop :=
  c.phase ≠ .drop → 0 ≤ c.metrics.wakeup ∧ (c.phase = .sleep → c.metrics.allocated ≤ c.metrics.totalGcs)

theorem winv_new : WInv Ctx.new := fun _ => ⟨Rat.le_refl, fun _ => Nat.le_refl _⟩

theorem MicroStep.winv {c c' : Ctx} {root} {m : Micro} (h : CInv c root []) (st : MicroStep root c m c')
    (hw : WInv c) : WInv c' := by
  intro _
  obtain ⟨w0, _⟩ := hw h.notDrop
  rcases st.cycleKind h with ⟨b, _, hb⟩ | ⟨ch, _, _, f, hns⟩
  · rw [hb]
    have hm : (0 : Rat) ≤ (c.metrics.pacing.minSleep : Rat) := Rat.natCast_nonneg
    refine ⟨?_, fun _ => Nat.zero_le _⟩
    show 0 ≤ max ((c.metrics.remembered : Rat) * c.metrics.pacing.sleepFactor) (c.metrics.pacing.minSleep : Rat)
    grind
  · exact ⟨by rw [f.mf.wakeup]; exact w0, fun hsl => absurd hsl hns⟩

theorem winv_step {a : Arena} (h : Inv a) (hw : WInv a.ctx) (op : Op) : WInv (a.step op).1.ctx := by
  by_cases hmut : op.isMutator = true
  · intro _
    obtain ⟨w0, ws⟩ := hw h.cinv.notDrop
    rw [(step_quiet h op hmut).phase]
    cases hkn : op.isKnob with
    | true =>
      rw [step_eq h.alive]
      cases op with
      | setPacing p => exact ⟨w0, ws⟩
      | adjustDebt x => exact ⟨w0, ws⟩
      | _ => cases hkn
    | false =>
      have fr := (step_metStep a op hmut hkn).frame
      exact ⟨by rw [fr.wakeup]; exact w0, fun hs => by have := ws hs; have := fr.count; omega⟩
  · cases op with
    | collect m k f o =>
      exact (step_collect_rel h m k f o).lift (R := fun c c' => WInv c → WInv c') h (fun _ h => h)
        (fun h1 h2 h => h2 (h1 h)) MicroStep.winv hw
    | dropArena =>
      rw [step_eq h.alive]
      simp only [Arena.stepBody]
      split
      · exact hw
      · intro hnd; exact absurd (dropAll_phase a.ctx) hnd
    | _ => exact absurd rfl hmut

theorem winv_run (n : Nat) (ops : List Op) : WInv ((Arena.new n).run ops).ctx :=
  ctx_run winv_new winv_step n ops

/-- Asleep with more allocations counted than the wake-up amount, the arena is not empty. -/
theorem WInv.nonempty {c : Ctx} (hw : WInv c) (hs : c.phase = .sleep)
    (hlt : c.metrics.wakeup < (c.metrics.allocated : Rat)) : c.metrics.totalGcs ≠ 0 := by
  obtain ⟨w0, ws⟩ := hw (by rw [hs]; simp)
  have h1 := ws hs
  intro h0
  have : c.metrics.allocated = 0 := by omega
  rw [this] at hlt
  have : ((0 : Nat) : Rat) = 0 := rfl
  grind

/-- A self-driven collection operation (any method) executed outside callbacks in a sleeping state
    with positive debt wakes the collector: the oldest step it appends is `'W'`. -/
theorem collect_wakes {a : Arena} (h : Inv a) (hcb : a.cb = none) (hs : a.ctx.phase = .sleep)
    (hd : 0 < a.ctx.metrics.allocationDebt) (m : Method) (k : Cont) (fault : TraceFault) :
    ∃ new, (a.step (.collect m k fault none)).1.ctx.steps = new ++ 'W' :: a.ctx.steps := by
  rw [step_eq h.alive]
  have st := stepBody_collectStep { a with marked := false } a.marked m k fault none
  generalize (({ a with marked := false } : Arena).stepBody a.marked (.collect m k fault none)).1 = a' at st ⊢
  have first : ∀ {c ex}, ({ a with marked := false } : Arena).runCollector (Arena.methodArgs m).1
      (Arena.methodArgs m).2 fault none = some (c, ex) → ∃ new, c.steps = new ++ 'W' :: a.ctx.steps := by
    intro c ex hr
    have := doCollection_wakes (root := a.root) (ru := (Arena.methodArgs m).1)
      (stop := (Arena.methodArgs m).2) (fault := fault) (h.cinv0 hcb) hs hd
    rwa [show a.ctx.doCollection a.root _ _ fault = (c, ex) from Option.some.inj hr] at this
  cases st with
  | rejected hrej =>
    rcases hrej with h1 | h1
    · exact absurd hcb h1
    · cases h1
  | ran c ex _ hr => exact first hr
  | kept c _ hr => exact first hr
  | swept c c2 ex2 _ hr _ _ _ hr2 =>
    -- `start_sweeping` only appends
    obtain ⟨new1, e1⟩ := first hr
    have hi := h.unmark.afterCollect rfl hcb (runCollector_inv h.unmark hcb hr)
    obtain ⟨new2, e2, _⟩ := (runCollector_reaches hi hcb hr2).cframe (hi.cinv0 hcb)
    exact ⟨new2 ++ new1, by rw [e2]; show new2 ++ c.steps = _; rw [e1, List.append_assoc]⟩

end GcArena
