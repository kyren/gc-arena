import GcArena.Proofs.Events
/-!
  Mutator operations are silent: no op other than a collection call or dropping the arena emits a
  `dropped` / `freed` event, destructs a value or releases a block.
-/
namespace GcArena

/-- `c'` emitted nothing relative to `c` and keeps every allocation with its liveness; the only
    new cells are fresh, live objects at the ids from `c.heap.size` on (allocation). -/
structure Quiet (c c' : Ctx) : Prop where
  log : c'.log = c.log
  phase : c'.phase = c.phase
  keep : ∀ i o, c.heap.get i = some o → ∃ o', c'.heap.get i = some o' ∧ o'.live = o.live
  sizeLe : c.heap.size ≤ c'.heap.size
  noNew : ∀ i o', c'.heap.get i = some o' →
    (∃ o, c.heap.get i = some o) ∨ (c.heap.size ≤ i ∧ o'.live = true)
  noGap : ∀ i, c.heap.size ≤ i → i < c'.heap.size → ∃ o', c'.heap.get i = some o'

theorem Quiet.ofSame {c c' : Ctx} (log : c'.log = c.log) (phase : c'.phase = c.phase)
    (keep : ∀ i o, c.heap.get i = some o → ∃ o', c'.heap.get i = some o' ∧ o'.live = o.live)
    (size : c'.heap.size = c.heap.size) (noNew : ∀ i o', c'.heap.get i = some o' → ∃ o, c.heap.get i = some o) :
    Quiet c c' :=
  ⟨log, phase, keep, by omega, fun i o' h => Or.inl (noNew i o' h), fun i h1 h2 => by omega⟩

theorem Quiet.refl (c : Ctx) : Quiet c c :=
  Quiet.ofSame rfl rfl (fun _ o ho => ⟨o, ho, rfl⟩) rfl (fun _ o' ho' => ⟨o', ho'⟩)

theorem Quiet.trans {a b c : Ctx} (h1 : Quiet a b) (h2 : Quiet b c) : Quiet a c := by
  refine ⟨h2.log.trans h1.log, h2.phase.trans h1.phase, ?_, Nat.le_trans h1.sizeLe h2.sizeLe, ?_, ?_⟩
  · intro i o ho
    obtain ⟨o1, ho1, hl1⟩ := h1.keep i o ho
    obtain ⟨o2, ho2, hl2⟩ := h2.keep i o1 ho1
    exact ⟨o2, ho2, hl2.trans hl1⟩
  · intro i o2 ho2
    rcases h2.noNew i o2 ho2 with ⟨o1, ho1⟩ | ⟨hsz, hl⟩
    · rcases h1.noNew i o1 ho1 with ⟨o, ho⟩ | ⟨hsz, hl⟩
      · exact Or.inl ⟨o, ho⟩
      · obtain ⟨o2', ho2', hl2⟩ := h2.keep i o1 ho1
        rw [ho2] at ho2'; cases ho2'
        exact Or.inr ⟨hsz, hl2.trans hl⟩
    · exact Or.inr ⟨Nat.le_trans h1.sizeLe hsz, hl⟩
  · intro i hlo hhi
    by_cases hb : i < b.heap.size
    · obtain ⟨o1, ho1⟩ := h1.noGap i hlo hb
      obtain ⟨o2, ho2, _⟩ := h2.keep i o1 ho1
      exact ⟨o2, ho2⟩
    · exact h2.noGap i (by omega) hhi

theorem quiet_of_heap_log {c c' : Ctx} (hh : c'.heap = c.heap) (hl : c'.log = c.log)
    (hp : c'.phase = c.phase) : Quiet c c' :=
  Quiet.ofSame hl hp (fun i o ho => ⟨o, by rw [hh]; exact ho, rfl⟩) (by rw [hh])
    (fun i o' ho' => ⟨o', by rw [← hh]; exact ho'⟩)

theorem Touch.quiet {T} {c c' : Ctx} (t : Touch T c c') : Quiet c c' :=
  Quiet.ofSame t.log t.phase
    (fun j o ho => by obtain ⟨o', ho', hl, _⟩ := t.keep j o ho; exact ⟨o', ho', hl⟩) t.size t.noNew

theorem quiet_setSlot (c : Ctx) (p i : Nat) (v : Slot) : Quiet c (Arena.setSlot c p i v) := by
  cases hg : c.heap.get p with
  | none => simp only [Arena.setSlot, hg]; exact (touch_fail (T := fun _ => True) c .dangling).quiet
  | some o =>
    rw [setSlot_eq hg]
    refine Quiet.ofSame rfl rfl (fun j oj hoj => ?_) (Ctx.setObj_size hg _) (fun j oj' hoj' => ?_)
    · by_cases hj : j = p
      · subst hj; rw [hg] at hoj; cases hoj
        exact ⟨{ o with slots := o.slots.set i v }, by rw [Ctx.setObj_get, if_pos rfl], rfl⟩
      · exact ⟨oj, by rw [Ctx.setObj_get, if_neg hj]; exact hoj, rfl⟩
    · by_cases hj : j = p
      · exact ⟨o, hj ▸ hg⟩
      · rw [Ctx.setObj_get, if_neg hj] at hoj'; exact ⟨oj', hoj'⟩

theorem quiet_link (c : Ctx) (o : Obj) (hl : o.live = true) : Quiet c (c.link o).1 := by
  have hsize := link_size c o
  refine ⟨rfl, rfl, ?_, hsize ▸ Nat.le_succ _, ?_, ?_⟩
  · intro j oj hoj
    have hj : j ≠ c.heap.size := Nat.ne_of_lt (Heap.lt_size_of_get _ _ _ hoj)
    exact ⟨oj, by rw [link_get, if_neg hj]; exact hoj, rfl⟩
  · intro j oj' hoj'
    rw [link_get] at hoj'
    by_cases hj : j = c.heap.size
    · rw [if_pos hj] at hoj'; cases hoj'
      exact Or.inr ⟨Nat.le_of_eq hj.symm, hl⟩
    · rw [if_neg hj] at hoj'; exact Or.inl ⟨oj', hoj'⟩
  · intro j hlo hhi
    rw [hsize] at hhi
    exact ⟨o, by rw [link_get, if_pos (Nat.le_antisymm (Nat.le_of_lt_succ hhi) hlo)]⟩

theorem quiet_rootBarrier (c : Ctx) : Quiet c c.rootBarrier := by
  unfold Ctx.rootBarrier; split <;> exact quiet_of_heap_log rfl rfl rfl

theorem stepBody_quiet (a : Arena) (fin : Bool) (op : Op) (hop : op.isMutator = true) :
    Quiet a.ctx (a.stepBody fin op).1.ctx :=
  (stepBody_mutStep a fin op hop).ctx_rel Quiet.refl Quiet.trans Touch.quiet
    (fun _ => quiet_of_heap_log rfl rfl rfl) (quiet_rootBarrier _) (fun o _ hl _ => quiet_link _ o hl)
    (fun c _ p i v _ _ => quiet_setSlot c p i v)

theorem step_quiet {a : Arena} (h : Inv a) (op : Op) (hop : op.isMutator = true) :
    Quiet a.ctx (a.step op).1.ctx := by
  rw [step_eq h.alive]; exact stepBody_quiet { a with marked := false } a.marked op hop

theorem step_mutator_alive {a : Arena} (ha : a.alive = true) (op : Op) (hop : op.isMutator = true) :
    (a.step op).1.alive = true :=
  (step_mutStep ha hop).alive.trans ha

end GcArena
