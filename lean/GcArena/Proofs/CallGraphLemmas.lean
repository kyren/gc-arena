import GcArena.Proofs.CallGraphDefs
/-!
The evaluations over the generated call graph behind `Props/C03s`.  A pass over `adj` or `fns` is
dear, and each statement there needs several masks that the others need too; so what is evaluated
is evaluated here, in two steps (callback side, collector side), and `Props/C03s` argues from them.
-/
namespace GcArena.CallGraphDefs
open GcArena.CallGraphM GcArena.Generated.CallGraph

theorem count_zero (n : Nat) : count 0 n = 0 := by
  induction n <;> simp [count, *]

theorem ne_zero_of_count_pos {s n : Nat} (h : count s n ≥ 1) : s ≠ 0 := by
  rintro rfl
  rw [count_zero] at h
  exact absurd h (by decide)

/-- The callback-side certificate: it is closed under the edges (those out of the builder `Drop`
impls cut), contains the roots, misses every destructive node, and is what `closure` computes from
the roots; and how many nodes the graph and the masks involved have. -/
theorem callbackClosure_checked :
    (closedB adj builderDrops callbackClosure = true ∧
      (callbackRoots &&& callbackClosure) = callbackRoots ∧
      (destructive &&& callbackClosure) = 0 ∧
      closure adj builderDrops callbackRoots 64 = callbackClosure) ∧
    (fns.length ≥ 300 ∧ count callbackRoots fns.length ≥ 150 ∧
      count callbackClosure fns.length ≥ count callbackRoots fns.length + 100 ∧
      count destructive fns.length ≥ 3 ∧ count builderDrops fns.length ≥ 1) := by decide +kernel

/-- The collector-side certificate: it is closed under predecessors, contains the driver, and all
its members are the driver, a helper of it or an exclusive entry point; the helpers are entered from
the driver only and are private; and how many nodes the masks involved have. -/
theorem collectorClosure_checked :
    (backClosedB adj collectorClosure = true ∧
      (doCollection &&& collectorClosure) = doCollection ∧
      (collectorClosure &&& maskWhere fns (fun f => f.tag == .doCollection || f.tag == .driverPart || exclusiveEntry f))
        = collectorClosure) ∧
    (entersOnlyVia adj driver driverParts = true ∧
      allIn fns driverParts (fun f => !f.clientCallable && !f.isDropImpl && f.selfKind == .other) = true) ∧
    (count doCollection fns.length ≥ 1 ∧ count collectorClosure fns.length ≥ 2) := by decide +kernel

end GcArena.CallGraphDefs
