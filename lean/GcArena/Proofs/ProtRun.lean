import GcArena.Proofs.MutFrame
import GcArena.Proofs.Exact
/-!
  Protection of a marked object over arbitrary histories: from a mark-phase state in which `t` is
  gray or black, through any sequence of API operations — callbacks of every kind with any
  mutator operations, collection calls of every method — for as long as the current cycle is not
  completed (no new `'Z'`, the `Sweep → Sleep` switch, in the step log), `t` stays allocated,
  undestructed and out of the running sweep's reach, and no event about it is logged.
-/
namespace GcArena

/-- Number of `Sweep → Sleep` switches (`'Z'`) in the step log: completed cycles. -/
def zc (c : Ctx) : Nat := c.steps.count 'Z'

theorem micro_steps {c c' : Ctx} {root} (m : Micro) (hs : c.micro root m = some c') :
    ∃ ch, c'.steps = ch :: c.steps ∧ (ch = 'Z' ↔ ∃ b, m = .toSleep b) := by
  cases micro_iff.mp hs with
  | wake => exact ⟨'W', rfl, by simp⟩
  | markStep f =>
    obtain ⟨ch, hz, _, e⟩ := markOne_steps c root f
    exact ⟨ch, e, by simp [hz]⟩
  | markBreak => exact ⟨'b', rfl, by simp⟩
  | toSweep => exact ⟨'S', rfl, by simp⟩
  | sweepStep =>
    obtain ⟨ch, hz, _, e⟩ := sweepOne_steps c
    exact ⟨ch, e, by simp [hz]⟩
  | sweepEnd => exact ⟨'e', rfl, by simp⟩
  | toSleep b => exact ⟨'Z', rfl, by simp⟩

theorem micro_zc {c c' : Ctx} {root} (m : Micro) (hs : c.micro root m = some c') :
    zc c ≤ zc c' ∧ (zc c' = zc c ↔ ∀ b, m ≠ .toSleep b) := by
  obtain ⟨ch, e, hz⟩ := micro_steps m hs
  have hne : (∀ b, m ≠ .toSleep b) ↔ ch ≠ 'Z' := by rw [Ne, hz, not_exists]
  unfold zc
  rw [e, List.count_cons, hne]
  by_cases hch : ch = 'Z' <;> simp [hch]

theorem Prot.safe {c : Ctx} {root temps hole} (h : CInvH c root temps hole) {t : Nat} (p : Prot c t) :
    Safe c t := by
  rcases p with ⟨hp, o, ho, hc⟩ | ⟨_, hs⟩
  · exact ⟨o, ho, h.markedLive t o ho hc, fun hps => by rw [hp] at hps; cases hps⟩
  · exact hs

/-- The new part of the log says nothing about `t`. -/
def LogAvoids (c c' : Ctx) (t : Nat) : Prop :=
  ∃ evs, NewEvents c c' evs ∧ ∀ e, e ∈ evs → e.target ≠ t

theorem LogAvoids.ofLog {c c' : Ctx} (t : Nat) (h : c'.log = c.log) : LogAvoids c c' t := ⟨[], h, nofun⟩

theorem LogAvoids.trans {a b c : Ctx} {t : Nat} (h1 : LogAvoids a b t) (h2 : LogAvoids b c t) :
    LogAvoids a c t := by
  obtain ⟨e1, l1, a1⟩ := h1
  obtain ⟨e2, l2, a2⟩ := h2
  refine ⟨e2 ++ e1, l1.trans l2, fun e he => ?_⟩
  rcases List.mem_append.mp he with he | he
  · exact a2 e he
  · exact a1 e he

theorem micro_prot_events {c c' : Ctx} {root} {t : Nat} (h : CInv c root []) (m : Micro)
    (hs : c.micro root m = some c') (p : Prot c t) : LogAvoids c c' t := by
  rcases (micro_iff.mp hs).kind with ⟨_, hl⟩ | ⟨hp, f, rfl⟩ | ⟨hp, rfl⟩
  · exact .ofLog t hl
  · exact .ofLog t (markOne_spec h hp f).2.log
  · -- what a sweep step reports on is not safe
    obtain ⟨evs, hn, he⟩ := sweepOne_events h hp
    exact ⟨evs, hn, fun e hem heq => (he e hem).2.1 (heq ▸ p.safe h)⟩

/-- Completed cycles only grow, and if none was completed the protection of `t` and the log
    discipline carry over. -/
def ProtRel (t : Nat) (c c' : Ctx) : Prop :=
  zc c ≤ zc c' ∧ (zc c' = zc c → Prot c t → Prot c' t ∧ LogAvoids c c' t)

theorem ProtRel.refl (t : Nat) (c : Ctx) : ProtRel t c c :=
  ⟨Nat.le_refl _, fun _ p => ⟨p, .ofLog t rfl⟩⟩

theorem ProtRel.trans {t : Nat} {a b c : Ctx} (h1 : ProtRel t a b) (h2 : ProtRel t b c) :
    ProtRel t a c := by
  refine ⟨Nat.le_trans h1.1 h2.1, fun hz p => ?_⟩
  -- no cycle completed overall, so none in either half
  have hb : zc b = zc a := Nat.le_antisymm (hz ▸ h2.1) h1.1
  obtain ⟨p1, l1⟩ := h1.2 hb p
  obtain ⟨p2, l2⟩ := h2.2 (hz.trans hb.symm) p1
  exact ⟨p2, l1.trans l2⟩

theorem micro_protRel {c c' : Ctx} {root} (t : Nat) (h : CInv c root []) (m : Micro)
    (hs : c.micro root m = some c') : ProtRel t c c' :=
  have hz := micro_zc m hs
  ⟨hz.1, fun e p => ⟨micro_prot h m hs (hz.2.mp e) p, micro_prot_events h m hs p⟩⟩

theorem step_prot {a : Arena} (h : Inv a) (op : Op) (hop : op.isMutator = true) {t : Nat}
    (p : Prot a.ctx t) : Prot (a.step op).1.ctx t := by
  have m := step_mutFacts h op hop
  have hph : (a.step op).1.ctx.phase = a.ctx.phase := (step_quiet h op hop).phase
  rcases p with ⟨hp, o, ho, hc⟩ | ⟨hp, o, ho, hl, hb⟩
  · obtain ⟨o', ho', _, _, cl, _⟩ := m.keep t o ho
    refine Or.inl ⟨hph.trans hp, o', ho', ?_⟩
    -- gray and black are the top of the marking order
    have top : 2 ≤ cls o'.color := by rcases hc with hc | hc <;> (rw [hc] at cl; exact cl)
    cases hcol : o'.color <;> simp [hcol, cls] at top ⊢
  · obtain ⟨o', ho', l, _, _, hcol, _⟩ := m.keep t o ho
    refine Or.inr ⟨hph.trans hp, o', ho', l.trans hl, ?_⟩
    intro _ hmem
    rw [m.rest] at hmem
    rw [hcol (by rw [hp]; simp)]
    exact hb hp hmem

theorem run_protRel (t : Nat) (ops : List Op) (a : Arena) (h : Inv a) (hal : (a.run ops).alive = true) :
    ProtRel t a.ctx (a.run ops).ctx ∧ Inv (a.run ops) := by
  refine ⟨run_lift (R := fun a a' => ProtRel t a.ctx a'.ctx) (fun _ => .refl t _) .trans ?_ ?_ ops h hal,
    inv_run_from ops h hal⟩
  · intro a op h hop
    have hz : zc (a.step op).1.ctx = zc a.ctx := by unfold zc; rw [(step_mutFacts h op hop).steps]
    exact ⟨Nat.le_of_eq hz.symm, fun _ p => ⟨step_prot h op hop p, .ofLog t (step_quiet h op hop).log⟩⟩
  · intro a a' h rel
    exact rel.lift h (.refl t) .trans (fun hc st => micro_protRel t hc _ (micro_iff.mpr st))

/-- "No new `'Z'` in the step log" in terms of the count. -/
theorem zc_eq_of_suffix {c c' : Ctx} {new : List Char} (e : c'.steps = new ++ c.steps) (hz : 'Z' ∉ new) :
    zc c' = zc c := by
  unfold zc
  rw [e, List.count_append, List.count_eq_zero_of_not_mem hz]
  simp

end GcArena
