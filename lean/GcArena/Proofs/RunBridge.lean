import GcArena.Proofs.Exact
/-!
  Self-driven collection ops outside callbacks, at the API level (`Arena.step (.collect m k none none)`),
  computed exactly: the arena's context is replaced by `Ctx.doCollection`'s result, which always
  returns when no fault is injected.
-/
namespace GcArena

/-- A self-driven, fault-free collection op outside callbacks is `do_collection` with the method's
    arguments on the context, followed for `mark_debt` / `finish_marking` by the `MarkedArena` tail;
    root, temps and callback state are untouched. -/
theorem step_selfDriven {a : Arena} (h : Inv a) (hcb : a.cb = none) (m : Method) (k : Cont) :
    a.step (.collect m k none none) =
      let c1 := (a.ctx.doCollection a.root (Arena.methodArgs m).1 (Arena.methodArgs m).2 none).1
      let a1 : Arena := { a with marked := false, ctx := c1, cover := [] }
      match m with
      | .markDebt | .finishMarking => a1.marked? k none
      | _ => (a1, "-") := by
  have hret := doCollection_returns (h.cinv0 hcb) (Arena.methodArgs m).1 (Arena.methodArgs m).2
  rw [step_eq h.alive, stepBody_collect_eq]
  simp only [hcb, Option.isSome_none, Bool.false_eq_true, if_false, Arena.splitOracle, Arena.runCollector]
  rw [show a.ctx.doCollection a.root (Arena.methodArgs m).1 (Arena.methodArgs m).2 none = (_, .returned) from
    Prod.ext rfl hret]
  cases m <;> rfl

theorem step_finishCycle {a : Arena} (h : Inv a) (hcb : a.cb = none) (k : Cont) :
    (a.step (.collect .finishCycle k none none)).1 =
      { a with marked := false, ctx := (a.ctx.doCollection a.root .stop .finishCycle none).1, cover := [] } :=
  congrArg Prod.fst (step_selfDriven h hcb .finishCycle k)

/-- `finish_marking` from a state that is not Sweeping ends fully marked (context level; the
    API-level form is `C08.finish_marking_some_iff_run`). -/
theorem finishMarking_isMarked {c : Ctx} {root} (h : CInv c root []) (hp : c.phase ≠ .sweep) :
    Arena.isMarked (c.doCollection root .stop .fullyMarked none).1 = true := by
  have hret := doCollection_returns h .stop .fullyMarked
  rcases doCollection_cases c root .stop .fullyMarked none with ⟨hru, _⟩ | ⟨_, he⟩
  · cases hru
  · rw [he] at hret ⊢
    exact collectLoop_fullyMarked _ c false 0 h hp hret

theorem run_finishCycle2 {a : Arena} (h : Inv a) (hcb : a.cb = none) (k1 k2 : Cont) :
    let a2 := a.run [.collect .finishCycle k1 none none, .collect .finishCycle k2 none none]
    a2.alive = true ∧ a2.root = a.root ∧
    a2.ctx = ((a.ctx.doCollection a.root .stop .finishCycle none).1.doCollection a.root .stop .finishCycle none).1 := by
  have e1 := step_finishCycle h hcb k1
  have h1 : Inv (a.step (.collect .finishCycle k1 none none)).1 :=
    inv_step h _ (by rw [e1]; exact h.alive)
  have hcb1 : (a.step (.collect .finishCycle k1 none none)).1.cb = none := by rw [e1]; exact hcb
  have e2 := step_finishCycle h1 hcb1 k2
  simp only [Arena.run]
  rw [e2, e1]
  exact ⟨h.alive, rfl, rfl⟩

end GcArena
