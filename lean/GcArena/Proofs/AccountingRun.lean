import GcArena.Proofs.Accounting
import GcArena.Proofs.Transitions
/-!
  The accounting invariant over whole histories: `acc_step`, `acc_run`, by the induction over
  histories for properties of contexts (`ctx_run_from`).
-/
namespace GcArena

theorem link_acc {c : Ctx} (li : LI c) (o : Obj) (hw : o.color = .white) (ha : Acc c) :
    Acc (c.link o).1 := by
  have hfresh : c.heap.get c.heap.fresh = none := Heap.get_fresh c.heap
  have hnot : c.heap.fresh ∉ c.pre ++ c.rest := by
    intro hm
    obtain ⟨x, hx⟩ := (li.mem _).mp hm
    rw [hfresh] at hx; cases hx
  have hcol : ∀ j, j ∈ c.pre ++ c.rest → colOf (c.link o).1 j = colOf c j := by
    intro j hj
    have : j ≠ c.heap.fresh := fun he => hnot (he ▸ hj)
    unfold colOf
    simp [Ctx.link, Heap.get_set, this]
  have hnew : colOf (c.link o).1 c.heap.fresh = some .white := by
    unfold colOf
    simp [Ctx.link, hw]
  have hph : (c.link o).1.phase = c.phase := rfl
  have hpre : (c.link o).1.pre = c.heap.fresh :: c.pre := rfl
  have hrest : (c.link o).1.rest = c.rest := rfl
  have hwork : (c.link o).1.metrics.work = c.metrics.work := rfl
  obtain ⟨e1, e2, e3, e4, e5⟩ := work_eq hwork
  refine ⟨fun hs => ?_, fun hs => ?_, fun hs => ?_⟩
  · have := ha.1 (hph ▸ hs)
    unfold SleepAcc at *
    rw [e1, e2, e3, e4, e5]; exact this
  · have hm := ha.2.1 (hph ▸ hs)
    have hB : nB (c.link o).1 ((c.link o).1.pre ++ (c.link o).1.rest) = nB c (c.pre ++ c.rest) := by
      rw [hpre, hrest, List.cons_append, nB_cons]
      have : isBlk (c.link o).1 c.heap.fresh = false := by unfold isBlk; rw [hnew]; rfl
      rw [this, nB_congr _ hcol]; simp
    have hM : nM (c.link o).1 ((c.link o).1.pre ++ (c.link o).1.rest) = nM c (c.pre ++ c.rest) := by
      rw [hpre, hrest, List.cons_append, nM_cons]
      have : isMk (c.link o).1 c.heap.fresh = false := by unfold isMk; rw [hnew]; rfl
      rw [this, nM_congr _ hcol]; simp
    exact ⟨by rw [e3]; exact hm.rem, by rw [e4]; exact hm.drp, by rw [e5]; exact hm.frd,
      by rw [e1, hM]; exact hm.mkd, by rw [e2, hB]; exact hm.trd⟩
  · obtain ⟨rb, rw, dw, dfr, h1, h2, h3, h4, h5, h6, h7⟩ := ha.2.2 (hph ▸ hs)
    have hcol' : ∀ j, j ∈ c.rest → colOf (c.link o).1 j = colOf c j :=
      fun j hj => hcol j (List.mem_append_right _ hj)
    refine ⟨rb, rw, dw, dfr, ?_, ?_, h3, ?_, ?_, ?_, ?_⟩
    · rw [e3]; exact h1
    · rw [e4]; exact h2
    · rw [e5]; exact h4
    · rw [hpre]; simp only [List.length_cons]; omega
    · rw [e2, hrest, nB_congr _ hcol']; exact h6
    · rw [e1, hrest, nM_congr _ hcol']; exact h7

theorem setSlot_same (c : Ctx) (p i : Nat) (v : Slot) :
    AccSame c (Arena.setSlot c p i v) ∧ (Arena.setSlot c p i v).phase = c.phase ∧
    (Arena.setSlot c p i v).metrics = c.metrics := by
  unfold Arena.setSlot
  cases hg : c.heap.get p with
  | none => exact ⟨(silent_fail c _).accSame, Ctx.fail_phase c _, Ctx.fail_metrics c _⟩
  | some o =>
    refine ⟨⟨rfl, rfl, fun j => ?_, rfl⟩, rfl, rfl⟩
    unfold colOf
    simp only [Ctx.setObj_get]
    by_cases hj : j = p
    · subst hj; simp [hg]
    · simp [hj]

theorem setSlot_li {c : Ctx} (li : LI c) (p i : Nat) (v : Slot) : LI (Arena.setSlot c p i v) := by
  unfold Arena.setSlot
  cases hg : c.heap.get p with
  | none => exact (silent_fail c _).li li
  | some o =>
    refine li.same rfl rfl (fun j => ?_)
    simp only [Ctx.setObj_get]
    by_cases hj : j = p
    · subst hj; simp [hg]
    · simp [hj]

/-- The barriers do nothing outside the mark phase. -/
theorem barrier_acc {c : Ctx} (li : LI c) (ha : Acc c) (b : BarrierOp) : Acc (b.apply c) := by
  by_cases hm : c.phase = .mark
  · exact (barrier_markPrim c b).acc hm li ha
  · have : b.apply c = c := by
      cases b <;>
        simp [BarrierOp.apply, Ctx.backwardBarrier, Ctx.backwardBarrierWeak, Ctx.forwardBarrier,
          Ctx.forwardBarrierWeak, hm]
    rw [this]; exact ha

theorem upgrade_silent (c : Ctx) (t : Nat) : Silent c (c.upgrade t).1 := by
  unfold Ctx.upgrade
  repeat' split
  all_goals first
    | exact Silent.refl _
    | exact silent_fail _ _

theorem rootBarrier_silent (c : Ctx) : Silent c c.rootBarrier := by
  unfold Ctx.rootBarrier
  split
  · exact ⟨rfl, rfl, rfl, fun _ => rfl, rfl⟩
  · exact Silent.refl c

theorem dropOne_phase (c : Ctx) (i : Nat) : (c.dropOne i).phase = c.phase := by
  unfold Ctx.dropOne
  split
  · simp
  · split <;> simp

theorem dropList_phase (l : List Nat) : ∀ c : Ctx, (l.foldl Ctx.dropOne c).phase = c.phase := by
  induction l with
  | nil => intro c; rfl
  | cons i l ih => intro c; simp only [List.foldl_cons]; rw [ih, dropOne_phase]

theorem dropAll_phase (c : Ctx) : c.dropAll.phase = .drop := by
  show (c.all.foldl Ctx.dropOne { c with phase := .drop }).phase = .drop
  rw [dropList_phase]

theorem acc_of_drop {c : Ctx} (h : c.phase = .drop) : Acc c := by
  refine ⟨fun hs => ?_, fun hs => ?_, fun hs => ?_⟩ <;> (rw [h] at hs; cases hs)

theorem MutStep.acc {a a' : Arena} {fin : Bool} {op : Op} {out : String}
    (st : MutStep a fin op a' out) (h : Inv a)
    (ha : Acc a.ctx) : Acc a'.ctx := by
  have li : LI a.ctx := h.cinv.li
  cases st with
  | same | enter | leave | rootStore => exact ha
  | hold => simp only [Arena.push_ctx]; exact ha
  | setPacing | adjustDebt => exact AccSame.acc (c := a.ctx) ⟨rfl, rfl, fun _ => rfl, rfl⟩ rfl ha
  | enterRoot => exact (rootBarrier_silent a.ctx).acc ha
  | alloc => simp only [Arena.push_ctx]; exact link_acc li _ rfl ha
  | upgradeSome w => simp only [Arena.push_ctx]; exact (upgrade_silent a.ctx w).acc ha
  | upgradeNone w => exact (upgrade_silent a.ctx w).acc ha
  | dangling => exact (silent_fail a.ctx _).acc ha
  | resurrect p hcb =>
    -- `Finalization::resurrect` exists only inside `finalize`, i.e. in the mark phase
    simp only [Arena.push_ctx]
    exact (resurrect_markPrim a.ctx _).acc (h.finMark hcb) li ha
  | barrier b => exact barrier_acc li ha b
  | store path p i v =>
    cases path with
    | write =>
      obtain ⟨s, hp, _⟩ := setSlot_same (a.ctx.backwardBarrier p none) p i v
      exact s.acc hp (barrier_acc li ha (.bb p none))
    | raw =>
      obtain ⟨s, hp, _⟩ := setSlot_same a.ctx p i v
      exact s.acc hp ha
    | storeThenBarrier =>
      obtain ⟨s, hp, _⟩ := setSlot_same a.ctx p i v
      exact barrier_acc (c := Arena.setSlot a.ctx p i v) (setSlot_li li p i v) (s.acc hp ha) (.bb p none)

/-- The accounting invariant is preserved by every operation, including dropping the arena
    (`DropAll` ends in `Phase::Drop`, where it demands nothing). -/
theorem acc_step {a : Arena} (h : Inv a) (ha : Acc a.ctx) (op : Op) : Acc (a.step op).1.ctx := by
  cases op with
  | collect m k f o =>
    exact (step_collect_rel h m k f o).lift (R := fun c c' => Acc c → Acc c') h (fun _ h => h)
      (fun h1 h2 h => h2 (h1 h)) MicroStep.acc ha
  | dropArena =>
    rw [step_eq h.alive]
    simp only [Arena.stepBody]
    split
    · exact ha
    · exact acc_of_drop (dropAll_phase a.ctx)
  | _ => exact (step_mutStep h.alive rfl).acc h.unmark ha

/-- A property of contexts that every operation made in a state satisfying the invariant keeps is
    kept along every history (a dropped arena stays as it is). -/
theorem ctx_run_from {P : Ctx → Prop}
    (step : ∀ {a : Arena}, Inv a → P a.ctx → ∀ op, P (a.step op).1.ctx) (ops : List Op) :
    ∀ a : Arena, (a.alive = true → Inv a) → P a.ctx → P (a.run ops).ctx := by
  induction ops with
  | nil => intro a _ ha; exact ha
  | cons op ops ih =>
    intro a hi ha
    simp only [Arena.run]
    cases hal : a.alive with
    | false => rw [step_dead hal]; exact ih a (fun h => by rw [hal] at h; cases h) ha
    | true => exact ih _ (fun h' => inv_step (hi hal) op h') (step (hi hal) ha op)

theorem ctx_run {P : Ctx → Prop} (h0 : P Ctx.new)
    (step : ∀ {a : Arena}, Inv a → P a.ctx → ∀ op, P (a.step op).1.ctx) (n : Nat) (ops : List Op) :
    P ((Arena.new n).run ops).ctx :=
  ctx_run_from step ops _ (fun _ => inv_init n) h0

/-- In every state of every history (vacuously once the arena is dropped: `Phase::Drop`). -/
theorem acc_run (n : Nat) (ops : List Op) : Acc ((Arena.new n).run ops).ctx :=
  ctx_run acc_new acc_step n ops

end GcArena
