import GcArena.Proofs.Recolor
import GcArena.Proofs.Basic
/-!
  `Context::sweep_one` and the phase switches of `do_collection` preserve the invariant.
-/
namespace GcArena

/-- A step of `sweep_one` over `i` changes the safety of no other object (shared by its three arms). -/
theorem safe_sweep_step {c c' : Ctx} {i : Nat} (hp : c.phase = .sweep) (hp' : c'.phase = .sweep)
    (hrest : c.rest = i :: c'.rest)
    (hframe : ∀ j, j ≠ i → c'.heap.get j = c.heap.get j)
    {t : Nat} (hne : t ≠ i) : Safe c' t ↔ Safe c t := by
  unfold Safe
  rw [hframe t hne, hrest]
  simp [hp, hp', hne]

theorem weakOK_sweep_step {c c' : Ctx} {i : Nat} (hp : c.phase = .sweep) (hp' : c'.phase = .sweep)
    (hrest : c.rest = i :: c'.rest)
    (hframe : ∀ j, j ≠ i → c'.heap.get j = c.heap.get j)
    {t : Nat} (hne : t ≠ i) : WeakOK c' t ↔ WeakOK c t := by
  unfold WeakOK
  rw [hframe t hne, hrest]
  simp [hp, hp', hne]

/-- The two "kept" arms of `sweep_one` (black, white-weak): the object under the cursor stays in
    the list, in front of the cursor, white again. -/
theorem sweep_keep {c c' : Ctx} {root temps} (h : CInv c root temps) (hp : c.phase = .sweep)
    {i : Nat} {rest' : List Nat} (hr : c.rest = i :: rest') {o o' : Obj} (ho : c.heap.get i = some o)
    (hw : o'.color = .white) (hnt : o'.needsTrace = o.needsTrace)
    (hlive : o'.live = true → o.color = .black ∧ o'.slots = o.slots)
    (hdead : o'.live = false → o'.slots = [])
    (hblack : o.color = .black → o'.live = true)
    (e1 : c'.phase = c.phase) (e2 : ∀ j, c'.heap.get j = if j = i then some o' else c.heap.get j)
    (e3 : c'.pre = c.pre ++ [i]) (e4 : c'.rest = rest')
    (e5 : c'.rootNeedsTrace = c.rootNeedsTrace) (e6 : c'.gray = c.gray) (e7 : c'.grayAgain = c.grayAgain)
    (e8 : c'.err = c.err) (e9 : c'.metrics.underflow = c.metrics.underflow)
    (e10 : c'.metrics.totalGcs = c.metrics.totalGcs) : CInv c' root temps := by
  have hnd := h.nodup
  rw [hr] at hnd
  have hi_nr : i ∉ rest' := (List.nodup_cons.mp (List.nodup_append.mp hnd).2.1).1
  have hq := h.qMark (by rw [hp]; simp)
  have hp' : c'.phase = .sweep := by rw [e1]; exact hp
  have hframe : ∀ j, j ≠ i → c'.heap.get j = c.heap.get j := by
    intro j hj; rw [e2]; simp [hj]
  have hgi : c'.heap.get i = some o' := by rw [e2]; simp
  have hrest : c.rest = i :: c'.rest := by rw [hr, e4]
  have hptr : ∀ p, PtrOK c p → PtrOK c' p := by
    intro p hpo
    cases p with
    | strong t =>
      by_cases hne : t = i
      · subst hne
        obtain ⟨ot, hot, _, hbl⟩ := hpo
        rw [ho] at hot; cases hot
        have hb := hbl hp (by rw [hr]; simp)
        exact ⟨o', hgi, hblack hb, fun _ hmem => by rw [e4] at hmem; exact absurd hmem hi_nr⟩
      · exact (safe_sweep_step hp hp' hrest hframe hne).mpr hpo
    | weak t =>
      by_cases hne : t = i
      · subst hne
        exact ⟨o', hgi, fun _ hmem => by rw [e4] at hmem; exact absurd hmem hi_nr⟩
      · exact (weakOK_sweep_step hp hp' hrest hframe hne).mpr hpo
  have sweep : ∀ {P : Prop}, c.phase = .mark → P := fun hm => by rw [hp] at hm; cases hm
  refine h.ofCell (hget := e2) (hphase := e1) (hrnt := e5) (herr := e8) (hunder := e9.trans h.noUnderflow)
    (hnodup := by rw [e3, e4]; simpa using hnd) (hall := fun j => ?_) (hrestNil := fun hn => absurd hp hn)
    (hcount := by rw [e10, e3, e4, h.count, hr]; simp) (hpre := fun j hj hji => ?_)
    (hq := fun _ _ => by rw [e6, e7]) (hqi := ?_) (hqnd := by rw [e6, e7]; exact h.qNodup)
    (hqm := fun _ => by rw [e6, e7]; exact hq) (hx := ?_) (hmk := fun hm => sweep hm) (hptr := hptr)
    (hback := fun j hj hs => (safe_sweep_step hp hp' hrest hframe hj).mp hs)
  · rw [e3, e4, hr]
    by_cases hj : j = i <;> simp [hj]
  · rw [e3] at hj; simpa [hji] using hj
  · rw [e6, e7, hq.1, hq.2]
    simp only [List.not_mem_nil, or_self, false_iff, not_exists, not_and]
    intro x hx hg; cases hx; rw [hw] at hg; cases hg
  · intro x hx
    cases hx
    refine ⟨fun hc => ?_, hdead, fun hc s hs => ?_, fun hs => ?_, fun _ _ => hw, fun hm => sweep hm,
      fun hs p hpm => ?_⟩
    · rw [hw] at hc; rcases hc with hc | hc <;> cases hc
    · cases hl : o'.live with
      | true => rw [(hlive hl).2] at hs; exact h.leafNoPtr i o ho (by rw [← hnt]; exact hc) s hs
      | false => rw [hdead hl] at hs; cases hs
    · rw [hp] at hs; cases hs
    · obtain ⟨o2, ho2, hl2, _⟩ := hs
      rw [hgi] at ho2; cases ho2
      obtain ⟨hb, hsl⟩ := hlive hl2
      rw [hsl] at hpm
      exact hptr p (h.closed i o ho ⟨o, ho, h.markedLive i o ho (.inr hb), fun _ _ => hb⟩ p hpm)

/-- The "released" arm of `sweep_one`: the white object under the cursor leaves list and heap. -/
theorem sweep_free {c c' : Ctx} {root temps} (h : CInv c root temps) (hp : c.phase = .sweep)
    {i : Nat} {rest' : List Nat} (hr : c.rest = i :: rest') {o : Obj} (ho : c.heap.get i = some o)
    (hw : o.color = .white)
    (e1 : c'.phase = c.phase) (e2 : ∀ j, c'.heap.get j = if j = i then none else c.heap.get j)
    (e3 : c'.pre = c.pre) (e4 : c'.rest = rest')
    (e5 : c'.rootNeedsTrace = c.rootNeedsTrace) (e6 : c'.gray = c.gray) (e7 : c'.grayAgain = c.grayAgain)
    (e8 : c'.err = c.err) (e9 : c'.metrics.underflow = false)
    (e10 : c'.metrics.totalGcs + 1 = c.metrics.totalGcs) : CInv c' root temps := by
  have hnd := h.nodup
  rw [hr] at hnd
  have hq := h.qMark (by rw [hp]; simp)
  have hp' : c'.phase = .sweep := by rw [e1]; exact hp
  have hframe : ∀ j, j ≠ i → c'.heap.get j = c.heap.get j := by
    intro j hj; rw [e2]; simp [hj]
  have hrest : c.rest = i :: c'.rest := by rw [hr, e4]
  -- nothing that was vouched for points to the condemned object
  have hptr : ∀ p, PtrOK c p → PtrOK c' p := by
    have cond : ∀ {col}, (c.phase = .sweep → i ∈ c.rest → col) → col := fun hb => hb hp (by rw [hr]; simp)
    rintro (t | t) hpo
    · refine (safe_sweep_step hp hp' hrest hframe ?_).mpr hpo
      rintro rfl
      obtain ⟨ot, hot, _, hbl⟩ := hpo
      rw [ho] at hot; cases hot; rw [hw] at hbl; cases cond hbl
    · refine (weakOK_sweep_step hp hp' hrest hframe ?_).mpr hpo
      rintro rfl
      obtain ⟨ot, hot, hbl⟩ := hpo
      rw [ho] at hot; cases hot; rw [hw] at hbl; rcases cond hbl with h | h <;> cases h
  refine h.ofCell (hget := e2) (hphase := e1) (hrnt := e5) (herr := e8) (hunder := e9) (hnodup := ?_)
    (hall := fun j => ?_) (hrestNil := fun hn => absurd hp hn) (hcount := ?_)
    (hpre := fun _ hj _ => e3 ▸ hj) (hq := fun _ _ => by rw [e6, e7])
    (hqi := by rw [e6, e7, hq.1, hq.2]; simp) (hqnd := by rw [e6, e7]; exact h.qNodup)
    (hqm := fun _ => by rw [e6, e7]; exact hq) (hx := fun _ hx => by cases hx)
    (hmk := fun hm => by rw [hp] at hm; cases hm) (hptr := hptr)
    (hback := fun j hj hs => (safe_sweep_step hp hp' hrest hframe hj).mp hs)
  · rw [e3, e4]
    exact List.nodup_append.mpr ⟨(List.nodup_append.mp hnd).1,
      (List.nodup_cons.mp (List.nodup_append.mp hnd).2.1).2,
      fun a ha b hb => (List.nodup_append.mp hnd).2.2 a ha b (List.mem_cons_of_mem _ hb)⟩
  · rw [e3, e4, hr]
    by_cases hj : j = i
    · subst hj
      have hi_np : j ∉ c.pre := fun hm => (List.nodup_append.mp hnd).2.2 j hm j (by simp) rfl
      simp [hi_np, (List.nodup_cons.mp (List.nodup_append.mp hnd).2.1).1]
    · simp [hj]
  · have := h.count
    rw [hr] at this
    rw [e3, e4]; simp only [List.length_append, List.length_cons] at this ⊢; omega

theorem sweepOne_spec {c : Ctx} {root temps} (h : CInv c root temps) (hp : c.phase = .sweep) :
    CInv c.sweepOne.1 root temps ∧ c.sweepOne.1.phase = .sweep := by
  unfold Ctx.sweepOne
  cases hr : c.rest with
  | nil => exact ⟨h.sameView (sameView_step c 'e'), hp⟩
  | cons i rest' =>
    simp only
    obtain ⟨o, ho⟩ := (h.memAll i).mp (by rw [hr]; simp)
    have hng : o.color ≠ .gray := by
      intro hg
      have := h.grayQ i o ho hg
      have hq := h.qMark (by rw [hp]; simp)
      rw [hq.1, hq.2] at this; simp at this
    simp only [Ctx.step_heap, ho]
    -- the list is not empty, so counting the release down does not underflow
    have htot : 0 < c.metrics.totalGcs := by rw [h.count, hr]; simp; omega
    cases hcol : o.color with
    | gray => exact absurd hcol hng
    | white =>
      simp only
      refine ⟨?_, by split <;> simp [hp]⟩
      split
      all_goals
        apply sweep_free h hp hr ho hcol
        all_goals simp [Heap.get_set, Metrics.markGcFreed, Metrics.markGcDropped, h.noUnderflow]
        all_goals omega
    | whiteWeak =>
      simp only
      refine ⟨?_, by split <;> simp [hp]⟩
      cases hl : o.live with
      | true =>
        simp only [if_true]
        apply sweep_keep h hp hr ho (o' := { o with color := .white, live := false, slots := [] })
          rfl rfl (by simp) (by simp) (by simp [hcol])
        all_goals simp [Metrics.markGcRemembered, Metrics.markGcDropped]
      | false =>
        simp only [Bool.false_eq_true, if_false]
        apply sweep_keep h hp hr ho (o' := { o with color := .white })
          rfl rfl (by simp [hl]) (by intro _; exact h.deadNoSlots i o ho hl) (by simp [hcol])
        all_goals simp [Metrics.markGcRemembered, hl]
    | black =>
      simp only
      refine ⟨?_, by simp [hp]⟩
      apply sweep_keep h hp hr ho (o' := { o with color := .white })
        rfl rfl (by intro _; exact ⟨hcol, rfl⟩)
        (by intro hl; have := h.markedLive i o ho (Or.inr hcol); simp at hl; rw [hl] at this; cases this)
        (by intro _; exact h.markedLive i o ho (Or.inr hcol))
      all_goals simp [Metrics.markGcRemembered]


/-- `Sleep → Mark` (`cx.switch(Phase::Mark)`). -/
theorem wake_spec {c : Ctx} {root temps} (h : CInv c root temps) (hp : c.phase = .sleep) :
    CInv (c.switch .mark) root temps := by
  have hw := h.sleepWhite hp
  -- nothing is condemned while marking, so every pointer that was good asleep stays good
  have hptr : ∀ p, PtrOK c p → PtrOK (c.switch .mark) p := by
    rintro (t | t) hpo
    · obtain ⟨o2, h1, h2, _⟩ := hpo; exact ⟨o2, h1, h2, fun hps => by simp [Ctx.switch] at hps⟩
    · obtain ⟨o2, h1, _⟩ := hpo; exact ⟨o2, h1, fun hps => by simp [Ctx.switch] at hps⟩
  exact { h with
    notDrop := by simp [Ctx.switch]
    restNil := fun _ => h.restNil (by rw [hp]; simp)
    qMark := fun hne => by simp [Ctx.switch] at hne
    sleepWhite := fun hs => by simp [Ctx.switch] at hs
    sleepRoot := fun hs => by simp [Ctx.switch] at hs
    sweepRoot := fun hs => by simp [Ctx.switch] at hs
    preWhite := fun hs => by simp [Ctx.switch] at hs
    tri := fun _ i o ho hb => by rw [hw i o ho] at hb; cases hb
    triRoot := fun _ hr => nomatch (h.sleepRoot hp).symm.trans hr
    closed := fun i o ho ⟨o2, h1, h2, _⟩ p hpm =>
      hptr p (h.closed i o ho ⟨o2, h1, h2, fun hps => by rw [hp] at hps; cases hps⟩ p hpm)
    rootOK := fun p hpm => hptr p (h.rootOK p hpm)
    tempsOK := fun p hpm => hptr p (h.tempsOK p hpm) }

/-- `Mark → Sweep` with `sweep = all`, from a fully marked arena, outside callbacks. -/
theorem enterSweep_spec {c : Ctx} {root} (h : CInv c root []) (hp : c.phase = .mark)
    (hg : c.grayRemaining = false) : CInv c.enterSweep root [] := by
  have hq := Ctx.grayRemaining_eq_false.mp hg
  have hrn : c.rest = [] := h.restNil (by rw [hp]; simp)
  have hnogray : ∀ i o, c.heap.get i = some o → o.color ≠ .gray := by
    intro i o ho hgr
    have := h.grayQ i o ho hgr
    rw [hq.1, hq.2.1] at this; simp at this
  have hph : c.enterSweep.phase = .sweep := rfl
  have hheap : c.enterSweep.heap = c.heap := rfl
  have hrest : c.enterSweep.rest = c.pre := by simp [Ctx.enterSweep, Ctx.switch, hrn]
  have hpre : c.enterSweep.pre = [] := rfl
  have hptr : ∀ p, PtrMarked c p → PtrOK c.enterSweep p := by
    intro p hpm
    cases p with
    | strong t =>
      obtain ⟨o, ho, hc⟩ := hpm
      have hb : o.color = .black := by
        rcases hc with hc | hc
        · exact absurd hc (hnogray t o ho)
        · exact hc
      exact ⟨o, ho, h.markedLive t o ho (Or.inr hb), fun _ _ => hb⟩
    | weak t =>
      obtain ⟨o, ho, hc⟩ := hpm
      refine ⟨o, ho, fun _ _ => ?_⟩
      cases hcol : o.color with
      | white => exact absurd hcol hc
      | gray => exact absurd hcol (hnogray t o ho)
      | whiteWeak => exact Or.inl rfl
      | black => exact Or.inr rfl
  exact { h with
    notDrop := by simp [Ctx.enterSweep, Ctx.switch]
    nodup := by rw [hpre, hrest]; simpa [hrn] using h.nodup
    memAll := fun i => by rw [hpre, hrest, hheap, ← h.memAll i, hrn]; simp
    restNil := fun hne => absurd hph hne
    count := by rw [hpre, hrest]; simpa [Ctx.enterSweep, Ctx.switch, hrn] using h.count
    grayQ := fun i o ho hgr => absurd hgr (hnogray i o ho)
    qGray := fun i hi => by
      simp only [Ctx.enterSweep, Ctx.switch, Ctx.step_gray, Ctx.step_grayAgain, hq.1, hq.2.1] at hi
      simp at hi
    qMark := fun _ => ⟨hq.1, hq.2.1⟩
    sleepWhite := fun hs => by rw [hph] at hs; cases hs
    sleepRoot := fun hs => by rw [hph] at hs; cases hs
    sweepRoot := fun _ => hq.2.2
    preWhite := fun _ i hi => by rw [hpre] at hi; cases hi
    tri := fun hm => by rw [hph] at hm; cases hm
    triRoot := fun hm => by rw [hph] at hm; cases hm
    -- everything is still before the cursor, so a safe object is black and `tri` speaks for its slots
    closed := fun i o ho ⟨o2, ho2, _, hbl⟩ p hpm => by
      rw [hheap] at ho ho2
      rw [ho] at ho2; cases ho2
      have hmem : i ∈ c.enterSweep.rest := by
        rw [hrest]
        simpa [hrn] using (h.memAll i).mpr ⟨o, ho⟩
      exact hptr p (h.tri hp i o ho (hbl hph hmem) (by simp) p hpm)
    rootOK := fun p hpm => hptr p (h.triRoot hp hq.2.2 p hpm)
    tempsOK := fun p hpm => nomatch hpm }

/-- `Sweep → Sleep` (`finish_cycle`, `root_needs_trace = true`, `switch(Sleep)`) at the end of the
    sweep list. -/
theorem enterSleep_spec {c : Ctx} {root temps} (h : CInv c root temps) (hp : c.phase = .sweep)
    (hr : c.rest = []) (hs : Bool) : CInv (c.enterSleep hs) root temps := by
  have hq := h.qMark (by rw [hp]; simp)
  have hph : (c.enterSleep hs).phase = .sleep := rfl
  have hheap : (c.enterSleep hs).heap = c.heap := rfl
  have hsafe : ∀ i, Safe c i → Safe (c.enterSleep hs) i := by
    rintro i ⟨o, ho, hl, _⟩
    exact ⟨o, ho, hl, fun hps => by rw [hph] at hps; cases hps⟩
  have hsafe' : ∀ i, Safe (c.enterSleep hs) i → Safe c i := by
    rintro i ⟨o, ho, hl, _⟩
    exact ⟨o, ho, hl, fun _ hm => by rw [hr] at hm; cases hm⟩
  have hptr : ∀ p, PtrOK c p → PtrOK (c.enterSleep hs) p := by
    intro p hpo
    cases p with
    | strong t => exact hsafe t hpo
    | weak t =>
      obtain ⟨o, ho, _⟩ := hpo
      exact ⟨o, ho, fun hps => by rw [hph] at hps; cases hps⟩
  exact { h with
    noUnderflow := by simpa [Ctx.enterSleep, Ctx.switch, Metrics.finishCycle] using h.noUnderflow
    notDrop := by rw [hph]; simp
    restNil := fun _ => hr
    count := by simpa [Ctx.enterSleep, Ctx.switch, Metrics.finishCycle] using h.count
    qMark := fun _ => hq
    -- the sweep has passed every object: all of them are white
    sleepWhite := fun _ i o ho => by
      have hmem := (h.memAll i).mpr ⟨o, ho⟩
      rw [hr, List.append_nil] at hmem
      exact h.preWhite hp i hmem o ho
    sleepRoot := fun _ => rfl
    sweepRoot := fun hps => by rw [hph] at hps; cases hps
    preWhite := fun hps => by rw [hph] at hps; cases hps
    tri := fun hm => by rw [hph] at hm; cases hm
    triRoot := fun hm => by rw [hph] at hm; cases hm
    closed := fun i o ho hsf p hpm => hptr p (h.closed i o ho (hsafe' i hsf) p hpm)
    rootOK := fun p hpm => hptr p (h.rootOK p hpm)
    tempsOK := fun p hpm => hptr p (h.tempsOK p hpm) }

end GcArena
