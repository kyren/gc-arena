import GcArena.Proofs.AccountingRun
import GcArena.Proofs.Debt
/-!
  C10, monotonicity of `allocation_debt` under mutator operations: which metric updates each
  operation can perform, and what each update does to the reported debt.
-/
namespace GcArena

theorem debt_pos_iff {m : Metrics} :
    0 < m.allocationDebt ↔ m.totalGcs ≠ 0 ∧ 0 < m.cycleDebits ∧ m.cycleCredits < m.cycleDebits := by
  unfold Metrics.allocationDebt
  split
  · simp [*, Rat.lt_irrefl]
  · split <;> grind

theorem hasDebt_iff {m : Metrics} :
    m.hasDebt = true ↔ m.totalGcs ≠ 0 ∧ 0 < m.cycleDebits ∧ m.cycleCredits < m.cycleDebits := by
  rw [← debt_pos_iff]; simp [Metrics.hasDebt]

theorem hasDebt_of_pos {m : Metrics} (h : 0 < m.allocationDebt) : m.hasDebt = true := by
  simpa [Metrics.hasDebt] using h

theorem debt_eq_of_pos {m : Metrics} (h : 0 < m.allocationDebt) :
    m.allocationDebt = m.cycleDebits - m.cycleCredits := by
  obtain ⟨h1, h2, h3⟩ := debt_pos_iff.mp h
  unfold Metrics.allocationDebt
  rw [if_neg h1, if_neg (by grind)]
  grind

/-- The debt grows with the debits and falls with the credits; filling an empty arena can only
    raise it. -/
theorem debt_mono {m m' : Metrics} (ht : m.totalGcs ≠ 0 → m'.totalGcs ≠ 0)
    (hd : m.cycleDebits ≤ m'.cycleDebits) (hc : m'.cycleCredits ≤ m.cycleCredits) :
    m.allocationDebt ≤ m'.allocationDebt := by
  by_cases hpos : 0 < m.allocationDebt
  · -- a positive debt is the excess of the debits over the credits, and so is the larger one
    obtain ⟨h1, h2, h3⟩ := debt_pos_iff.mp hpos
    have hpos' : 0 < m'.allocationDebt :=
      debt_pos_iff.mpr ⟨ht h1, by grind, by grind⟩
    rw [debt_eq_of_pos hpos, debt_eq_of_pos hpos']
    grind
  · exact Rat.le_trans (Rat.not_lt.mp hpos) (debt_nonneg m')

/-- Work credited for `x` lowers the debt by at most `x`. -/
theorem debt_sub_le {m m' : Metrics} {x : Rat} (hx : 0 ≤ x) (ht : m'.totalGcs = m.totalGcs)
    (hd : m'.cycleDebits = m.cycleDebits) (hc : m'.cycleCredits = m.cycleCredits + x) :
    m.allocationDebt - x ≤ m'.allocationDebt := by
  have hn := debt_nonneg m'
  by_cases hpos : 0 < m.allocationDebt
  · obtain ⟨h1, h2, h3⟩ := debt_pos_iff.mp hpos
    rw [debt_eq_of_pos hpos]
    by_cases hlt : m.cycleCredits + x < m.cycleDebits
    · -- still in debt: exactly `x` less
      have hpos' : 0 < m'.allocationDebt := debt_pos_iff.mpr ⟨ht ▸ h1, hd ▸ h2, by rw [hd, hc]; exact hlt⟩
      rw [debt_eq_of_pos hpos', hd, hc]
      grind
    · have := Rat.not_lt.mp hlt
      grind
  · have := Rat.not_lt.mp hpos
    grind

theorem credits_marked (m : Metrics) :
    m.markGcMarked.cycleCredits = m.cycleCredits + m.pacing.markFactor := by
  unfold Metrics.cycleCredits Metrics.markGcMarked
  simp only [Rat.natCast_add, Rat.add_mul]
  grind

theorem credits_untraced_le (m : Metrics) (htf : 0 ≤ m.pacing.traceFactor) :
    m.markGcUntraced.cycleCredits ≤ m.cycleCredits := by
  have : ((m.traced - 1 : Nat) : Rat) * m.pacing.traceFactor ≤ (m.traced : Rat) * m.pacing.traceFactor :=
    Rat.mul_le_mul_of_nonneg_right (Rat.natCast_le_natCast.mpr (Nat.sub_le _ _)) htf
  unfold Metrics.cycleCredits Metrics.markGcUntraced
  grind

theorem debt_le_allocated (m : Metrics) : m.allocationDebt ≤ m.markGcAllocated.allocationDebt := by
  refine debt_mono (fun _ => Nat.succ_ne_zero _) ?_ Rat.le_refl
  unfold Metrics.cycleDebits Metrics.markGcAllocated
  simp only [Rat.natCast_add]
  grind

theorem debt_le_untraced (m : Metrics) (htf : 0 ≤ m.pacing.traceFactor) :
    m.allocationDebt ≤ m.markGcUntraced.allocationDebt :=
  debt_mono id Rat.le_refl (credits_untraced_le m htf)

theorem debt_sub_le_marked (m : Metrics) (hmf : 0 ≤ m.pacing.markFactor) :
    m.allocationDebt - m.pacing.markFactor ≤ m.markGcMarked.allocationDebt :=
  debt_sub_le hmf rfl rfl (credits_marked m)

theorem debt_marked_le (m : Metrics) (hmf : 0 ≤ m.pacing.markFactor) :
    m.markGcMarked.allocationDebt ≤ m.allocationDebt :=
  debt_mono (m := m.markGcMarked) id Rat.le_refl (by rw [credits_marked]; grind)

/-- Operations that perform marking work themselves: forward barriers and `resurrect`. -/
def Op.isForwardLike : Op → Bool
  | .barrier (.fb _ _) => true
  | .barrier (.fbw _ _) => true
  | .resurrect _ => true
  | _ => false

def Op.isAlloc : Op → Bool
  | .alloc _ _ => true
  | _ => false

/-- The counter updates a mutator operation other than `set_pacing` / `adjust_debt` can cause:
    none; one allocation counted (`alloc` only); one `traced` taken back (a write barrier re-graying
    a black object); one object newly marked (forward barriers and `resurrect` only). -/
inductive MetStep : Op → Metrics → Metrics → Prop
  | same {op m} : MetStep op m m
  | allocated {nt slots m} : MetStep (.alloc nt slots) m m.markGcAllocated
  | untraced {op m} (hf : op.isForwardLike = false) : MetStep op m m.markGcUntraced
  | marked {op m} (hf : op.isForwardLike = true) : MetStep op m m.markGcMarked

/-- What such an update leaves of the debit side.  `count`: `total_gcs - allocated` (held at
    wake-up − counted at wake-up) is constant, so the decomposition `allocated = Aw + A'`,
    `total_gcs + freed = H + A'` used by the ρ-bound is maintained with `A'` = allocations made
    since the cycle woke. -/
structure MetFrame (op : Op) (m m' : Metrics) : Prop where
  pacing : m'.pacing = m.pacing
  wakeup : m'.wakeup = m.wakeup
  artificial : m'.artificial = m.artificial
  freed : m'.freed = m.freed
  count : m'.totalGcs + m.allocated = m.totalGcs + m'.allocated
  mono : m.allocated ≤ m'.allocated
  bound : m'.allocated ≤ m.allocated + (if op.isAlloc then 1 else 0)

theorem MetStep.frame {op : Op} {m m' : Metrics} (h : MetStep op m m') : MetFrame op m m' := by
  cases h with
  | allocated =>
    exact ⟨rfl, rfl, rfl, rfl, Nat.add_right_comm .., Nat.le_succ _, Nat.le_refl _⟩
  | same | untraced | marked => exact ⟨rfl, rfl, rfl, rfl, rfl, Nat.le_refl _, Nat.le_add_right _ _⟩

theorem Prim1.metStep {c c' : Ctx} {b : Bool} {op : Op} (p : Prim1 c c' b) (h : op.isForwardLike = b) :
    MetStep op c.metrics c'.metrics := by
  cases p with
  | silent s => rw [s.metrics]; exact .same
  | marks r _ _ met =>
    rw [met]
    split
    · exact .marked h
    · exact .same
  | regray r met => rw [met]; exact .untraced h

theorem MutStep.metStep {a a' : Arena} {fin : Bool} {op : Op} {out : String}
    (st : MutStep a fin op a' out)
    (hk : op.isKnob = false) : MetStep op a.ctx.metrics a'.ctx.metrics := by
  have bb : ∀ {c : Ctx} {path p i v}, op = .store path p i v → c.metrics = a.ctx.metrics →
      MetStep op a.ctx.metrics (c.backwardBarrier p none).metrics := by
    intro c path p i v hop hc
    rw [← hc]
    exact (barrier_prim1 c (.bb p none)).metStep (by rw [hop]; rfl)
  cases st with
  | same | enter | leave | rootStore => exact .same
  | hold => simp only [Arena.push_ctx]; exact .same
  | setPacing | adjustDebt => cases hk
  | enterRoot => rw [show a.ctx.rootBarrier.metrics = _ from (rootBarrier_silent _).metrics]; exact .same
  | alloc => simp only [Arena.push_ctx]; exact .allocated
  | upgradeSome w =>
    simp only [Arena.push_ctx]
    rw [show (a.ctx.upgrade w).1.metrics = _ from (upgrade_silent _ w).metrics]; exact .same
  | upgradeNone w => rw [show (a.ctx.upgrade w).1.metrics = _ from (upgrade_silent _ w).metrics]; exact .same
  | dangling => rw [show (a.ctx.fail Fault.dangling).metrics = _ from Ctx.fail_metrics _ _]; exact .same
  | resurrect p => simp only [Arena.push_ctx]; exact (resurrect_prim1 _ _).metStep rfl
  | barrier b => exact (barrier_prim1 _ b).metStep (by cases b <;> rfl)
  | store path p i v =>
    cases path with
    | write =>
      show MetStep _ _ (Arena.setSlot (a.ctx.backwardBarrier p none) p i v).metrics
      rw [(setSlot_same _ p i v).2.2]
      exact bb rfl rfl
    | raw =>
      show MetStep _ _ (Arena.setSlot a.ctx p i v).metrics
      rw [(setSlot_same _ p i v).2.2]; exact .same
    | storeThenBarrier => exact bb rfl (setSlot_same _ p i v).2.2

/-- For any arena state whatsoever (a dropped arena is stepped no further). -/
theorem step_metStep (a : Arena) (op : Op) (hop : op.isMutator = true) (hk : op.isKnob = false) :
    MetStep op a.ctx.metrics (a.step op).1.ctx.metrics := by
  unfold Arena.step
  split
  · exact .same
  · exact (stepBody_mutStep { a with marked := false } a.marked op hop).metStep hk

theorem MetStep.plain {op : Op} {m m' : Metrics} (h : MetStep op m m') (hf : op.isForwardLike = false) :
    m' = m ∨ (op.isAlloc = true ∧ m' = m.markGcAllocated) ∨ m' = m.markGcUntraced := by
  cases h with
  | same => exact .inl rfl
  | allocated => exact .inr (.inl ⟨rfl, rfl⟩)
  | untraced => exact .inr (.inr rfl)
  | marked h => rw [hf] at h; cases h

theorem MetStep.fwd {op : Op} {m m' : Metrics} (h : MetStep op m m') (hf : op.isForwardLike = true) :
    m' = m ∨ m' = m.markGcMarked := by
  cases h with
  | same => exact .inl rfl
  | marked => exact .inr rfl
  | allocated => cases hf
  | untraced h => rw [hf] at h; cases h

end GcArena
