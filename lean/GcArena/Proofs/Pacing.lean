import GcArena.Proofs.DebtMono
import GcArena.Proofs.Loop
/-!
  Pacing (C09): with per-object work paths summing to at most `ρ`, the credits of a cycle never
  exceed `ρ ×` (objects the cycle has to deal with); hence a debt-driven call that returns with
  the cycle unfinished bounds the allocations made since the cycle woke.
-/
namespace GcArena

theorem le_of_add_le {a k ρ : Rat} (hk : 0 ≤ k) (h : a + k ≤ ρ) : a ≤ ρ := by grind

/-- `Σ nᵢ wᵢ ≤ ρ Σ nᵢ` for non-negative counts `nᵢ` and weights `wᵢ ≤ ρ`. -/
theorem sum5_le {n1 n2 n3 n4 n5 w1 w2 w3 w4 w5 ρ : Rat}
    (p1 : 0 ≤ n1) (p2 : 0 ≤ n2) (p3 : 0 ≤ n3) (p4 : 0 ≤ n4) (p5 : 0 ≤ n5)
    (h1 : w1 ≤ ρ) (h2 : w2 ≤ ρ) (h3 : w3 ≤ ρ) (h4 : w4 ≤ ρ) (h5 : w5 ≤ ρ) :
    n1 * w1 + n2 * w2 + n3 * w3 + n4 * w4 + n5 * w5 ≤ ρ * (n1 + n2 + n3 + n4 + n5) := by
  have g1 := Rat.mul_le_mul_of_nonneg_left h1 p1
  have g2 := Rat.mul_le_mul_of_nonneg_left h2 p2
  have g3 := Rat.mul_le_mul_of_nonneg_left h3 p3
  have g4 := Rat.mul_le_mul_of_nonneg_left h4 p4
  have g5 := Rat.mul_le_mul_of_nonneg_left h5 p5
  grind

/-- Split the objects the cycle deals with into black ones still on the list (`B`), other marked
    ones (`W`), remembered black (`rb`), remembered shells (`rw`) and released ones (`frd`): the
    credits are at most the weighted sum of these five counts along their work paths (mark + trace;
    mark; mark + trace + keep; mark + drop + keep; drop + free), each weight at most `ρ`. -/
theorem credits_arith {mk tr rem drp frd B W rb rw tot mf tf kf df ff ρ : Rat}
    (hB : 0 ≤ B) (hW : 0 ≤ W) (hrb : 0 ≤ rb) (hrw : 0 ≤ rw) (hfrd : 0 ≤ frd)
    (hmf : 0 ≤ mf) (htf : 0 ≤ tf) (hkf : 0 ≤ kf) (hdf : 0 ≤ df)
    (h1 : mf + tf + kf ≤ ρ) (h2 : df + ff ≤ ρ) (h3 : mf + df + kf ≤ ρ)
    (e1 : rem = rb + rw) (e2 : drp ≤ rw + frd) (e5 : B + W + rb + rw ≤ tot)
    (e6 : tr ≤ B + rb) (e7 : mk ≤ B + W + rb + rw) :
    mk * mf + tr * tf + rem * kf + drp * df + frd * ff ≤ ρ * (tot + frd) := by
  have f1 := Rat.mul_le_mul_of_nonneg_right e7 hmf
  have f2 := Rat.mul_le_mul_of_nonneg_right e6 htf
  have f3 := Rat.mul_le_mul_of_nonneg_right e2 hdf
  have hmt : mf + tf ≤ ρ := le_of_add_le hkf h1
  have hm : mf ≤ ρ := le_of_add_le htf hmt
  have s := sum5_le hB hW hrb hrw hfrd hmt hm h1 h3 h2
  have g6 : ρ * (B + W + rb + rw + frd) ≤ ρ * (tot + frd) :=
    Rat.mul_le_mul_of_nonneg_left (Rat.add_le_add_right.mpr e5) (Rat.le_trans hmf hm)
  subst e1
  refine Rat.le_trans ?_ (Rat.le_trans s g6)
  grind

/-- The hypothesis of the ρ-bound: non-negative work factors whose sum along each of the three
    per-object work paths — black: mark + trace + keep; unreachable: drop + free; weakly reachable
    only: mark + drop + keep — is at most `ρ`.  (`free_factor` itself may even be negative.) -/
structure RhoPacing (p : Pacing) (ρ : Rat) : Prop where
  mf : 0 ≤ p.markFactor
  tf : 0 ≤ p.traceFactor
  kf : 0 ≤ p.keepFactor
  df : 0 ≤ p.dropFactor
  black : p.markFactor + p.traceFactor + p.keepFactor ≤ ρ
  white : p.dropFactor + p.freeFactor ≤ ρ
  weak : p.markFactor + p.dropFactor + p.keepFactor ≤ ρ

theorem credits_nat {p : Pacing} {ρ : Rat} (hp : RhoPacing p ρ)
    (mk tr rem drp frd B M rb rw dw dfr pre rl total : Nat)
    (hBM : B ≤ M) (hMl : M ≤ rl)
    (e1 : rem = rb + rw) (e2 : drp = dw + dfr) (e3 : dw ≤ rw) (e4 : dfr ≤ frd) (e5 : rb + rw ≤ pre)
    (e6 : tr ≤ B + rb) (e7 : mk ≤ M + rb + rw) (htot : total = pre + rl) :
    (mk : Rat) * p.markFactor + (tr : Rat) * p.traceFactor + (rem : Rat) * p.keepFactor
      + (drp : Rat) * p.dropFactor + (frd : Rat) * p.freeFactor ≤ ρ * ((total : Rat) + (frd : Rat)) := by
  obtain ⟨W, rfl⟩ := Nat.le.dest hBM
  have e2' : drp ≤ rw + frd := by omega
  have e5' : B + W + rb + rw ≤ total := by omega
  exact credits_arith (B := B) (W := W) (rb := rb) (rw := rw) Rat.natCast_nonneg Rat.natCast_nonneg
    Rat.natCast_nonneg Rat.natCast_nonneg Rat.natCast_nonneg hp.mf hp.tf hp.kf hp.df hp.black hp.white
    hp.weak (by exact_mod_cast e1) (by exact_mod_cast e2') (by exact_mod_cast e5')
    (by exact_mod_cast e6) (by exact_mod_cast e7)

/-- The accounting invariant without the phase: in every phase there are `B ≤ M` black / marked
    objects among `rl` still on the list (asleep: none) and `rb`, `rw`, `dw`, `dfr` as in `SweepAcc`
    (zero before the sweep) that bound the five work counters. -/
theorem Acc.counts {c : Ctx} {root : List Slot} {temps} (ha : Acc c) (h : CInv c root temps) :
    ∃ B M rb rw dw dfr pre rl : Nat, B ≤ M ∧ M ≤ rl ∧ c.metrics.remembered = rb + rw ∧
      c.metrics.dropped = dw + dfr ∧ dw ≤ rw ∧ dfr ≤ c.metrics.freed ∧ rb + rw ≤ pre ∧
      c.metrics.traced ≤ B + rb ∧ c.metrics.marked ≤ M + rb + rw ∧ c.metrics.totalGcs = pre + rl := by
  cases hph : c.phase with
  | drop => exact absurd hph h.notDrop
  | sleep =>
    obtain ⟨e1, e2, e3, e4, e5⟩ := ha.1 hph
    exact ⟨0, 0, 0, 0, 0, 0, 0, c.metrics.totalGcs, Nat.le_refl _, Nat.zero_le _, e3, e4, Nat.le_refl _,
      Nat.zero_le _, Nat.zero_le _, by omega, by omega, (Nat.zero_add _).symm⟩
  | mark =>
    have hm := ha.2.1 hph
    exact ⟨nB c (c.pre ++ c.rest), nM c (c.pre ++ c.rest), 0, 0, 0, 0, 0, (c.pre ++ c.rest).length,
      nB_le_nM _ _, nM_le_length _ _, hm.rem, hm.drp, Nat.le_refl _, Nat.zero_le _, Nat.zero_le _,
      hm.trd, hm.mkd, by rw [h.count]; omega⟩
  | sweep =>
    obtain ⟨rb, rw, dw, dfr, h1, h2, h3, h4, h5, h6, h7⟩ := ha.2.2 hph
    exact ⟨nB c c.rest, nM c c.rest, rb, rw, dw, dfr, c.pre.length, c.rest.length, nB_le_nM _ _,
      nM_le_length _ _, h1, h2, h3, h4, h5, h6, by omega, by rw [h.count, List.length_append]⟩

/-- **Credits never run ahead of the work there is.**  In every state satisfying the two
    invariants, the credits of the running cycle are at most `ρ ×` (allocations still held +
    allocations released by this cycle). -/
theorem credits_le {c : Ctx} {root : List Slot} {ρ : Rat} (hp : RhoPacing c.metrics.pacing ρ)
    (ha : Acc c) (h : CInv c root []) :
    c.metrics.cycleCredits ≤ ρ * ((c.metrics.totalGcs : Rat) + (c.metrics.freed : Rat)) := by
  obtain ⟨B, M, rb, rw, dw, dfr, pre, rl, h1, h2, h3, h4, h5, h6, h7, h8, h9, h10⟩ := ha.counts h
  exact credits_nat hp _ _ _ _ _ B M rb rw dw dfr pre rl _ h1 h2 h3 h4 h5 h6 h7 h8 h9 h10

/-- No credit counter can outgrow the arena. -/
theorem counters_le {c : Ctx} {root : List Slot} {temps} (ha : Acc c) (h : CInv c root temps) :
    c.metrics.marked ≤ c.metrics.totalGcs ∧ c.metrics.traced ≤ c.metrics.totalGcs ∧
    c.metrics.remembered ≤ c.metrics.totalGcs ∧
    c.metrics.dropped ≤ c.metrics.remembered + c.metrics.freed := by
  obtain ⟨B, M, rb, rw, dw, dfr, pre, rl, h1, h2, h3, h4, h5, h6, h7, h8, h9, h10⟩ := ha.counts h
  omega

/-- The debit side (`allocated`, `wakeup`, `artificial`), the pacing, and the number of
    allocations the cycle has had to deal with (`total_gcs + freed`). -/
structure CFrame (m m' : Metrics) : Prop where
  mf : MFrame m m'
  sum : m'.totalGcs + m'.freed = m.totalGcs + m.freed

theorem CFrame.refl (m : Metrics) : CFrame m m := ⟨MFrame.refl m, rfl⟩

theorem CFrame.trans {a b c : Metrics} (h1 : CFrame a b) (h2 : CFrame b c) : CFrame a c :=
  ⟨h1.mf.trans h2.mf, h2.sum.trans h1.sum⟩

theorem CFrame.ghost {m m' : Metrics} (f : CFrame m m') :
    m'.totalGcs + m'.freed + m.allocated = m.totalGcs + m.freed + m'.allocated := by
  rw [f.sum, f.mf.allocated]

theorem MarkPrim.cframe {c c' : Ctx} (p : MarkPrim c c') : CFrame c.metrics c'.metrics :=
  ⟨p.mf, by rw [p.total, p.freed]⟩

theorem sweptMetrics_sum (o : Obj) {m : Metrics} (h : 0 < m.totalGcs) :
    (sweptMetrics o m).totalGcs + (sweptMetrics o m).freed = m.totalGcs + m.freed := by
  unfold sweptMetrics
  cases o.color <;> cases o.live <;>
    simp only [Metrics.markGcFreed, Metrics.markGcDropped, Metrics.markGcRemembered, if_true,
      Bool.false_eq_true, if_false] <;>
    omega

/-- A released allocation moves from `total_gcs` to `freed`; the list is not empty, so `total_gcs`
    does not underflow. -/
theorem sweepOne_sum {c : Ctx} {root temps} (h : CInv c root temps) :
    c.sweepOne.1.metrics.totalGcs + c.sweepOne.1.metrics.freed = c.metrics.totalGcs + c.metrics.freed := by
  cases hr : c.rest with
  | nil => rw [sweepOne_end hr]; rfl
  | cons i r =>
    cases ho : c.heap.get i with
    | none => rw [sweepOne_none hr ho, Ctx.fail_metrics]; rfl
    | some o =>
      rw [sweepOne_metrics hr ho]
      exact sweptMetrics_sum o (by rw [h.count, hr]; simp; omega)

theorem sweepOne_cframe {c : Ctx} {root temps} (h : CInv c root temps) :
    CFrame c.metrics c.sweepOne.1.metrics := ⟨sweepOne_mframe c, sweepOne_sum h⟩

/-- The loop never stops on the debt test in `Sweep` with nothing left to sweep (repair D5). -/
theorem debtBreak_not_parked {c : Ctx} {ru} (h : c.debtBreak ru = true) : ¬ (c.phase = .sweep ∧ c.rest = []) :=
  (debtBreak_iff.mp h).2.2

theorem not_debtBreak_payDebt {c : Ctx} (h : ¬ c.debtBreak .payDebt = true) (hp : c.phase ≠ .sweep) :
    c.metrics.hasDebt = true := by
  simp only [Ctx.debtBreak, decide_true, Bool.true_and, Bool.and_eq_true, Bool.not_eq_true',
    Bool.and_eq_false_iff, decide_eq_false_iff_not, not_and] at h
  cases hd : c.metrics.hasDebt with
  | true => rfl
  | false => exact absurd (Or.inl hp) (h hd)

/-- Under `Stop::FinishCycle` every iteration of the loop keeps the frame, except the one that runs
    `finish_cycle` — and that one returns, asleep. -/
theorem Arm.cframe {root ru fault c hs k c1 hs1 k1 e}
    (a : Arm root ru .finishCycle fault c hs k c1 hs1 k1 e) (h : CInv c root []) :
    (c1.phase = .sleep ∧ e = some .returned) ∨ CFrame c.metrics c1.metrics := by
  cases a with
  | wake | marked | toSweep | atSweep => exact .inr (CFrame.refl _)
  | mark | unwind => exact .inr (markOne_markPrim h _).cframe
  | sweep => exact .inr (sweepOne_cframe h)
  | toSleep => exact .inl ⟨rfl, if_pos (.inl rfl)⟩
  | drop hp => exact absurd hp h.notDrop

/-- A `cycle_debt` / `finish_cycle` call (`Stop::FinishCycle`) that ends with the collector not
    asleep never ran `finish_cycle`; and a debt-driven one that *returned* that way stopped
    because there was no debt to pay. -/
theorem doCollection_cycle_frame {c c' : Ctx} {root ru fault ex} (h : CInv c root [])
    (hr : c.doCollection root ru .finishCycle fault = (c', ex)) (hns : c'.phase ≠ .sleep) :
    CFrame c.metrics c'.metrics ∧ (ru = .payDebt → ex = .returned → c'.metrics.hasDebt = false) := by
  constructor
  · rcases doCollection_cases c root ru .finishCycle fault with ⟨_, _, he⟩ | ⟨_, he⟩ <;> rw [he] at hr
    · cases hr; exact CFrame.refl _
    · exact collectLoop_induct' (I := fun c1 _ _ => CInv c1 root [] ∧ CFrame c.metrics c1.metrics)
        (Q := fun c' _ => c'.phase ≠ .sleep → CFrame c.metrics c'.metrics) (fun _ _ _ hi _ => hi.2)
        (fun _ _ _ _ _ _ _ hi a hns => (a.cframe hi.1).elim (fun hsl => absurd hsl.1 hns) hi.2.trans)
        (fun _ _ _ _ _ _ hi a => ⟨a.inv hi.1, (a.cframe hi.1).elim (fun hsl => nomatch hsl.2) hi.2.trans⟩)
        ⟨h, CFrame.refl _⟩ hr hns
  · rintro - rfl
    rcases doCollection_exit hr with ⟨_, hnd, _⟩ | ⟨h1, _⟩ | ⟨h1, _⟩ | ⟨c1, b, rfl, _⟩ | ⟨hd, _⟩
    · exact hnd
    · exact absurd h1 (by decide)
    · exact absurd h1 (by decide)
    · exact absurd rfl hns
    · exact absurd hd ((doCollection_reaches_eq h hr).inv h).notDrop

theorem not_hasDebt_le {m : Metrics} (h : m.hasDebt = false) (hne : m.totalGcs ≠ 0)
    (hd : 0 < m.cycleDebits) : m.cycleDebits ≤ m.cycleCredits :=
  Rat.not_lt.mp (fun hlt => by rw [hasDebt_iff.mpr ⟨hne, hd, hlt⟩] at h; cases h)

/-- **ρ-bound**, context level.  `Aw`: allocations counted when the cycle woke; `A'`: allocations
    made since; `H`: allocations held when it woke.  If the cycle woke in debt
    (`0 < Aw - wakeup + artificial`, no artificial reduction since) and a `cycle_debt` call returns
    with the cycle still unfinished and the arena non-empty, then `A' (1 - ρ) < ρ H`. -/
theorem rho_bound_ctx {c c' : Ctx} {root : List Slot} {fault : TraceFault} {ρ : Rat} {Aw H A' : Nat}
    (hinv : CInv c root []) (hacc : Acc c) (hp : RhoPacing c.metrics.pacing ρ)
    (hA : Aw + A' = c.metrics.allocated) (hH : H + A' = c.metrics.totalGcs + c.metrics.freed)
    (hwoke : 0 < (Aw : Rat) - c.metrics.wakeup + c.metrics.artificial)
    (hr : c.doCollection root .payDebt .finishCycle fault = (c', .returned))
    (hns : c'.phase ≠ .sleep) (hne : c'.metrics.totalGcs ≠ 0) :
    (A' : Rat) * (1 - ρ) < ρ * (H : Rat) := by
  have hreach := doCollection_reaches_eq hinv hr
  have hinv' := hreach.inv hinv
  have hacc' := hreach.acc hinv hacc
  obtain ⟨fr, hnd⟩ := doCollection_cycle_frame hinv hr hns
  have hnd' := hnd rfl rfl
  have hp' : RhoPacing c'.metrics.pacing ρ := by rw [fr.mf.pacing]; exact hp
  have hcred := credits_le hp' hacc' hinv'
  have hdeb : c'.metrics.cycleDebits = (A' : Rat) + ((Aw : Rat) - c.metrics.wakeup + c.metrics.artificial) := by
    rw [fr.mf.debits]
    unfold Metrics.cycleDebits
    have : (c.metrics.allocated : Rat) = (Aw : Rat) + (A' : Rat) := by exact_mod_cast hA.symm
    rw [this]; grind
  have hA0 : (0 : Rat) ≤ (A' : Rat) := Rat.natCast_nonneg
  have hle := not_hasDebt_le hnd' hne (by rw [hdeb]; grind)
  have hsum : (c'.metrics.totalGcs : Rat) + (c'.metrics.freed : Rat) = (H : Rat) + (A' : Rat) := by
    have := fr.sum
    exact_mod_cast this.trans hH.symm
  rw [hsum] at hcred
  rw [hdeb] at hle
  grind

/-- The same bound in quotient form, for `ρ < 1`. -/
theorem rho_bound_ctx_div {c c' : Ctx} {root : List Slot} {fault : TraceFault} {ρ : Rat} {Aw H A' : Nat}
    (hinv : CInv c root []) (hacc : Acc c) (hp : RhoPacing c.metrics.pacing ρ) (hρ : ρ < 1)
    (hA : Aw + A' = c.metrics.allocated) (hH : H + A' = c.metrics.totalGcs + c.metrics.freed)
    (hwoke : 0 < (Aw : Rat) - c.metrics.wakeup + c.metrics.artificial)
    (hr : c.doCollection root .payDebt .finishCycle fault = (c', .returned))
    (hns : c'.phase ≠ .sleep) (hne : c'.metrics.totalGcs ≠ 0) :
    (A' : Rat) < ρ * (H : Rat) / (1 - ρ) := by
  rw [Rat.lt_div_iff (by grind)]
  exact rho_bound_ctx hinv hacc hp hA hH hwoke hr hns hne

structure ZeroWork (p : Pacing) : Prop where
  mf : p.markFactor = 0
  tf : p.traceFactor = 0
  kf : p.keepFactor = 0
  df : p.dropFactor = 0
  ff : p.freeFactor = 0

theorem ZeroWork.credits {m : Metrics} (z : ZeroWork m.pacing) : m.cycleCredits = 0 := by
  unfold Metrics.cycleCredits
  rw [z.mf, z.tf, z.kf, z.df, z.ff]
  simp [Rat.mul_zero, Rat.add_zero]

theorem hasDebt_debits {m : Metrics} (h : m.hasDebt = true) : 0 < m.cycleDebits :=
  (hasDebt_iff.mp h).2.1

theorem hasDebt_total {m : Metrics} (h : m.hasDebt = true) : m.totalGcs ≠ 0 := (hasDebt_iff.mp h).1

theorem ZeroWork.empty_of_not_hasDebt {m : Metrics} (z : ZeroWork m.pacing) (hd : 0 < m.cycleDebits)
    (h : m.hasDebt = false) : m.totalGcs = 0 := by
  apply Classical.byContradiction
  intro hne
  have := not_hasDebt_le h hne hd
  rw [z.credits] at this
  grind

/-- What the stop-the-world argument carries from iteration to iteration: all work factors zero
    (so there are no credits), positive debits, and an arena that is empty only while sweeping. -/
structure Stw (c : Ctx) : Prop where
  zero : ZeroWork c.metrics.pacing
  debits : 0 < c.metrics.cycleDebits
  nonempty : c.phase ≠ .sweep → c.metrics.totalGcs ≠ 0

theorem Stw.frame {c c1 : Ctx} (s : Stw c) (f : MFrame c.metrics c1.metrics)
    (hne : c1.phase ≠ .sweep → c1.metrics.totalGcs ≠ 0) : Stw c1 :=
  ⟨by rw [f.pacing]; exact s.zero, by rw [f.debits]; exact s.debits, hne⟩

/-- The debt test cannot let such a state go: no debt with zero credits means an empty arena, which
    is only possible while Sweeping with nothing left — where the loop does not stop. -/
theorem Stw.no_break {c : Ctx} {root} (s : Stw c) (h : CInv c root []) : c.debtBreak .payDebt = false := by
  apply Bool.eq_false_iff.mpr
  intro hb
  have h0 := s.zero.empty_of_not_hasDebt s.debits (debtBreak_iff.mp hb).2.1
  have hsw : c.phase = .sweep := Classical.byContradiction (fun hn => s.nonempty hn h0)
  have hlen := h.count
  rw [h0] at hlen
  have hnil : c.pre ++ c.rest = [] := List.eq_nil_of_length_eq_zero hlen.symm
  exact debtBreak_not_parked hb ⟨hsw, (List.append_eq_nil_iff.mp hnil).2⟩

/-- Every iteration of a debt-driven loop keeps `Stw`, except the one that runs `finish_cycle` and
    leaves the loop there, asleep. -/
theorem Arm.stw {root stop fault c hs k c1 hs1 k1 e} (a : Arm root .payDebt stop fault c hs k c1 hs1 k1 e)
    (h : CInv c root []) (s : Stw c) : (c1.phase = .sleep ∧ e ≠ none) ∨ Stw c1 := by
  cases a with
  | wake hp => exact .inr (s.frame (MFrame.refl _) fun _ => s.nonempty (by rw [hp]; simp))
  | mark hp | unwind hp =>
    have p := markOne_markPrim h (faultAt fault k) (root := root)
    exact .inr (s.frame p.mf fun _ => by rw [p.total]; exact s.nonempty (by rw [hp]; simp))
  | marked hp => exact .inr (s.frame (MFrame.refl _) s.nonempty)
  | toSweep => exact .inr (s.frame (MFrame.refl _) fun hn => absurd rfl hn)
  | atSweep => exact .inr s
  | sweep hp => exact .inr (s.frame (sweepOne_mframe c) fun hn => absurd (sweepOne_spec h hp).2 hn)
  | toSleep hp hst hr =>
    by_cases he : (if stop = .finishCycle ∨ hs = true then some Exit.returned
        else ((c.step 'e').enterSleep hs).debtExit .payDebt) = none
    · -- the loop goes on from Sleep: the debt test found debt
      right
      rw [if_neg (fun hc => by rw [if_pos hc] at he; cases he)] at he
      have hdb : ((c.step 'e').enterSleep hs).metrics.hasDebt = true :=
        not_debtBreak_payDebt (by rw [debtExit_eq_none.mp he]; simp) (by show Phase.sleep ≠ _; simp)
      exact ⟨s.zero, hasDebt_debits hdb, fun _ => hasDebt_total hdb⟩
    · exact .inl ⟨rfl, he⟩
  | drop hp => exact absurd hp h.notDrop

/-- With all work factors zero, a debt-driven loop that runs whole cycles (`Stop::FinishCycle` or
    `Stop::Full`), entered with positive debits and a non-empty arena, returns only Sleeping. -/
theorem collectLoop_stw {root fault stop fuel} {c c' : Ctx} {hs k} (hst : ¬ stop ≤ Stop.atSweep)
    (hinv : CInv c root []) (s : Stw c)
    (h : Ctx.collectLoop root .payDebt stop fault fuel c hs k = (c', .returned)) : c'.phase = .sleep := by
  have hinv' := collectLoop_inv hinv h
  have hend : c'.phase = .sleep ∨ Stw c' :=
    collectLoop_induct' (I := fun c1 _ _ => CInv c1 root [] ∧ Stw c1)
      (Q := fun c' _ => c'.phase = .sleep ∨ Stw c') (fun _ _ _ hi => .inr hi.2)
      (fun _ _ _ _ _ _ _ hi a => (a.stw hi.1 hi.2).imp And.left id)
      (fun _ _ _ _ _ _ hi a => ⟨a.inv hi.1, (a.stw hi.1 hi.2).elim (fun hsl => absurd rfl hsl.2) id⟩)
      ⟨hinv, s⟩ h
  rcases hend with hsl | s'
  · exact hsl
  · rcases collectLoop_exit h with hb | ⟨h1, _⟩ | ⟨h1, _⟩ | ⟨c1, b, rfl, _⟩ | ⟨hd, _⟩
    · rw [s'.no_break hinv'] at hb; cases hb
    · exact absurd (by cases stop <;> first | decide | exact absurd h1 (by decide)) hst
    · exact absurd h1 hst
    · rfl
    · exact absurd hd hinv'.notDrop

/-- **Stop-the-world pacing** (C09): with all five work factors zero, `collect_debt`
    (`Stop::Full`) or `cycle_debt` (`Stop::FinishCycle`) called with positive debt does not return
    until the collector is Sleeping again. -/
theorem doCollection_stw {c c' : Ctx} {root : List Slot} {fault : TraceFault} {stop : Stop}
    (hst : ¬ stop ≤ Stop.atSweep) (hinv : CInv c root []) (hz : ZeroWork c.metrics.pacing)
    (hd : 0 < c.metrics.allocationDebt)
    (hr : c.doCollection root .payDebt stop fault = (c', .returned)) : c'.phase = .sleep := by
  have hhd := hasDebt_of_pos hd
  rcases doCollection_cases c root .payDebt stop fault with ⟨_, hnd, _⟩ | ⟨_, he⟩
  · rw [hhd] at hnd; cases hnd
  · exact collectLoop_stw hst hinv ⟨hz, hasDebt_debits hhd, fun _ => hasDebt_total hhd⟩ (he ▸ hr)

/-- What `finish_cycle` schedules: the next cycle wakes after
    `max(sleep_factor × remembered, min_sleep)` allocations, counted from zero; no artificial debt
    is carried over when the cycle was atomic (`reset_debt`) or ended without debt. -/
theorem finishCycle_schedule (m : Metrics) (reset : Bool) :
    (m.finishCycle reset).wakeup = max ((m.remembered : Rat) * m.pacing.sleepFactor) (m.pacing.minSleep : Rat) ∧
    (m.finishCycle reset).allocated = 0 ∧ (m.finishCycle reset).pacing = m.pacing ∧
    (m.finishCycle reset).totalGcs = m.totalGcs ∧
    (reset = true ∨ m.allocationDebt = 0 → (m.finishCycle reset).artificial = 0) := by
  refine ⟨rfl, rfl, rfl, rfl, ?_⟩
  intro h
  show (if reset = true then 0 else m.allocationDebt) = 0
  rcases h with h | h
  · rw [if_pos h]
  · split <;> first | rfl | exact h

theorem enterSleep_schedule (c : Ctx) (hasSlept : Bool) :
    (c.enterSleep hasSlept).phase = .sleep ∧
    (c.enterSleep hasSlept).metrics = c.metrics.finishCycle hasSlept := ⟨rfl, rfl⟩

/-- **Sleep is honoured** (C09).  Asleep with no artificial debt: as long as the allocations made
    since the cycle ended do not exceed the wake-up amount, every debt-driven call returns at once
    with the state unchanged and the reported debt is zero; once they exceed it (and the arena
    holds something) the reported debt is positive — exactly the excess. -/
theorem sleep_honoured {c : Ctx} (root : List Slot) (stop : Stop) (fault : TraceFault)
    (hs : c.phase = .sleep) (hacc : Acc c) (hart : c.metrics.artificial = 0) :
    ((c.metrics.allocated : Rat) ≤ c.metrics.wakeup →
      c.doCollection root .payDebt stop fault = (c, .returned) ∧ c.metrics.allocationDebt = 0) ∧
    (c.metrics.wakeup < (c.metrics.allocated : Rat) → c.metrics.totalGcs ≠ 0 →
      0 < c.metrics.allocationDebt ∧
      c.metrics.allocationDebt = (c.metrics.allocated : Rat) - c.metrics.wakeup) := by
  obtain ⟨e1, e2, e3, e4, e5⟩ := hacc.1 hs
  have hcred : c.metrics.cycleCredits = 0 := by
    unfold Metrics.cycleCredits
    rw [e1, e2, e3, e4, e5]
    simp [Rat.zero_mul, Rat.add_zero]
  have hdeb : c.metrics.cycleDebits = (c.metrics.allocated : Rat) - c.metrics.wakeup := by
    unfold Metrics.cycleDebits; rw [hart]; grind
  constructor
  · intro hle
    have hnd : c.metrics.hasDebt = false :=
      Bool.eq_false_iff.mpr (fun h => by have := hasDebt_debits h; rw [hdeb] at this; grind)
    exact ⟨by simp [Ctx.doCollection, hnd], debt_zero_of_not_hasDebt _ hnd⟩
  · intro hlt hne
    have hpos : 0 < c.metrics.allocationDebt :=
      debt_pos_iff.mpr ⟨hne, by rw [hdeb]; grind, by rw [hcred, hdeb]; grind⟩
    exact ⟨hpos, by rw [debt_eq_of_pos hpos, hcred, hdeb]; grind⟩

end GcArena
