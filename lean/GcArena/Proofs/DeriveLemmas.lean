import GcArena.Model.Derive
/-!
# Lemmas for C15 (`derive(Collect)`)

`Good s`: the meaning `s` of a type is *exact* — whenever the type is `Collect`, `Trace::trace`
of any of its values reports exactly the pointers the value holds (as lists, in storage order —
stronger than the permutation the property asks for).  `Ty.sem_good`: every type of the universe
is exact under an exact instantiation of the type parameters, by mutual structural induction over
`Ty` / `Decl` / `Variant` / `Field`.

The rejection lemmas rest on one case analysis each of `parseOpt` and `macroCheck`
(`parseOpt_spec`, `macroCheck_spec`) and on `deriveCheckR_ok`, read backwards.
-/
namespace GcArena.Derive

/-- Exactness of a type's `Collect` impl (through `Trace::trace`, i.e. with the `NEEDS_TRACE`
short-circuit). -/
def Good (s : Sem) : Prop :=
  s.collect = true → ∀ v, s.check v = true → s.visit v = ptrsOf v

def EnvGood (ρ : List Sem) : Prop := ∀ s ∈ ρ, Good s

theorem envGood_nil : EnvGood [] := by intro s h; cases h

/-! Each base type accepts one shape of value (the others are `nomatch`), on which `visit` and
`ptrsOf` compute the same list. -/

theorem good_leaf : Good Sem.leaf := fun _ v hv => by
  cases v <;> first | rfl | cases hv

theorem good_gc : Good Sem.gc := fun _ v hv => by
  cases v <;> first | rfl | cases hv

theorem good_weak : Good Sem.weak := fun _ v hv => by
  cases v <;> first | rfl | cases hv

theorem good_opaque (b : Bool) : Good (Sem.opaque b) := fun h => nomatch h

theorem good_ref (st : Bool) (t : Sem) : Good (Sem.ref st t) := by
  intro hcol v hv
  cases v with
  | «opaque» held =>
    -- a `Collect` reference is `'static`, so it hides nothing
    have hc : (st && t.static) = true := hcol
    have he : (!(st && t.static) || held.isEmpty) = true := hv
    rw [hc] at he
    exact (List.isEmpty_iff.1 he).symm
  | _ => cases hv

theorem forall_getD {P : Sem → Prop} {ρ : List Sem} (hd : P default) (h : ∀ s ∈ ρ, P s) (i : Nat) :
    P (ρ.getD i default) := by
  rw [List.getD_eq_getElem?_getD]
  cases hi : ρ[i]? with
  | none => exact hd
  | some s => exact h s (List.mem_of_getElem? hi)

theorem getD_mem {ρ : List Sem} {i : Nat} (hi : i < ρ.length) : ρ.getD i default ∈ ρ := by
  rw [List.getD_eq_getElem?_getD, List.getElem?_eq_getElem hi]
  exact List.getElem_mem hi

theorem Sem.visit_eq_trace {s : Sem} {v : Val} (h : s.needsTrace = false → s.trace v = []) :
    s.visit v = s.trace v := by
  unfold Sem.visit
  cases hn : s.needsTrace with
  | true => rfl
  | false => exact (h hn).symm

theorem visit_nil_of_not_needs (s : Sem) (h : s.needsTrace = false) (v : Val) : s.visit v = [] := by
  simp [Sem.visit, h]

theorem traceElems_eq (args : List Sem) (hg : EnvGood args) (hc : ∀ s ∈ args, s.collect = true)
    (es : List (Nat × Val)) (h : checkElems args es = true) : traceElems args es = ptrsOfElems es := by
  induction es with
  | nil => rfl
  | cons e es ih =>
    simp only [checkElems, Bool.and_eq_true, decide_eq_true_eq] at h
    obtain ⟨⟨hlt, hck⟩, hrest⟩ := h
    have hmem := getD_mem hlt
    simp only [traceElems, ptrsOfElems, hg _ hmem (hc _ hmem) e.2 hck, ih hrest]
    cases e; rfl

theorem traceElems_nil (args : List Sem) (hn : ∀ s ∈ args, s.needsTrace = false)
    (es : List (Nat × Val)) : traceElems args es = [] := by
  induction es with
  | nil => rfl
  | cons e es ih =>
    have hv := visit_nil_of_not_needs _ (forall_getD (P := (·.needsTrace = false)) rfl hn e.1) e.2
    simp only [traceElems, hv, ih, List.append_nil]

theorem good_con (c : Con) (args : List Sem) (hg : EnvGood args) : Good (Sem.con c args) := by
  intro hcol v hv
  cases v with
  | con es =>
    have hc : ∀ s ∈ args, s.collect = true := List.all_eq_true.1 (Bool.and_eq_true_iff.1 hcol).2
    have hck : checkElems args es = true := (Bool.and_eq_true_iff.1 hv).2
    have hnil (hn : args.any (·.needsTrace) = false) : traceElems args es = [] :=
      traceElems_nil args (fun s hs => Bool.eq_false_iff.2 (List.any_eq_false.1 hn s hs)) es
    rw [Sem.visit_eq_trace hnil]
    exact traceElems_eq args hg hc es hck
  | _ => cases hv

def Opt.isMode : Opt → Bool | .mode _ => true | _ => false
def Opt.isBound : Opt → Bool | .bound _ => true | _ => false
def Opt.isGcLifetime : Opt → Bool | .gcLifetime _ => true | _ => false

/-- A step of the option parser either fails with a `compile_error!` or meets a known option whose
slot is empty and fills that slot: in each of the three counts the option moves from the input
to `o`. -/
theorem parseOpt_spec (o : Opts) (x : Opt) :
    (∃ e, parseOpt o x = .error e ∧ e.stage = .compileError) ∨
    ∃ o', parseOpt o x = .ok o' ∧ x ≠ .unknown ∧
      o.mode.toList.length + (if x.isMode then 1 else 0) = o'.mode.toList.length ∧
      o.bound.toList.length + (if x.isBound then 1 else 0) = o'.bound.toList.length ∧
      o.gcLifetime.toList.length + (if x.isGcLifetime then 1 else 0) = o'.gcLifetime.toList.length := by
  -- with the slots of `o` and the option in hand, both sides compute
  obtain ⟨mo, bo, go⟩ := o
  cases x with
  | mode m =>
    cases mo with
    | none => exact .inr ⟨_, rfl, nofun, rfl, rfl, rfl⟩
    | some _ => exact .inl ⟨_, rfl, rfl⟩
  | bound ps =>
    cases bo with
    | none => exact .inr ⟨_, rfl, nofun, rfl, rfl, rfl⟩
    | some _ => exact .inl ⟨_, rfl, rfl⟩
  | gcLifetime i =>
    cases go with
    | none => exact .inr ⟨_, rfl, nofun, rfl, rfl, rfl⟩
    | some _ => exact .inl ⟨_, rfl, rfl⟩
  | unknown => cases mo <;> exact .inl ⟨_, rfl, rfl⟩

theorem count_cons_le {p : Opt → Bool} {x : Opt} {xs : List Opt} {n n' : Nat}
    (hx : n + (if p x then 1 else 0) = n') (hxs : n' + (xs.filter p).length ≤ 1) :
    n + ((x :: xs).filter p).length ≤ 1 := by
  rw [← List.countP_eq_length_filter, List.countP_cons] at *
  omega

theorem parseOpts_counts (a : List Opt) : ∀ (o o' : Opts), parseOpts o a = .ok o' →
    Opt.unknown ∉ a ∧
    o.mode.toList.length + (a.filter Opt.isMode).length ≤ 1 ∧
    o.bound.toList.length + (a.filter Opt.isBound).length ≤ 1 ∧
    o.gcLifetime.toList.length + (a.filter Opt.isGcLifetime).length ≤ 1 := by
  induction a with
  | nil => intro o _ _; simp
  | cons x xs ih =>
    intro o o' h
    simp only [parseOpts] at h
    rcases parseOpt_spec o x with ⟨e, hx, _⟩ | ⟨o1, hx, su, sm, sb, sg⟩ <;> rw [hx] at h
    · cases h
    · obtain ⟨iu, im, ib, ig⟩ := ih o1 o' h
      exact ⟨fun hm => (List.mem_cons.1 hm).elim (su ·.symm) iu,
        count_cons_le sm im, count_cons_le sb ib, count_cons_le sg ig⟩

theorem parseTypeAttrs_counts {a : Attr} {o : Opts} (h : parseTypeAttrs [a] = .ok o) :
    Opt.unknown ∉ a ∧ (a.filter Opt.isMode).length ≤ 1 ∧ (a.filter Opt.isBound).length ≤ 1 ∧
      (a.filter Opt.isGcLifetime).length ≤ 1 := by
  simpa using parseOpts_counts a {} o h

theorem parseOpts_error_stage (a : List Opt) : ∀ (o : Opts) (e : Reject), parseOpts o a = .error e →
    e.stage = .compileError := by
  induction a with
  | nil => intro _ _ h; cases h
  | cons x xs ih =>
    intro o e h
    simp only [parseOpts] at h
    rcases parseOpt_spec o x with ⟨e', hx, hs⟩ | ⟨o1, hx, _⟩ <;> rw [hx] at h
    · cases h; exact hs
    · exact ih o1 e h

theorem parseTypeAttrs_error_stage (attrs : List Attr) (e : Reject)
    (h : parseTypeAttrs attrs = .error e) : e.stage = .compileError :=
  match attrs, h with
  | [], h => nomatch h
  | [a], h => parseOpts_error_stage a {} e h
  | _ :: _ :: _, h => by cases h; rfl

theorem firstSome_eq_none_iff (l : List (Option Reject)) : firstSome l = none ↔ ∀ x ∈ l, x = none := by
  induction l with
  | nil => exact ⟨fun _ _ h => (nomatch h), fun _ => rfl⟩
  | cons x rest ih =>
    cases x with
    | none =>
      exact ih.trans ⟨fun h => List.forall_mem_cons.2 ⟨rfl, h⟩, fun h => (List.forall_mem_cons.1 h).2⟩
    | some _ => exact ⟨nofun, fun h => nomatch h _ List.mem_cons_self⟩

theorem fieldAttrError_stage (attrs : List Attr) (e : Reject) (h : fieldAttrError attrs = some e) :
    e.stage = .compileError :=
  match attrs, h with
  | [], h => nomatch h
  | [a], h => by
    simp only [fieldAttrError] at h
    split at h <;> cases h
    rfl
  | _ :: _ :: _, h => by cases h; rfl

theorem firstSome_mem {l : List (Option Reject)} {e : Reject} (h : firstSome l = some e) : some e ∈ l := by
  induction l with
  | nil => cases h
  | cons x rest ih =>
    cases x with
    | none => exact List.mem_cons_of_mem _ (ih h)
    | some _ => exact h ▸ List.mem_cons_self

theorem fieldErrors_stage {r : RDecl} {e : Reject} (h : fieldErrors r = some e) :
    e.stage = .compileError := by
  unfold fieldErrors at h
  obtain ⟨f, _, hf⟩ := List.mem_map.1 (firstSome_mem h)
  exact fieldAttrError_stage f.attrs e hf

theorem variantErrors_stage {r : RDecl} {e : Reject} (h : variantErrors r = some e) :
    e.stage = .compileError := by
  unfold variantErrors at h
  split at h <;> cases h
  rfl

/-- The macro either fails by itself (`compile_error!` or `panic!`) or returns the parsed options
and the mode they name, having found nothing to object to in a tracing mode. -/
theorem macroCheck_spec {r : RDecl} {x : Except Reject (Opts × Mode)} (hx : macroCheck r = x) :
    match x with
    | .error e => e.stage ≠ .rustc
    | .ok (o, m) => parseTypeAttrs r.attrs = .ok o ∧ o.mode = some m ∧
      (m ≠ .requireStatic → ¬ (o.gcLifetime.isNone && decide (2 ≤ r.lifetimes)) = true ∧
        fieldErrors r = none ∧ variantErrors r = none) := by
  unfold macroCheck at hx
  repeat' split at hx
  all_goals subst hx; dsimp only
  -- the outcomes in the order of `macroCheck`: parse error, no mode, accepted in `require_static`
  -- mode, lifetimes, field attribute, variant attribute, accepted in a tracing mode
  · rw [parseTypeAttrs_error_stage _ _ ‹_›]; decide
  · decide
  · exact ⟨‹_›, ‹_›, fun hne => absurd ‹_› hne⟩
  · decide
  · rw [fieldErrors_stage ‹_›]; decide
  · rw [variantErrors_stage ‹_›]; decide
  · exact ⟨‹_›, ‹_›, fun _ => ⟨‹_›, ‹_›, ‹_›⟩⟩

theorem foldl_or_false (l : List RField) :
    ∀ acc, l.foldl (fun acc f => acc || f.sem.needsTrace) acc = (acc || l.any (·.sem.needsTrace)) := by
  induction l with
  | nil => intro acc; simp
  | cons f fs ih => intro acc; simp [List.foldl, ih, Bool.or_assoc]

theorem needsTraceR_eq_any (r : RDecl) (m : Mode) (hm : modeOf r = some m) (hne : m ≠ .requireStatic) :
    needsTraceR r = (r.fields.filter (·.kept)).any (·.sem.needsTrace) := by
  unfold needsTraceR
  rw [hm]
  simp [hne, foldl_or_false]

theorem needsTraceR_requireStatic (r : RDecl) (hm : modeOf r = some .requireStatic) :
    needsTraceR r = false := by
  unfold needsTraceR; rw [hm]; simp

theorem mem_fields_of_variant (r : RDecl) (k : Nat) (vr : RVariant) (h : r.variants[k]? = some vr)
    (f : RField) (hf : f ∈ vr.fields) : f ∈ r.fields := by
  unfold RDecl.fields
  rw [List.mem_flatMap]
  exact ⟨vr, List.mem_of_getElem? h, hf⟩

theorem traceFields_eq (fs : List RField) : ∀ (xs : List Val),
    (∀ f ∈ fs, Good f.sem) → (∀ f ∈ fs, f.kept = true → f.sem.collect = true) →
    checkFields fs xs = true → traceFields fs xs = ptrsOfList xs := by
  induction fs with
  | nil =>
    intro xs _ _ h
    cases xs with
    | nil => rfl
    | cons => cases h
  | cons f fs ih =>
    intro xs hg hc h
    cases xs with
    | nil => cases h
    | cons x xs =>
      have ⟨hgf, hgs⟩ := List.forall_mem_cons.1 hg
      have ⟨hcf, hcs⟩ := List.forall_mem_cons.1 hc
      simp only [checkFields, Bool.and_eq_true, Bool.or_eq_true, Bool.not_eq_true',
        List.isEmpty_iff] at h
      obtain ⟨⟨hck, hst⟩, hrest⟩ := h
      show (if f.kept then f.sem.visit x else []) ++ traceFields fs xs = ptrsOf x ++ ptrsOfList xs
      rw [ih xs hgs hcs hrest]
      congr 1
      cases hk : f.kept with
      | true => exact hgf (hcf hk) x hck
      | false =>
        -- a filtered field is `require_static`, so its value holds no pointer
        have hs : f.isStatic = true := (Bool.not_eq_false' _).mp hk
        exact (hst.resolve_left (by simp [hs])).symm

theorem traceFields_nil (fs : List RField) : ∀ (xs : List Val),
    (∀ f ∈ fs, f.kept = true → f.sem.needsTrace = false) → traceFields fs xs = [] := by
  induction fs with
  | nil => intro _ _; rfl
  | cons f fs ih =>
    intro xs h
    cases xs with
    | nil => rfl
    | cons x xs =>
      have ⟨hf, hfs⟩ := List.forall_mem_cons.1 h
      show (if f.kept then f.sem.visit x else []) ++ traceFields fs xs = []
      rw [ih xs hfs, List.append_nil]
      cases hk : f.kept with
      | true => exact visit_nil_of_not_needs _ (hf hk) x
      | false => rfl

theorem firstErr_eq_ok_iff (l : List (Bool × Reject)) : firstErr l = .ok () ↔ ∀ p ∈ l, p.1 = true := by
  induction l with
  | nil => exact ⟨fun _ _ h => (nomatch h), fun _ => rfl⟩
  | cons p rest ih =>
    obtain ⟨b, e⟩ := p
    cases b with
    | true =>
      exact ih.trans ⟨fun h => List.forall_mem_cons.2 ⟨rfl, h⟩, fun h => (List.forall_mem_cons.1 h).2⟩
    | false => exact ⟨nofun, fun h => nomatch h _ List.mem_cons_self⟩

theorem rustcUse_ok_fields {ρ : List Sem} {r : RDecl} {o : Opts} {m : Mode}
    (hne : m ≠ .requireStatic) (h : rustcUse ρ o m r = .ok ()) (f : RField) (hf : f ∈ r.fields) :
    (f.isStatic = true → f.sem.static = true) ∧ (f.kept = true → f.sem.collect = true) := by
  unfold rustcUse at h
  rw [if_neg (by simpa using hne)] at h
  have hall := (firstErr_eq_ok_iff _).1 h
  exact ⟨fun hs => hall (f.sem.static, .notStatic) (List.mem_append_right _ (List.mem_append_left _
      (List.mem_append_right _ (List.mem_map.2 ⟨f, List.mem_filter.2 ⟨hf, hs⟩, rfl⟩)))),
    fun hk => hall (f.sem.collect, .notCollect) (List.mem_append_right _ (List.mem_append_right _
      (List.mem_map.2 ⟨f, List.mem_filter.2 ⟨hf, hk⟩, rfl⟩)))⟩

theorem deriveCheckR_ok (ρ : List Sem) (rDef r : RDecl) (h : deriveCheckR ρ rDef r = .ok ()) :
    ∃ o m, macroCheck r = .ok (o, m) ∧ rustcDef o m rDef = .ok () ∧ rustcUse ρ o m r = .ok () := by
  unfold deriveCheckR at h
  split at h
  · cases h
  · split at h
    · cases h
    · exact ⟨_, _, ‹_›, ‹_›, h⟩

/-- Core of C15 on a resolved declaration: in any accepted derive whose field types are exact,
`Collect::trace` of a well-typed value equals the ground truth. -/
theorem traceR_eq (ρ : List Sem) (rDef r : RDecl) (hg : ∀ f ∈ r.fields, Good f.sem)
    (hok : deriveCheckR ρ rDef r = .ok ()) (v : Val) (hv : checkR r v = true) :
    traceR r v = ptrsOf v := by
  obtain ⟨o, m, hmc, _, huse⟩ := deriveCheckR_ok ρ rDef r hok
  obtain ⟨hp, hm, _⟩ := macroCheck_spec hmc
  have hmode : modeOf r = some m := by simp [modeOf, hp, hm]
  cases v with
  | adt k fs =>
    unfold checkR at hv
    unfold traceR
    rw [hmode]
    cases hvr : r.variants[k]? with
    | none => simp only [hvr] at hv; cases hv
    | some vr =>
      simp only [hvr, Bool.and_eq_true, Bool.or_eq_true, Bool.not_eq_true', List.isEmpty_iff] at hv
      obtain ⟨hcf, hst⟩ := hv
      by_cases hrs : m = .requireStatic
      · -- `Self: 'static`: the default `trace` reports nothing and the value holds nothing
        subst hrs
        cases hst with
        | inl h0 => simp [hmode] at h0
        | inr h0 => exact h0.symm
      · have hmem := mem_fields_of_variant r k vr hvr
        simp only [hrs, if_false, hvr]
        exact traceFields_eq vr.fields fs (fun f hf => hg f (hmem f hf))
          (fun f hf => (rustcUse_ok_fields hrs huse f (hmem f hf)).2) hcf
  | _ => cases hv

theorem traceR_nil_of_not_needs (r : RDecl) (h : needsTraceR r = false) (v : Val) : traceR r v = [] := by
  unfold traceR
  cases hm : modeOf r with
  | none => rfl
  | some m =>
    by_cases hrs : m = .requireStatic
    · simp [hrs]
    · have hany := needsTraceR_eq_any r m hm hrs
      rw [h] at hany
      have hall := List.any_eq_false.mp hany.symm
      cases v with
      | adt k fs =>
        simp only [hrs, if_false]
        cases hvr : r.variants[k]? with
        | none => rfl
        | some vr =>
          refine traceFields_nil _ _ fun f hf hk => ?_
          simpa using hall f (List.mem_filter.mpr ⟨mem_fields_of_variant r k vr hvr f hf, hk⟩)
      | _ => simp [hrs]

theorem good_derived (ρ : List Sem) (rDef r : RDecl) (hg : ∀ f ∈ r.fields, Good f.sem) :
    Good (derivedSem ρ rDef r) := by
  intro hcol v hv
  have hok : deriveCheckR ρ rDef r = .ok () := by
    cases h : deriveCheckR ρ rDef r with
    | ok u => rfl
    | error e => rw [show (derivedSem ρ rDef r).collect = isOk _ from rfl, h] at hcol; cases hcol
  rw [Sem.visit_eq_trace fun hn => traceR_nil_of_not_needs r hn v]
  exact traceR_eq ρ rDef r hg hok v hv

theorem Field.resolves_eq (ρ : List Sem) : ∀ fs : List Field, Field.resolves ρ fs = fs.map (Field.resolve ρ)
  | [] => rfl
  | f :: fs => congrArg (f.resolve ρ :: ·) (Field.resolves_eq ρ fs)

theorem Variant.resolves_eq (ρ : List Sem) :
    ∀ vs : List Variant, Variant.resolves ρ vs = vs.map (Variant.resolve ρ)
  | [] => rfl
  | v :: vs => congrArg (v.resolve ρ :: ·) (Variant.resolves_eq ρ vs)

theorem Ty.sems_eq (ρ : List Sem) : ∀ ts : List Ty, Ty.sems ρ ts = ts.map (Ty.sem ρ)
  | [] => rfl
  | t :: ts => congrArg (t.sem ρ :: ·) (Ty.sems_eq ρ ts)

@[simp] theorem Field.resolve_attrs (ρ : List Sem) (f : Field) : (f.resolve ρ).attrs = f.attrs := by
  cases f; rfl
@[simp] theorem Field.resolve_sem (ρ : List Sem) (f : Field) : (f.resolve ρ).sem = f.ty.sem ρ := by
  cases f; rfl
@[simp] theorem Field.resolve_kept (ρ : List Sem) (f : Field) : (f.resolve ρ).kept = f.traced := by
  cases f; rfl
@[simp] theorem Variant.resolve_attrs (ρ : List Sem) (v : Variant) : (v.resolve ρ).attrs = v.attrs := by
  cases v; rfl
@[simp] theorem Variant.resolve_fields (ρ : List Sem) (v : Variant) :
    (v.resolve ρ).fields = v.fields.map (Field.resolve ρ) := by
  cases v; simp [Variant.resolve, Variant.fields, Field.resolves_eq]
@[simp] theorem Decl.resolve_attrs (ρ : List Sem) (d : Decl) : (d.resolve ρ).attrs = d.attrs := by
  cases d; rfl
@[simp] theorem Decl.resolve_isEnum (ρ : List Sem) (d : Decl) : (d.resolve ρ).isEnum = d.isEnum := by
  cases d; rfl
@[simp] theorem Decl.resolve_lifetimes (ρ : List Sem) (d : Decl) :
    (d.resolve ρ).lifetimes = d.lifetimes := by
  cases d; rfl
@[simp] theorem Decl.resolve_tparams (ρ : List Sem) (d : Decl) : (d.resolve ρ).tparams = d.tparams := by
  cases d; rfl
@[simp] theorem Decl.resolve_hasDrop (ρ : List Sem) (d : Decl) : (d.resolve ρ).hasDrop = d.hasDrop := by
  cases d; rfl
@[simp] theorem Decl.resolve_variants (ρ : List Sem) (d : Decl) :
    (d.resolve ρ).variants = d.variants.map (Variant.resolve ρ) := by
  cases d; simp [Decl.resolve, Decl.variants, Variant.resolves_eq]

/-- All fields of a declaration, all variants, in order. -/
def Decl.fields (d : Decl) : List Field := d.variants.flatMap (·.fields)

theorem Decl.resolve_fields (ρ : List Sem) (d : Decl) :
    (d.resolve ρ).fields = d.fields.map (Field.resolve ρ) := by
  simp [RDecl.fields, Decl.fields, List.flatMap_map, List.map_flatMap]

mutual
theorem Ty.sem_good : ∀ (t : Ty) (ρ : List Sem), EnvGood ρ → Good (Ty.sem ρ t)
  | .leaf, _, _ => good_leaf
  | .gc, _, _ => good_gc
  | .weak, _, _ => good_weak
  | .opaque b, _, _ => good_opaque b
  | .param i, _, h => forall_getD (good_opaque false) h i
  | .ref st t, ρ, _ => good_ref st (Ty.sem ρ t)
  | .con c args, ρ, h => good_con c _ (Ty.sems_good args ρ h)
  | .adt d args, ρ, h => good_derived _ _ _ (Decl.resolve_good d _ (Ty.sems_good args ρ h))
theorem Ty.sems_good : ∀ (ts : List Ty) (ρ : List Sem), EnvGood ρ → EnvGood (Ty.sems ρ ts)
  | [], _, _ => envGood_nil
  | t :: ts, ρ, h => List.forall_mem_cons.2 ⟨Ty.sem_good t ρ h, Ty.sems_good ts ρ h⟩
theorem Decl.resolve_good : ∀ (d : Decl) (ρ : List Sem), EnvGood ρ →
    ∀ f ∈ (Decl.resolve ρ d).fields, Good f.sem
  | .mk _ _ _ _ _ vs, ρ, h => fun f hf =>
      have ⟨vr, hvr, hfv⟩ := List.mem_flatMap.1 hf
      Variant.resolves_good vs ρ h vr hvr f hfv
theorem Variant.resolves_good : ∀ (vs : List Variant) (ρ : List Sem), EnvGood ρ →
    ∀ v ∈ Variant.resolves ρ vs, ∀ f ∈ v.fields, Good f.sem
  | [], _, _ => List.forall_mem_nil _
  | v :: vs, ρ, h => List.forall_mem_cons.2 ⟨Variant.resolve_good v ρ h, Variant.resolves_good vs ρ h⟩
theorem Variant.resolve_good : ∀ (v : Variant) (ρ : List Sem), EnvGood ρ →
    ∀ f ∈ (Variant.resolve ρ v).fields, Good f.sem
  | .mk _ _ fs, ρ, h => Field.resolves_good fs ρ h
theorem Field.resolves_good : ∀ (fs : List Field) (ρ : List Sem), EnvGood ρ →
    ∀ f ∈ Field.resolves ρ fs, Good f.sem
  | [], _, _ => List.forall_mem_nil _
  | f :: fs, ρ, h => List.forall_mem_cons.2 ⟨Field.resolve_good f ρ h, Field.resolves_good fs ρ h⟩
theorem Field.resolve_good : ∀ (f : Field) (ρ : List Sem), EnvGood ρ → Good (Field.resolve ρ f).sem
  | .mk _ t, ρ, h => Ty.sem_good t ρ h
end

def Rejected (x : Except Reject Unit) : Prop := ∃ e, x = .error e

/-- The check fails before rustc sees the generated impl (macro `panic!` or `compile_error!`). -/
def RejectedByMacro (x : Except Reject Unit) : Prop := ∃ e, x = .error e ∧ e.stage ≠ .rustc

theorem RejectedByMacro.rejected {x : Except Reject Unit} (h : RejectedByMacro x) : Rejected x := by
  obtain ⟨e, he, _⟩ := h; exact ⟨e, he⟩

theorem rejected_not_ok {x : Except Reject Unit} (h : Rejected x) : x ≠ .ok () := by
  obtain ⟨e, he⟩ := h; rw [he]; intro h'; cases h'

theorem rejected_of_ne_ok : ∀ {x : Except Reject Unit}, x ≠ .ok () → Rejected x
  | .error e, _ => ⟨e, rfl⟩
  | .ok (), h => absurd rfl h

theorem firstErr_error (l : List (Bool × Reject)) (p : Bool × Reject) (hp : p ∈ l) (hf : p.1 = false) :
    Rejected (firstErr l) :=
  rejected_of_ne_ok fun h => by rw [(firstErr_eq_ok_iff l).1 h p hp] at hf; cases hf

theorem deriveCheckR_of_parse_error (ρ : List Sem) (rDef r : RDecl) (e : Reject)
    (h : parseTypeAttrs r.attrs = .error e) : deriveCheckR ρ rDef r = .error e := by
  simp [deriveCheckR, macroCheck, h]

theorem deriveCheckR_of_macro_error (ρ : List Sem) (rDef r : RDecl) (e : Reject)
    (h : macroCheck r = .error e) : deriveCheckR ρ rDef r = .error e := by
  simp [deriveCheckR, h]

theorem rejectedByMacro_of_macroCheck (ρ : List Sem) (rDef r : RDecl)
    (h : ∀ o m, macroCheck r ≠ .ok (o, m)) : RejectedByMacro (deriveCheckR ρ rDef r) := by
  cases hmc : macroCheck r with
  | ok om => exact absurd hmc (h om.1 om.2)
  | error e => exact ⟨e, deriveCheckR_of_macro_error ρ rDef r e hmc, macroCheck_spec hmc⟩

theorem rejected_of_use (ρ : List Sem) (rDef r : RDecl)
    (h : ∀ o m, macroCheck r = .ok (o, m) → Rejected (rustcUse ρ o m r)) :
    Rejected (deriveCheckR ρ rDef r) :=
  rejected_of_ne_ok fun hok =>
    have ⟨o, m, hmc, _, hu⟩ := deriveCheckR_ok ρ rDef r hok
    rejected_not_ok (h o m hmc) hu

theorem rejected_of_def (ρ : List Sem) (rDef r : RDecl)
    (h : ∀ o m, macroCheck r = .ok (o, m) → Rejected (rustcDef o m rDef)) :
    Rejected (deriveCheckR ρ rDef r) :=
  rejected_of_ne_ok fun hok =>
    have ⟨o, m, hmc, hd, _⟩ := deriveCheckR_ok ρ rDef r hok
    rejected_not_ok (h o m hmc) hd

/-- In a tracing mode rustc refuses the generated impl when the type of a `require_static` field
is not `'static` (the where-predicate `FieldTy: 'static`) or the type of a traced field is not
`Collect` (`FieldTy: Collect<'gc>`). -/
theorem rejected_of_field (ρ : List Sem) (d : Decl)
    (hmode : ∀ o, parseTypeAttrs d.attrs = .ok o → o.mode ≠ some .requireStatic)
    (f : Field) (hf : f ∈ d.fields)
    (h : attrsStatic f.attrs = true ∧ (f.ty.sem ρ).static = false ∨
      f.traced = true ∧ (f.ty.sem ρ).collect = false) : Rejected (deriveCheckIn ρ d) := by
  apply rejected_of_use
  intro o m hmc
  obtain ⟨hp, hm, _⟩ := macroCheck_spec hmc
  have hne : m ≠ .requireStatic := fun e => hmode o (by simpa using hp) (e ▸ hm)
  refine rejected_of_ne_ok fun hu => ?_
  obtain ⟨hst, hcl⟩ := rustcUse_ok_fields hne hu (f.resolve ρ)
    (by rw [Decl.resolve_fields]; exact List.mem_map_of_mem hf)
  rw [Field.resolve_sem] at hst hcl
  rcases h with ⟨hs, hn⟩ | ⟨hk, hn⟩
  · rw [hst (by simpa [RField.isStatic] using hs)] at hn; cases hn
  · rw [hcl (by simpa using hk)] at hn; cases hn

/-! ### Full-strength (literal) form of the exactness clause

What `GcArena.C15.exact_statement` is stated with (`Ty.ctor`: the coverage statement
`probe_corpus_covers_every_constructor`). -/

mutual
/-- The value with everything hidden inside opaque (`Collect`-less) parts forgotten. -/
def Val.scrub : Val → Val
  | .leaf => .leaf
  | .gc id => .gc id
  | .weak id => .weak id
  | .opaque _ => .opaque []
  | .con es => .con (scrubElems es)
  | .adt k fs => .adt k (scrubList fs)
def scrubElems : List (Nat × Val) → List (Nat × Val)
  | [] => []
  | e :: es => scrubElem e :: scrubElems es
def scrubElem : Nat × Val → Nat × Val
  | (i, v) => (i, v.scrub)
def scrubList : List Val → List Val
  | [] => []
  | v :: vs => v.scrub :: scrubList vs
end

/-- `v` has the SHAPE of a value of `d` (variant, arity, element positions, pointer kinds), with no
assumption about what its `'static` parts hide: `HasType` without the "`'static` hence
pointer-free" hypothesis. -/
def HasShape (v : Val) (d : Decl) : Prop := HasType v.scrub d

instance (v : Val) (d : Decl) : Decidable (HasShape v d) := by
  unfold HasShape; infer_instance

def tracedFieldPtrs : List Field → List Val → List Ptr
  | f :: fs, x :: xs => (if f.traced then ptrsOf x else []) ++ tracedFieldPtrs fs xs
  | _, _ => []

/-- Every `Gc` / `GcWeak` held (at any depth) in the fields of the active variant that are not
marked `require_static`. -/
def heldInTracedFields (d : Decl) : Val → List Ptr
  | .adt k fs => match d.variants[k]? with
    | some vr => tracedFieldPtrs vr.fields fs
    | none => []
  | _ => []

/-- Tag of the outermost constructor of a type shape (for coverage statements). -/
def Ty.ctor : Ty → Nat
  | .leaf => 0 | .gc => 1 | .weak => 2 | .opaque _ => 3 | .param _ => 4 | .ref _ _ => 5
  | .con _ _ => 6 | .adt _ _ => 7

def Ty.nctors : Nat := 8

/-! ### Declarations used by the non-vacuity examples of `GcArena.Props.C15`

(the declarations of `tests/tests.rs::derive_collect` and a nested shape) -/
namespace Examples

def fld (t : Ty) : Field := .mk [] t
def sfld (t : Ty) : Field := .mk [[.mode .requireStatic]] t
def strct (attrs : List Attr) (lts tps : Nat) (drop : Bool) (st : Style) (fs : List Field) : Decl :=
  .mk false attrs lts tps drop [.mk st [] fs]

/-- `#[collect(no_drop)] struct Test1<'gc> { a: i32, b: Gc<'gc, i32> }` -/
def test1 : Decl := strct [[.mode .noDrop]] 1 0 false .named [fld .leaf, fld .gc]
/-- `#[collect(no_drop)] enum Test3<'gc> { B(Gc<'gc, i32>), A(i32) }` -/
def test3 : Decl :=
  .mk true [[.mode .noDrop]] 1 0 false [.mk .tuple [] [fld .gc], .mk .tuple [] [fld .leaf]]
/-- `#[collect(no_drop)] struct Test7 { #[collect(require_static)] field: NoImpl }` -/
def test7 : Decl := strct [[.mode .noDrop]] 0 0 false .named [sfld (.opaque true)]
/-- `#[collect(no_drop, bound = "where T: Collect<'gc>")] struct Test9<T>(T);` -/
def test9 : Decl := strct [[.mode .noDrop, .bound [0]]] 0 1 false .tuple [fld (.param 0)]
/-- A nested shape: `struct Outer<'gc> { v: Vec<(u8, Test3<'gc>)>, w: Option<GcWeak<'gc, u8>>,
#[collect(require_static)] s: String, t: Test9<Gc<'gc, u8>> }` -/
def outer : Decl := strct [[.mode .noDrop]] 1 0 false .named
  [fld (.con .vec [.con .tuple [.leaf, .adt test3 []]]), fld (.con .option [.weak]), sfld .leaf,
   fld (.adt test9 [.gc])]
def outerVal : Val := .adt 0
  [.con [(0, .con [(0, .leaf), (1, .adt 0 [.gc 1])]), (0, .con [(0, .leaf), (1, .adt 1 [.leaf])])],
   .con [(0, .weak 2)], .leaf, .adt 0 [.gc 3]]

/-- `struct Node<'gc> { value: u32, #[collect(require_static)] token: Token, next: Option<Gc<'gc, Self>> }` -/
def selfNode : Decl := strct [[.mode .noDrop]] 1 0 false .named
  [fld .leaf, sfld (.opaque true), fld (.con .option [.gc])]
/-- `enum Tree<'gc> { Empty, Leaf(#[collect(require_static)] Token, u32), Branch { #[collect(require_static)]
token: Token, children: Vec<Gc<'gc, Self>> } }` -/
def selfTree : Decl := .mk true [[.mode .noDrop]] 1 0 false
  [.mk .unit [] [], .mk .tuple [] [sfld (.opaque true), fld .leaf],
   .mk .named [] [sfld (.opaque true), fld (.con .vec [.gc])]]

/-- `#[collect(require_static)] enum E { #[collect(require_static)] A(u8) }` (compiles) -/
def staticModeVariantAttr : Decl :=
  .mk true [[.mode .requireStatic]] 0 0 false [.mk .tuple [[.mode .requireStatic]] [fld .leaf]]
/-- `#[collect(require_static)] struct S<'a, 'b>(&'a u8, &'b u8);` (the derive compiles; no
`gc_lifetime`) -/
def staticModeTwoLifetimes : Decl :=
  strct [[.mode .requireStatic]] 2 0 false .tuple [fld (.opaque false), fld (.opaque false)]

/-- `#[collect(no_drop)] struct Holder { inner: Test7 }` -/
def holder : Decl := strct [[.mode .noDrop]] 0 0 false .named [fld (.adt test7 [])]

/-- `#[derive(Collect)] #[collect(no_drop)] struct Wrap<T>(T);` -/
def wrapD : Decl := strct [[.mode .noDrop]] 0 1 false .tuple [fld (.param 0)]
/-- `#[derive(Collect)] #[collect(no_drop)] struct Wrapped<'gc>(Gc<'gc, Tracked>);` -/
def wrappedD : Decl := strct [[.mode .noDrop]] 1 0 false .tuple [fld .gc]

/-- The NOT-`Collect` field types of the rejection-probe family "a field whose type is not Collect"
of lib/eng_collect.py (`TYPE_FORMS`, `TF_EXTRA`, plus `bound_override_empty_with_param_field`), in
table order, as the model sees them: `&'gc Tracked`, `&'gc mut Gc<'gc, Tracked>`, `&'gc NotCollect`,
`(u8, Hidden<'gc>)`, `[Hidden<'gc>; 1]`, `Box<[Hidden<'gc>]>`, `*const Tracked`,
`fn(Gc<'gc, Tracked>)`, `(Hidden<'gc>)`, `Hidden<'gc>`, `Box<Hidden<'gc>>`, `Option<&'gc Tracked>`,
`Cell<Gc<'gc, Tracked>>`, `RefCell<Gc<'gc, Tracked>>`, `Vec<NotCollect>`, `Wrap<Hidden<'gc>>`,
`&'a Tracked` (declared lifetime), `&'gc Tracked` through a `$t:ty` macro fragment (`Group`), a type
parameter without bound. -/
def probeNotCollectFieldTypes : List Ty :=
  [.ref false .leaf, .ref false .gc, .ref false (.opaque true),
   .con .tuple [.leaf, .opaque false], .con (.array 1) [.opaque false], .con .box [.con .vec [.opaque false]],
   .opaque true, .opaque false, .opaque false, .opaque false, .con .box [.opaque false],
   .con .option [.ref false .leaf], .opaque false, .opaque false, .con .vec [.opaque true],
   .adt wrapD [.opaque false], .ref false .leaf, .ref false .leaf, .param 0]
/-- The `Collect` control twins, same order: `&'static Tracked`, `&'static u8`, `&'static NotCollect`,
`(u8, Gc)`, `[Gc; 1]`, `Box<[GcWeak]>`, `u8`, `PhantomData<fn(Gc)>`, `(Gc)`, `Wrapped<'gc>`,
`Box<GcWeak>`, `Option<&'static Tracked>`, `Lock<Gc>`, `RefLock<Gc>`, `Vec<u8>`, `Wrap<Gc>`,
`(&'static Tracked, PhantomData<&'a ()>)`, `&'static Tracked` through `$t:ty`, a bounded parameter;
and a `GcWeak` field of the other probes. -/
def probeCollectFieldTypes : List Ty :=
  [.ref true .leaf, .ref true .leaf, .ref true (.opaque true), .con .tuple [.leaf, .gc], .con (.array 1) [.gc],
   .con .box [.con .vec [.weak]], .leaf, .leaf, .gc, .adt wrappedD [], .con .box [.weak],
   .con .option [.ref true .leaf], .con .lock [.gc], .con .refLock [.gc], .con .vec [.leaf], .adt wrapD [.gc],
   .con .tuple [.ref true .leaf, .leaf], .ref true .leaf, .param 0, .weak]

end Examples

end GcArena.Derive
