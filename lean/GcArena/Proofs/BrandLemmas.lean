import GcArena.Model.Brand
import GcArena.Generated.BrandTable
/-!
# Lemmas about the brand model

All but the last section hold for every table; the last one evaluates the generated table.
-/
namespace GcArena.Brand

theorem Variance.glb_inv_left (v : Variance) : Variance.glb .inv v = .inv := by
  cases v <;> rfl

theorem Variance.glb_inv_right (v : Variance) : Variance.glb v .inv = .inv := by
  cases v <;> rfl

theorem Variance.glb_bi_left (v : Variance) : Variance.glb .bi v = v := by
  cases v <;> rfl

theorem Variance.glb_bi_right (v : Variance) : Variance.glb v .bi = v := by
  cases v <;> rfl

theorem Variance.glb_comm (v w : Variance) : Variance.glb v w = Variance.glb w v := by
  cases v <;> cases w <;> rfl

theorem Variance.glb_idem (v : Variance) : Variance.glb v v = v := by
  cases v <;> rfl

theorem Variance.xform_inv (v : Variance) (h : v ≠ .bi) : Variance.xform v .inv = .inv := by
  cases v <;> first | rfl | exact absurd rfl h

theorem fieldsVar_inv_of_mem (look : VarOracle) (tgt : Target) :
    ∀ (fs : List Field) (f : Field), f ∈ fs → f.cfg = "" → varTy look tgt .co f.ty = .inv →
      fieldsVar look tgt fs = .inv
  | [], _, h, _, _ => by cases h
  | g :: gs, f, h, hc, hv => by
    simp only [fieldsVar]
    cases h with
    | head => simp [hc, hv, Variance.glb_inv_left]
    | tail _ h' =>
      rw [fieldsVar_inv_of_mem look tgt gs f h' hc hv]
      split
      · exact Variance.glb_inv_right _
      · rfl

theorem variance_inv_of_field (tbl : Table) (n : String) (d : AdtDef) (f : Field) (tgt : Target)
    (hd : tbl.find n = some d) (hf : f ∈ d.fields) (hc : f.cfg = "")
    (hv : varTy (adtVarOracle tbl fuel) tgt .co f.ty = .inv) :
    tbl.variance n tgt = .inv := by
  unfold Table.variance
  rw [hd]
  exact fieldsVar_inv_of_mem _ _ _ f hf hc hv

/-- `PhantomData<Cell<&'a ()>>` is invariant in `'a` (for every oracle, so for every table and
fuel). -/
theorem invariant_marker (look : VarOracle) (a : String) :
    varTy look (.lt a) .co (.std .phantomData [.std .cell [.ref (.named a) (.tuple [])]]) = .inv := by
  simp [varTy, varTys, varLt, StdCtor.variance, Variance.xform, Variance.glb]

/-- The covariant look-alike `PhantomData<&'a ()>` is *not* invariant (non-vacuity of the check). -/
theorem covariant_marker (look : VarOracle) (a : String) :
    varTy look (.lt a) .co (.std .phantomData [.ref (.named a) (.tuple [])]) = .co := by
  simp [varTy, varTys, varLt, StdCtor.variance, Variance.xform, Variance.glb]

/-- A field list with one unconditional field that fails an auto trait (`π` is `Auto.send` or
`Auto.sync`) fails it. -/
theorem fieldsAuto_false (π : Auto → Bool) (hπ : ∀ a b : Auto, π (a.and b) = (π a && π b))
    (look : AutoOracle) (env : List (String × Auto)) :
    ∀ (fs : List Field) (f : Field), f ∈ fs → f.cfg = "" → π (autoTy look env f.ty) = false →
      π (fieldsAuto look env fs) = false
  | [], _, h, _, _ => nomatch h
  | g :: gs, f, h, hc, hv => by
    simp only [fieldsAuto]
    cases h with
    | head => simp [hc, hπ, hv]
    | tail _ h' =>
      have ih := fieldsAuto_false π hπ look env gs f h' hc hv
      split
      · simp [hπ, ih]
      · exact ih

/-- A struct with a non-`Send` field and no explicit `unsafe impl Send` is not `Send`, for any
instantiation of its parameters (`env = []`: every parameter answers "both hold"). -/
theorem not_send_of_field (tbl : Table) (n : String) (d : AdtDef) (f : Field)
    (hd : tbl.find n = some d) (hf : f ∈ d.fields) (hc : f.cfg = "")
    (hv : (autoTy (adtAutoOracle tbl fuel) [] f.ty).send = false)
    (hi : tbl.hasAutoImpl "Send" n false = false) :
    (tbl.autoOf n).send = false := by
  unfold Table.autoOf
  rw [hd]
  simp only [applyImpls, hi]
  rw [fieldsAuto_false Auto.send (fun _ _ => rfl) _ _ _ f hf hc hv]
  simp

theorem not_sync_of_field (tbl : Table) (n : String) (d : AdtDef) (f : Field)
    (hd : tbl.find n = some d) (hf : f ∈ d.fields) (hc : f.cfg = "")
    (hv : (autoTy (adtAutoOracle tbl fuel) [] f.ty).sync = false)
    (hi : tbl.hasAutoImpl "Sync" n false = false) :
    (tbl.autoOf n).sync = false := by
  unfold Table.autoOf
  rw [hd]
  simp only [applyImpls, hi]
  rw [fieldsAuto_false Auto.sync (fun _ _ => rfl) _ _ _ f hf hc hv]
  simp

/-! The syntactic functions on `Ty` unfold by `rfl` on a constructor, so in most cases below the
hypotheses about `.ref l t`, `.std c ts`, … are used as they stand for `t`, `ts`. -/

theorem ltsMention_mem (a : String) : ∀ ls : List Lt, ltsMention a ls = true → a ∈ ltsNames ls
  | [], h => nomatch h
  | .named _ :: ls, h =>
    (Bool.or_eq_true_iff.mp h).elim (fun h => List.mem_cons.mpr (.inl (beq_iff_eq.mp h)))
      (fun h => List.mem_cons_of_mem _ (ltsMention_mem a ls h))
  | .static :: ls, h | .erased :: ls, h => ltsMention_mem a ls h

mutual
theorem mentions_mem_free (a : String) : ∀ t : Ty, t.mentionsLt a = true → a ∈ t.freeLts
  | .prim _, h | .param _, h | .unclassified _, h => nomatch h
  | .ref l t, h | .refMut l t, h =>
    List.mem_append.mpr ((Bool.or_eq_true_iff.mp h).imp
      (fun h => ltsMention_mem a [l] ((Bool.or_false _).trans h)) (mentions_mem_free a t))
  | .rawConst t, h | .rawMut t, h | .slice t, h => mentions_mem_free a t h
  | .std _ ts, h | .tuple ts, h => mentionsL_mem_free a ts h
  | .proj s _ ls ts _, h => by
    simp only [Ty.mentionsLt, Bool.or_eq_true, or_assoc] at h
    simp only [Ty.freeLts, List.mem_append]
    exact h.imp (mentions_mem_free a s) (.imp (ltsMention_mem a ls) (mentionsL_mem_free a ts))
  | .fnPtr bound args ret, h => by
    simp only [Ty.mentionsLt] at h
    split at h
    · cases h
    · rename_i hb
      simp only [Ty.freeLts, List.mem_filter, List.mem_append]
      exact ⟨(Bool.or_eq_true_iff.mp h).imp (mentionsL_mem_free a args) (mentions_mem_free a ret),
        by simpa using hb⟩
  | .adt _ ls ts, h =>
    List.mem_append.mpr ((Bool.or_eq_true_iff.mp h).imp (ltsMention_mem a ls) (mentionsL_mem_free a ts))
theorem mentionsL_mem_free (a : String) : ∀ ts : List Ty, mentionsLtL a ts = true → a ∈ freeLtsL ts
  | [], h => nomatch h
  | t :: ts, h =>
    List.mem_append.mpr ((Bool.or_eq_true_iff.mp h).imp (mentions_mem_free a t) (mentionsL_mem_free a ts))
end

mutual
theorem subst_not_mentions (g : String) (σ : String → Ty) :
    ∀ t : Ty, (∀ p ∈ t.tyParams, (σ p).mentionsLt g = false) → t.mentionsLt g = false →
      (t.subst σ).mentionsLt g = false
  | .prim _, _, _ | .unclassified _, _, _ => rfl
  | .param n, hσ, _ => hσ n (List.mem_singleton.mpr rfl)
  | .ref l t, hσ, h | .refMut l t, hσ, h =>
    have h := Bool.or_eq_false_iff.mp h
    Bool.or_eq_false_iff.mpr ⟨h.1, subst_not_mentions g σ t hσ h.2⟩
  | .rawConst t, hσ, h | .rawMut t, hσ, h | .slice t, hσ, h => subst_not_mentions g σ t hσ h
  | .std _ ts, hσ, h | .tuple ts, hσ, h => substL_not_mentions g σ ts hσ h
  | .proj s _ ls ts _, hσ, h => by
    simp only [Ty.mentionsLt, Bool.or_eq_false_iff] at h
    simp only [Ty.subst, Ty.mentionsLt, Bool.or_eq_false_iff]
    exact ⟨⟨subst_not_mentions g σ s (fun p hp => hσ p (List.mem_append_left _ hp)) h.1.1, h.1.2⟩,
      substL_not_mentions g σ ts (fun p hp => hσ p (List.mem_append_right _ hp)) h.2⟩
  | .fnPtr bound args ret, hσ, h => by
    simp only [Ty.subst, Ty.mentionsLt] at h ⊢
    cases hb : bound.contains g with
    | true => simp
    | false =>
      simp only [hb, Bool.false_eq_true, ↓reduceIte, Bool.or_eq_false_iff] at h ⊢
      exact ⟨substL_not_mentions g σ args (fun p hp => hσ p (List.mem_append_left _ hp)) h.1,
        subst_not_mentions g σ ret (fun p hp => hσ p (List.mem_append_right _ hp)) h.2⟩
  | .adt _ ls ts, hσ, h =>
    have h := Bool.or_eq_false_iff.mp h
    Bool.or_eq_false_iff.mpr ⟨h.1, substL_not_mentions g σ ts hσ h.2⟩
theorem substL_not_mentions (g : String) (σ : String → Ty) :
    ∀ ts : List Ty, (∀ p ∈ tyParamsL ts, (σ p).mentionsLt g = false) → mentionsLtL g ts = false →
      mentionsLtL g (substL σ ts) = false
  | [], _, _ => rfl
  | t :: ts, hσ, h =>
    have h := Bool.or_eq_false_iff.mp h
    Bool.or_eq_false_iff.mpr
      ⟨subst_not_mentions g σ t (fun p hp => hσ p (List.mem_append_left _ hp)) h.1,
       substL_not_mentions g σ ts (fun p hp => hσ p (List.mem_append_right _ hp)) h.2⟩
end

theorem binder_closed (t : Ty) (outerLts outerTys : List String) (g : String) (σ : String → Ty)
    (hc : t.closedUnder outerLts outerTys = true) (hg : g ∉ outerLts)
    (hσ : ∀ p ∈ outerTys, (σ p).mentionsLt g = false) :
    (t.subst σ).mentionsLt g = false := by
  simp only [Ty.closedUnder, Bool.and_eq_true, List.all_eq_true, List.contains_eq_mem,
    decide_eq_true_eq] at hc
  obtain ⟨⟨⟨hl, hp⟩, _⟩, _⟩ := hc
  refine subst_not_mentions g σ t (fun p hpm => hσ p (hp p hpm)) ?_
  -- `g` is not among the outer lifetimes, and every lifetime `t` mentions is
  exact Bool.eq_false_iff.mpr fun h => hg (hl g (mentions_mem_free g t h))

theorem forall_mem_append_of_all {α : Type} [BEq α] [LawfulBEq α] {P : α → Bool} {xs ys : List α}
    (hy : ∀ y ∈ ys, P y = true) (hx : xs.all (fun x => ys.contains x || P x) = true) :
    ∀ x ∈ xs ++ ys, P x = true := by
  intro x h
  rcases List.mem_append.mp h with h | h
  · rcases Bool.or_eq_true_iff.mp (List.all_eq_true.mp hx x h) with hc | hp
    · exact hy x (List.contains_iff_mem.mp hc)
    · exact hp
  · exact hy x h

/-! ## The generated table

Where several statements of `Props/C12` need the same dear evaluation (`table.builderRows`: three
closure rounds over all public types; variance and auto traits of every branded type; the string
comparisons behind `mustBeStatic`), it is done here, once, for all of them. -/

section
open GcArena.Generated.BrandTable (table)

theorem builderRows_checked :
    table.builderRows.all table.builderOk = true ∧
    requiredBuilderRows.all table.builderRows.contains = true ∧
    table.builderRows.all (fun r => r.1 != "Static" && r.1 != "Write") = true := by
  decide +kernel

/-- A required type that has a `'gc` parameter is covered by the first conjunct; `||` evaluates the
property itself only for those that have none. -/
theorem branded_checked :
    table.branded.all (fun n => table.invariantInBrand n && table.notSendSync n) = true ∧
    requiredBranded.all (fun n => table.branded.contains n || table.invariantInBrand n) = true ∧
    requiredNotSendSync.all (fun n => table.branded.contains n || table.notSendSync n) = true := by
  decide +kernel

theorem collectStatic_checked :
    (table.collectImpls.filter CollectImpl.mustBeStatic).all CollectImpl.staticOk = true ∧
    ∀ h ∈ ["&", "Cell", "RefCell", "Static"],
      (table.collectImpls.filter CollectImpl.mustBeStatic).any (fun ci => ci.selfTy.head == h) = true := by
  decide +kernel

end

end GcArena.Brand
