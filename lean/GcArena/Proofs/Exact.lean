import GcArena.Proofs.Tight
import GcArena.Proofs.Protocol
/-!
  Lifting tightness (Proofs/Tight) to whole `finish_cycle` calls, and colour monotonicity of a
  marked object up to and through the sweep of the same cycle (for C07).
-/
namespace GcArena

/-- An iteration of the driver loop started asleep or tight ends tight: it is one or two micro-steps,
    or (`Stop::AtSweep` reached) none, and then the state is in `Sweep`, not asleep. -/
theorem Arm.tight {root ru stop fault} {c c1 : Ctx} {hs hs1 : Bool} {k k1 : Nat} {e : Option Exit}
    (a : Arm root ru stop fault c hs k c1 hs1 k1 e) (h : CInv c root [])
    (t : c.phase ≠ .sleep → Tight c root) : Tight c1 root := by
  have two : ∀ {m1 m2 : Micro} {c2 : Ctx}, MicroStep root c m1 c2 → MicroStep root c2 m2 c1 → Tight c1 root :=
    fun s1 s2 => micro_tight (micro_inv h _ (micro_iff.mpr s1)) s2 (fun _ => micro_tight h s1 t)
  cases a with
  | wake hp => exact micro_tight h (.wake hp) t
  | mark hp hg | unwind hp hg => exact micro_tight h (.markStep _ hp hg) t
  | marked hp hg => exact micro_tight h (.markBreak hp hg) t
  | toSweep hp hg => exact two (.markBreak hp hg) (.toSweep hp hg)
  | atSweep hp => exact t (by rw [hp]; simp)
  | sweep hp _ hr => exact micro_tight h (.sweepStep hp hr) t
  | toSleep hp _ hr => exact two (.sweepEnd hp hr) (.toSleep hs hp hr)
  | drop hp => exact absurd hp h.notDrop

theorem finishCycle_spec {c : Ctx} {root} (h : CInv c root []) :
    CInv (c.doCollection root .stop .finishCycle none).1 root [] ∧
    (c.doCollection root .stop .finishCycle none).1.phase = .sleep ∧
    SameReach c (c.doCollection root .stop .finishCycle none).1 root ∧
    ((c.phase ≠ .sleep → Tight c root) → Tight (c.doCollection root .stop .finishCycle none).1 root) := by
  have hret := doCollection_returns h .stop .finishCycle
  have hreach : Reaches c root (c.doCollection root .stop .finishCycle none).1 := doCollection_reaches h
  have e : c.doCollection root .stop .finishCycle none =
      Ctx.collectLoop root .stop .finishCycle none (2 * c.fuelBound root + 8) c false 0 := by
    simp [Ctx.doCollection]
  refine ⟨hreach.inv h, ?_, hreach.sameReach h, fun t => ?_⟩
  · rw [e] at hret ⊢
    exact collectLoop_finishCycle _ c false 0 h hret
  · rw [e] at hret ⊢
    exact collectLoop_induct (I := fun _ c _ _ => CInv c root [] ∧ (c.phase ≠ .sleep → Tight c root))
      (Q := fun c' ex => ex = .returned → Tight c' root) (fun _ _ _ _ hx => nomatch hx)
      (fun _ _ _ _ _ _ _ _ hi a _ => a.tight hi.1 hi.2)
      (fun _ _ _ _ _ _ _ hi a => ⟨a.inv hi.1, fun _ => a.tight hi.1 hi.2⟩) _ c false 0 ⟨h, t⟩ hret

/-- Two consecutive fault-free `finish_cycle` calls from any state: the second starts asleep, so
    it ends tight, asleep, with the reachability relations of the very first state. -/
theorem finishCycle_twice {c : Ctx} {root} (h : CInv c root []) :
    let c2 := ((c.doCollection root .stop .finishCycle none).1.doCollection root .stop .finishCycle none).1
    CInv c2 root [] ∧ c2.phase = .sleep ∧ SameReach c c2 root ∧ Tight c2 root := by
  obtain ⟨h1, p1, s1, _⟩ := finishCycle_spec h
  obtain ⟨h2, p2, s2, t2⟩ := finishCycle_spec h1
  exact ⟨h2, p2, s1.trans s2, t2 (fun hne => absurd p1 hne)⟩

/-- In a tight sleeping state, what is allocated is exactly: the strongly reachable objects
    (undestructed) and the weakly held shells (destructed). -/
theorem Tight.asleep {c : Ctx} {root} (t : Tight c root) (h : CInv c root []) (hp : c.phase = .sleep)
    {i : Nat} {o : Obj} (ho : c.heap.get i = some o) :
    (o.live = true → StrongReachC c root i) ∧ (o.live = false → WeakHeld c root i) := by
  have hmem := (h.memAll i).mpr ⟨o, ho⟩
  rw [h.restNil (by rw [hp]; simp), List.append_nil] at hmem
  exact t.kept (by rw [hp]; simp) i hmem o ho

def Marked (c : Ctx) (t : Nat) : Prop :=
  ∃ o, c.heap.get t = some o ∧ (o.color = .gray ∨ o.color = .black)

theorem Marked.ofHeap {c c' : Ctx} {t : Nat} (m : Marked c t) (h : ∀ j, c'.heap.get j = c.heap.get j) :
    Marked c' t := by
  obtain ⟨o, ho, hc⟩ := m; exact ⟨o, by rw [h]; exact ho, hc⟩

/-- The recolouring primitives only recolour upward. -/
theorem Marked.touch {T} {c c' : Ctx} {t : Nat} (m : Marked c t) (tc : Touch T c c') : Marked c' t := by
  obtain ⟨o, ho, hc⟩ := m
  obtain ⟨o', ho', _, _, _, hcls, _⟩ := tc.keep t o ho
  exact ⟨o', ho', cls_marked.mp (Nat.le_trans (cls_marked.mpr hc) hcls)⟩

theorem Marked.setObj {c : Ctx} {t : Nat} (m : Marked c t) (i : Nat) (o : Obj)
    (hc : o.color = .gray ∨ o.color = .black) : Marked (c.setObj i o) t := by
  by_cases ht : t = i
  · subst ht; exact ⟨o, by simp, hc⟩
  · obtain ⟨ot, hot, hct⟩ := m
    exact ⟨ot, by rw [Ctx.setObj_get]; simp [ht, hot], hct⟩

theorem Marked.markOne {c : Ctx} {t : Nat} (m : Marked c t) (root : List Slot) (f : Option Nat) :
    Marked (c.markOne root f).1 t :=
  markOne_induct (P := (Marked · t)) c root f (fun e m => m.ofHeap (fun _ => by rw [e]))
    (fun i _ _ _ m => m.setObj i _ (.inr rfl))
    (fun p _ m => match p with
      | .strong x => m.touch (touch_trace (T := fun _ => True) _ x trivial)
      | .weak x => m.touch (touch_traceWeak (T := fun _ => True) _ x trivial))
    (fun i _ m => m.touch (touch_makeGrayAgain (T := fun _ => True) _ i trivial)) m

/-- `t` is marked (mark phase) or out of the running sweep's reach (sweep phase). -/
def Prot (c : Ctx) (t : Nat) : Prop :=
  (c.phase = .mark ∧ Marked c t) ∨ (c.phase = .sweep ∧ Safe c t)

theorem micro_prot {c c' : Ctx} {root} {t : Nat} (h : CInv c root []) (m : Micro)
    (hs : c.micro root m = some c') (hm : ∀ b, m ≠ .toSleep b) (p : Prot c t) : Prot c' t := by
  have sweepCase : c.phase = .sweep → Prot c.sweepOne.1 t := by
    intro hp
    rcases p with ⟨hpm, _⟩ | ⟨_, hsafe⟩
    · rw [hp] at hpm; cases hpm
    · have htemps : ∀ q, q ∈ [Ptr.strong t] → PtrOK c q := by
        intro q hq
        simp only [List.mem_singleton] at hq
        subst hq; exact hsafe
      have h' : CInv c root [Ptr.strong t] := { h with tempsOK := htemps }
      obtain ⟨h2, hp2⟩ := sweepOne_spec h' hp
      exact Or.inr ⟨hp2, h2.tempsOK (Ptr.strong t) (by simp)⟩
  have markCase : c.phase = .mark → ∀ f, Prot (c.markOne root f).1 t := by
    intro hp f
    rcases p with ⟨_, hmk⟩ | ⟨hps, _⟩
    · exact Or.inl ⟨(markOne_spec h hp f).2.phase.trans hp, hmk.markOne root f⟩
    · rw [hp] at hps; cases hps
  cases micro_iff.mp hs with
  | wake hp =>
    rcases p with ⟨hpm, _⟩ | ⟨hps, _⟩
    · rw [hp] at hpm; cases hpm
    · rw [hp] at hps; cases hps
  | markStep f hp => exact markCase hp f
  | markBreak hp hg =>
    have := markCase hp none
    rwa [markOne_break none hg] at this
  | toSweep hpm hg =>
    -- with both queues empty a marked object is black
    simp only [Ctx.grayRemaining, Bool.or_eq_false_iff, Bool.not_eq_false', List.isEmpty_iff] at hg
    rcases p with ⟨_, o, ho, hc⟩ | ⟨hps, _⟩
    · have hb : o.color = .black := by
        rcases hc with hc | hc
        · have := h.grayQ t o ho hc
          rw [hg.1.1, hg.1.2] at this; simp at this
        · exact hc
      exact Or.inr ⟨rfl, o, ho, h.markedLive t o ho (Or.inr hb), fun _ _ => hb⟩
    · rw [hpm] at hps; cases hps
  | sweepStep hp => exact sweepCase hp
  | sweepEnd hp hr =>
    have := sweepCase hp
    rwa [sweepOne_end hr] at this
  | toSleep b => exact absurd rfl (hm b)

theorem micros_prot {root} {t : Nat} (ms : List Micro) : ∀ {c c' : Ctx}, CInv c root [] →
    c.micros root ms = some c' → (∀ m, m ∈ ms → ∀ b, m ≠ .toSleep b) → Prot c t → Prot c' t := by
  induction ms with
  | nil => intro c c' _ hs _ p; cases hs; exact p
  | cons m ms ih =>
    intro c c' h hs hm p
    simp only [Ctx.micros] at hs
    split at hs
    · rename_i c1 hc1
      exact ih (micro_inv h m hc1) hs (fun m' hm' => hm m' (List.mem_cons_of_mem _ hm'))
        (micro_prot h m hc1 (hm m (List.mem_cons_self ..)) p)
    · cases hs

theorem safe_closure {c : Ctx} {root temps hole} (h : CInvH c root temps hole) {t : Nat} (hs : Safe c t) {j : Nat}
    (hj : AccessibleC c [] [Ptr.strong t] j) : Safe c j :=
  hj.closed (S := Safe c) (fun _ hx => by cases hx)
    (fun x hx => by simp only [List.mem_singleton, Ptr.strong.injEq] at hx; subst hx; exact hs)
    (fun i o x ih ho hsl => h.closed i o ho ih _ hsl)

end GcArena
