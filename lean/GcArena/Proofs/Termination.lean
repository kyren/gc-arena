import GcArena.Proofs.LogRun
import GcArena.Proofs.Loop
/-!
  Termination of the driver loop: with the fuel `Ctx.doCollection` supplies, `collectLoop` never
  runs out — for every state satisfying the invariant, every `RunUntil` / `Stop`, every pacing
  and debt, every fault position.  The measure: (cycles still ahead, phase, non-black objects on
  the list + root flag, resp. remaining sweep list).
-/
namespace GcArena

def nonBlack (c : Ctx) (i : Nat) : Bool :=
  match c.heap.get i with
  | some o => o.color != .black
  | none => false

def NB (c : Ctx) : Nat := c.all.countP (nonBlack c)

def markMeasure (c : Ctx) : Nat := NB c + (if c.rootNeedsTrace then 1 else 0)

theorem countP_le_of_imp {p q : Nat → Bool} (l : List Nat) (h : ∀ i, i ∈ l → q i = true → p i = true) :
    l.countP q ≤ l.countP p :=
  List.countP_mono_left h

theorem countP_lt_of_imp {p q : Nat → Bool} (l : List Nat) (h : ∀ i, i ∈ l → q i = true → p i = true)
    (t : Nat) (ht : t ∈ l) (hpt : p t = true) (hqt : q t = false) : l.countP q < l.countP p := by
  induction l with
  | nil => cases ht
  | cons a l ih =>
    have hle := countP_le_of_imp l (fun i hi => h i (List.mem_cons_of_mem _ hi))
    rw [List.countP_cons, List.countP_cons]
    rcases List.mem_cons.mp ht with rfl | ht
    · rw [if_pos hpt, if_neg (by simp [hqt])]
      omega
    · have ih' := ih (fun i hi => h i (List.mem_cons_of_mem _ hi)) ht
      by_cases hq : q a = true
      · rw [if_pos hq, if_pos (h a List.mem_cons_self hq)]
        omega
      · rw [if_neg hq]
        omega

theorem NB_le_length (c : Ctx) : NB c ≤ c.all.length := List.countP_le_length

theorem NB_le_of_keep {c c' : Ctx} (hmem : ∀ i, i ∈ c.all → ∃ o, c.heap.get i = some o)
    (k : KeepMarked c c') (hall : c'.all = c.all) : NB c' ≤ NB c := by
  unfold NB
  rw [hall]
  apply countP_le_of_imp
  intro i hi hq
  obtain ⟨o, ho⟩ := hmem i hi
  unfold nonBlack at hq ⊢
  rw [ho]
  by_cases hb : o.color = .black
  · rw [k i o ho (Or.inr hb)] at hq
    simp [hb] at hq
  · simp [hb]

theorem all_of_markFrame {c c' : Ctx} (f : MarkFrame c c') : c'.all = c.all := by
  unfold Ctx.all; rw [f.pre, f.rest]

theorem traceSlots_touch (ss : List Slot) (c : Ctx) :
    Touch (fun _ => True) c (c.traceSlots ss) ∧ KeepMarked c (c.traceSlots ss) :=
  traceSlots_induct (P := fun x => Touch (fun _ => True) c x ∧ KeepMarked c x) ss
    (fun {x} p _ ⟨t, k⟩ => match p with
      | .strong i => ⟨t.trans (touch_trace x i trivial), k.trans (trace_keep i)⟩
      | .weak i => ⟨t.trans (touch_traceWeak x i trivial), k.trans (traceWeak_keep i)⟩)
    ⟨.refl c, .refl c⟩

theorem NB_traceSlots {c : Ctx} (hmem : ∀ i, i ∈ c.all → ∃ o, c.heap.get i = some o) (ss : List Slot) :
    NB (c.traceSlots ss) ≤ NB c :=
  have ⟨t, k⟩ := traceSlots_touch ss c
  NB_le_of_keep hmem k (by unfold Ctx.all; rw [t.pre, t.rest])

theorem markOne_measure {c : Ctx} {root} (h : CInv c root []) (hg : c.grayRemaining = true) :
    markMeasure (c.markOne root none).1 < markMeasure c := by
  rcases markOne_cases c root none with ⟨i, g, ga, hi, _, e⟩ | ⟨hr, e⟩ | ⟨hg', _⟩
  · -- a gray object becomes black, and tracing its slots takes no black object back
    obtain ⟨o, ho, hgr⟩ := h.qGray i hi
    rw [e, markObj_eq (c := ({ c with gray := g, grayAgain := ga } : Ctx).step 'g') ho
      (h.markedLive i o ho (.inl hgr))]
    generalize hc2 : ((({ c with gray := g, grayAgain := ga } : Ctx).step 'g').withMetrics
      Metrics.markGcTraced).setObj i { o with color := .black } = c2
    have hget2 : ∀ j, c2.heap.get j = if j = i then some { o with color := .black } else c.heap.get j := by
      intro j; rw [← hc2]; simp
    have hall2 : c2.all = c.all := by rw [← hc2]; rfl
    have hrnt2 : c2.rootNeedsTrace = c.rootNeedsTrace := by rw [← hc2]; rfl
    have hmem2 : ∀ j, j ∈ c2.all → ∃ oj, c2.heap.get j = some oj := by
      intro j hj
      rw [hget2]
      split
      · exact ⟨_, rfl⟩
      · rw [hall2] at hj; exact (h.memAll j).mp hj
    have hlt : NB c2 < NB c := by
      unfold NB
      rw [hall2]
      refine countP_lt_of_imp _ (fun j _ hq => ?_) i ((h.memAll i).mpr ⟨o, ho⟩)
        (by simp [nonBlack, ho, hgr]) (by simp [nonBlack, hget2])
      unfold nonBlack at hq ⊢
      rw [hget2] at hq
      by_cases hj : j = i
      · simp [hj] at hq
      · rwa [if_neg hj] at hq
    have hle := NB_traceSlots hmem2 o.slots
    show NB (c2.traceSlots o.slots) + _ < NB c + _
    rw [(traceSlots_touch o.slots c2).1.rnt, hrnt2]
    omega
  · -- the root flag is cleared, and tracing the root takes no black object back
    rw [e]
    have hle : NB ((c.step 'r').traceSlots root) ≤ NB c :=
      NB_traceSlots (c := c.step 'r') (fun j hj => (h.memAll j).mp hj) root
    show NB ((c.step 'r').traceSlots root) + 0 < NB c + (if c.rootNeedsTrace = true then 1 else 0)
    rw [if_pos hr]
    omega
  · rw [hg'] at hg; cases hg

/-- With the invariant, a `mark_one` that traced something and *returned normally* was not the
    faulted one. -/
theorem markOne_continue_fault {c : Ctx} {root} (h : CInv c root []) (hg : c.grayRemaining = true)
    (f : Option Nat) (hfl : (c.markOne root f).2 = .continue) :
    c.markOne root f = c.markOne root none := by
  cases f with
  | none => rfl
  | some j =>
    exfalso
    rcases markOne_cases c root (some j) with ⟨i, g, ga, hi, _, e⟩ | ⟨_, e⟩ | ⟨hg', _⟩
    · obtain ⟨o, ho, hgr⟩ := h.qGray i hi
      rw [e, markObj_eq (c := ({ c with gray := g, grayAgain := ga } : Ctx).step 'g') ho
        (h.markedLive i o ho (.inl hgr))] at hfl
      cases hfl
    · rw [e] at hfl; cases hfl
    · rw [hg'] at hg; cases hg

/-- Loop iterations still ahead, at most: the rest of this cycle, plus — when the loop has not yet
    passed through `Sleep` — one whole further cycle. -/
def cycleFuel (c : Ctx) (hasSlept : Bool) : Nat :=
  let n := c.pre.length + c.rest.length
  match c.phase with
  | .sleep => 2 * n + 4
  | .mark => markMeasure c + n + 2 + (if hasSlept then 0 else 2 * n + 5)
  | .sweep => c.rest.length + 1 + (if hasSlept then 0 else 2 * n + 5)
  | .drop => 0

theorem all_length (c : Ctx) : c.all.length = c.pre.length + c.rest.length := by
  simp [Ctx.all]

theorem markMeasure_le (c : Ctx) : markMeasure c ≤ c.pre.length + c.rest.length + 1 := by
  have := NB_le_length c
  rw [all_length] at this
  unfold markMeasure
  split <;> omega

theorem sweepOne_lengths {c : Ctx} (hr : c.rest ≠ []) :
    c.sweepOne.1.rest.length + 1 = c.rest.length ∧
    c.sweepOne.1.pre.length + c.sweepOne.1.rest.length ≤ c.pre.length + c.rest.length := by
  cases hc : c.rest with
  | nil => exact absurd hc hr
  | cons i r =>
    cases ho : c.heap.get i with
    | none =>
      rw [sweepOne_none hc ho, Ctx.fail_rest, Ctx.fail_pre]
      exact ⟨rfl, Nat.le_succ _⟩
    | some o =>
      obtain ⟨_, _, _, hrest, hpre, _⟩ := sweepOne_at hc ho
      rw [hrest, hpre]
      split <;> simp <;> omega

theorem cycleFuel_sleep {c : Ctx} (hp : c.phase = .sleep) (hs : Bool) :
    cycleFuel c hs = 2 * (c.pre.length + c.rest.length) + 4 := by
  simp only [cycleFuel, hp]

theorem cycleFuel_mark {c : Ctx} (hp : c.phase = .mark) (hs : Bool) :
    cycleFuel c hs = markMeasure c + (c.pre.length + c.rest.length) + 2 +
      (if hs then 0 else 2 * (c.pre.length + c.rest.length) + 5) := by
  simp only [cycleFuel, hp]

theorem cycleFuel_sweep {c : Ctx} (hp : c.phase = .sweep) (hs : Bool) :
    cycleFuel c hs = c.rest.length + 1 + (if hs then 0 else 2 * (c.pre.length + c.rest.length) + 5) := by
  simp only [cycleFuel, hp]

theorem Arm.fuel {root ru stop fault} {c c1 : Ctx} {hs hs1 : Bool} {k k1 : Nat}
    (a : Arm root ru stop fault c hs k c1 hs1 k1 none) (h : CInv c root []) :
    cycleFuel c1 hs1 < cycleFuel c hs := by
  generalize he : (none : Option Exit) = e at a
  cases a with
  | unwind | marked | atSweep | drop => cases he
  | wake hp =>
    have hm : markMeasure (c.switch .mark) ≤ c.pre.length + c.rest.length + 1 := markMeasure_le _
    rw [cycleFuel_sleep hp, cycleFuel_mark (c := c.switch .mark) rfl]
    show markMeasure (c.switch .mark) + (c.pre.length + c.rest.length) + 2 + 0 < _
    omega
  | mark hp hg hf =>
    -- the call returned normally, so it was not the faulted one, and it blackened an object or
    -- traced the root
    rw [markOne_continue_fault h hg _ hf]
    have f := (markOne_spec (root := root) h hp none).2
    have hms := markOne_measure (root := root) h hg
    rw [cycleFuel_mark hp, cycleFuel_mark (f.phase.trans hp), f.pre, f.rest]
    omega
  | toSweep hp hg hst =>
    rw [cycleFuel_mark hp, cycleFuel_sweep (c := (c.step 'b').enterSweep) rfl]
    show (c.pre ++ c.rest).length + 1 + (if hs then 0 else 2 * (0 + (c.pre ++ c.rest).length) + 5) < _
    rw [List.length_append, Nat.zero_add]
    omega
  | sweep hp hst hr =>
    obtain ⟨l1, l2⟩ := sweepOne_lengths hr
    rw [cycleFuel_sweep hp, cycleFuel_sweep (sweepOne_spec h hp).2]
    split <;> omega
  | toSleep hp hst hr =>
    -- the loop goes on from `Sleep` only if it had not slept before
    have hs0 : hs = false := by
      cases hs
      · rfl
      · simp at he
    subst hs0
    rw [cycleFuel_sweep hp, cycleFuel_sleep (c := (c.step 'e').enterSleep false) rfl]
    show 2 * (c.pre.length + c.rest.length) + 4 < _
    simp only [Bool.false_eq_true, if_false]
    omega

theorem collectLoop_fuel {root ru stop fault} (fuel : Nat) (c : Ctx) (hs : Bool) (k : Nat)
    (h : CInv c root []) (hf : cycleFuel c hs < fuel) :
    (Ctx.collectLoop root ru stop fault fuel c hs k).2 ≠ .outOfFuel :=
  collectLoop_induct (I := fun n c hs _ => CInv c root [] ∧ cycleFuel c hs < n)
    (Q := fun _ ex => ex ≠ .outOfFuel)
    (fun _ _ _ hi => absurd hi.2 (Nat.not_lt_zero _))
    (fun _ _ _ _ _ _ _ _ _ a => a.exit_ne_outOfFuel)
    (fun _ _ _ _ _ _ _ hi a => ⟨a.inv hi.1, by have := a.fuel hi.1; omega⟩)
    fuel c hs k ⟨h, hf⟩

/-- `Context::do_collection` terminates: the fuel `Ctx.doCollection` supplies is never used up. -/
theorem doCollection_terminates {c : Ctx} {root} (h : CInv c root []) (ru : RunUntil) (stop : Stop)
    (fault : TraceFault) : (c.doCollection root ru stop fault).2 ≠ .outOfFuel := by
  unfold Ctx.doCollection
  split
  · simp
  · apply collectLoop_fuel _ _ _ _ h
    have hm := markMeasure_le c
    unfold cycleFuel Ctx.fuelBound
    cases c.phase <;> simp <;> omega

end GcArena
