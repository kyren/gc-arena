import GcArena.Proofs.ProtRun
/-!
  Slots change only by stores into them.  The collector never changes what a surviving value
  holds (`LiveFrame`, Proofs/Events); with the per-op description of the mutator operations
  (Proofs/MutFrame) this gives the history-level frame for single slots: along any run, slot `k`
  of object `i` changes only by a store op into `(i, k)`.  Conversely an accepted store leaves
  its value in the slot, and a read returns what the slot holds.
-/
namespace GcArena

/-- The op is a store into slot `k` of object `i` (by any write path). -/
def Op.writesSlot (op : Op) (i k : Nat) : Bool :=
  match op with
  | .store _ p j _ => p = i && j = k
  | _ => false

/-- Slot `k` of every surviving live object `i` that existed before the step reads the same,
    unless the op is a store into `(i, k)`. -/
def SlotFrame (i k : Nat) (a a' : Arena) : Prop :=
  ∀ o', a'.ctx.heap.get i = some o' → o'.live = true → i < a.ctx.heap.size →
    ∃ o, a.ctx.heap.get i = some o ∧ o.live = true ∧ o'.slots[k]? = o.slots[k]?

theorem step_slotFrame {a : Arena} (h : Inv a) (op : Op) (hal : (a.step op).1.alive = true)
    (i k : Nat) (hw : op.writesSlot i k = false) : SlotFrame i k a (a.step op).1 := by
  intro o' ho' hl hlt
  rcases step_kind h op hal with hop | rel
  · have m := step_mutFacts h op hop
    cases ho : a.ctx.heap.get i with
    | none =>
      have := (m.fresh i o' ho' ho).1
      omega
    | some o =>
      obtain ⟨o2, ho2, l, _, _, _, _, sl⟩ := m.keep i o ho
      rw [ho'] at ho2; cases ho2
      refine ⟨o, rfl, l ▸ hl, ?_⟩
      rcases sl with sl | ⟨idx, v, ⟨path, hop'⟩, sl, _⟩
      · rw [sl]
      · subst hop'
        have hne : idx ≠ k := by
          intro he
          simp [Op.writesSlot, he] at hw
        rw [sl, List.getElem?_set_ne hne]
  · obtain ⟨o, ho, hlo, sl, _⟩ := (rel.liveFrame h).back i o' ho' hl
    exact ⟨o, ho, hlo, by rw [sl]⟩

theorem step_size_le {a : Arena} (h : Inv a) (op : Op) (hal : (a.step op).1.alive = true) :
    a.ctx.heap.size ≤ (a.step op).1.ctx.heap.size := by
  rcases step_kind h op hal with hop | rel
  · exact (step_quiet h op hop).sizeLe
  · exact rel.lift (R := fun c c' => c.heap.size ≤ c'.heap.size) h (fun _ => Nat.le_refl _) Nat.le_trans
      (fun _ st => Nat.le_of_eq st.size.symm)

theorem run_slotFrame (i k : Nat) (ops : List Op) : ∀ (a : Arena), Inv a → (a.run ops).alive = true →
    (∀ op, op ∈ ops → op.writesSlot i k = false) → SlotFrame i k a (a.run ops) := by
  induction ops with
  | nil => intro a _ _ _ o' ho' hl _; exact ⟨o', ho', hl, rfl⟩
  | cons op ops ih =>
    intro a h hal hw
    simp only [Arena.run] at hal ⊢
    have hal1 := alive_of_run_alive hal
    have h1 := inv_step h op hal1
    intro o2 ho2 hl2 hlt
    have hsz := step_size_le h op hal1
    obtain ⟨o1, ho1, hl1, s1⟩ := ih _ h1 hal (fun op' hm => hw op' (List.mem_cons_of_mem _ hm)) o2 ho2 hl2
      (by omega)
    obtain ⟨o, ho, hl, s⟩ := step_slotFrame h op hal1 i k (hw op (by simp)) o1 ho1 hl1 hlt
    exact ⟨o, ho, hl, s1.trans s⟩

theorem slotOf_eq_some {c : Ctx} {i k : Nat} {v : Slot} :
    Arena.slotOf c i k = some v ↔ ∃ o, c.heap.get i = some o ∧ o.slots[k]? = some v := by
  unfold Arena.slotOf
  cases c.heap.get i with
  | none => simp
  | some o => simp

theorem slot_reads_back {a : Arena} (hinv : Inv a) (i k : Nat) (v : Slot) (ops : List Op)
    (hv : Arena.slotOf a.ctx i k = some v)
    (hops : ∀ op, op ∈ ops → op.writesSlot i k = false)
    (halive : (a.run ops).alive = true)
    (hl : ∃ o', (a.run ops).ctx.heap.get i = some o' ∧ o'.live = true) :
    Arena.slotOf (a.run ops).ctx i k = some v := by
  obtain ⟨o0, ho0, hs0⟩ := slotOf_eq_some.mp hv
  obtain ⟨o', ho', hl'⟩ := hl
  obtain ⟨o, ho, _, s⟩ := run_slotFrame i k ops a hinv halive hops o' ho' hl'
    (Heap.lt_size_of_get _ _ _ ho0)
  rw [ho0] at ho; cases ho
  exact slotOf_eq_some.mpr ⟨o', ho', by rw [s]; exact hs0⟩

theorem setSlot_slotOf_of_get {c : Ctx} {p i : Nat} {o : Obj} (v : Slot) (ho : c.heap.get p = some o)
    (hi : i < o.slots.length) : Arena.slotOf (Arena.setSlot c p i v) p i = some v := by
  simp [Arena.slotOf, Arena.setSlot, ho, hi]

theorem setSlot_slotOf {c : Ctx} {p i : Nat} {v : Slot} (h : (Arena.slotOf c p i).isSome = true) :
    Arena.slotOf (Arena.setSlot c p i v) p i = some v := by
  obtain ⟨s, hs⟩ := Option.isSome_iff_exists.mp h
  obtain ⟨o, ho, hk⟩ := slotOf_eq_some.mp hs
  exact setSlot_slotOf_of_get v ho (List.getElem?_eq_some_iff.mp hk).1

theorem recol_slotOf {T} {c c' : Ctx} (r : Recol T c c') (p i : Nat) :
    Arena.slotOf c' p i = Arena.slotOf c p i := by
  unfold Arena.slotOf
  cases ho : c.heap.get p with
  | none =>
    cases ho' : c'.heap.get p with
    | none => rfl
    | some o' => obtain ⟨o, ho2⟩ := r.noNew p o' ho'; rw [ho] at ho2; cases ho2
  | some o =>
    obtain ⟨o', ho', _, sl, _⟩ := r.keep p o ho
    rw [ho']; simp [sl]

/-- The barrier, before or after the write, leaves all slots alone. -/
theorem StorePath.apply_slotOf {c : Ctx} {p i : Nat} {v : Slot} (hs : (Arena.slotOf c p i).isSome = true)
    (path : StorePath) : Arena.slotOf (path.apply c p i v) p i = some v := by
  have bb := fun c => recol_slotOf (touch_backwardBarrier (T := fun _ => True) c p none trivial).toRecol p i
  cases path with
  | write => exact setSlot_slotOf (by rw [bb]; exact hs)
  | raw => exact setSlot_slotOf hs
  | storeThenBarrier =>
    show Arena.slotOf (Ctx.backwardBarrier _ p none) p i = _
    rw [bb]; exact setSlot_slotOf hs

theorem MutStep.store_sets_slot {a a' : Arena} {fin : Bool} {path : StorePath} {p i : Nat} {v : Slot}
    {out : String} (st : MutStep a fin (.store path p i v) a' out) (hok : out = "ok") :
    Arena.slotOf a'.ctx p i = some v := by
  cases st with
  | same _ _ h =>
    rcases h with rfl | h | h
    · simp at hok
    · cases h
    · cases h
  | hold _ _ _ _ hop => cases hop
  | dangling _ _ _ _ _ hop => cases hop
  | store _ _ _ _ _ _ _ hs => exact StorePath.apply_slotOf hs path

theorem store_sets_slot {a : Arena} (path : StorePath) (p i : Nat) (v : Slot)
    (hok : (a.step (.store path p i v)).2 = "ok") :
    Arena.slotOf (a.step (.store path p i v)).1.ctx p i = some v := by
  cases hal : a.alive with
  | false => simp [Arena.step, hal, Arena.bad] at hok
  | true => rw [step_eq hal] at hok ⊢; exact (stepBody_mutStep _ _ _ rfl).store_sets_slot hok

theorem read_returns_slot {a : Arena} (hal : a.alive = true) (hcb : a.cb ≠ none) {p i : Nat} {v : Slot}
    (hh : a.holds (.strong p) = true) (hv : Arena.slotOf a.ctx p i = some v) :
    (a.step (.read p i)).2 = Arena.showSlot v := by
  have hcb' : a.cb.isNone = false := by cases hc : a.cb <;> simp_all
  have hh' : ({ a with marked := false } : Arena).holds (.strong p) = true := hh
  rw [step_eq hal]
  simp only [Arena.stepBody, hcb', hh', Bool.not_true, Bool.or_self, Bool.false_eq_true, if_false, hv]
  cases v <;> rfl

end GcArena
