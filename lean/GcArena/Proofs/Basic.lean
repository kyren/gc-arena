import GcArena.Model.Arena
/-! Algebra of `Heap.get` / `Heap.set` / `Heap.size`, and the
    field projections of the bookkeeping updates (`fail`, `step`, `emit`, `withMetrics`, `setObj`). -/
namespace GcArena
namespace Heap

@[simp] theorem get_empty (i : Nat) : Heap.empty.get i = none := by
  simp [Heap.empty, Heap.get]

theorem get_of_size_le (h : Heap) (i : Nat) (hi : h.size ≤ i) : h.get i = none := by
  unfold Heap.get Heap.size at *
  simp [Array.getElem?_eq_none hi]

theorem lt_size_of_get (h : Heap) (i : Nat) (o : Obj) (hg : h.get i = some o) : i < h.size := by
  apply Classical.byContradiction
  intro hn
  rw [get_of_size_le h i (Nat.le_of_not_lt hn)] at hg
  cases hg

@[simp] theorem get_fresh (h : Heap) : h.get h.fresh = none :=
  get_of_size_le h _ (Nat.le_refl _)

theorem get_set (h : Heap) (i j : Nat) (v : Option Obj) :
    (h.set i v).get j = if j = i then v else h.get j := by
  unfold Heap.set Heap.get
  by_cases hi : i < h.cells.size
  · simp only [hi, if_true, Array.getElem?_setIfInBounds]
    by_cases hji : j = i
    · subst hji; simp
    · simp [hji, Ne.symm hji]
  · simp only [hi, if_false]
    rw [Array.getElem?_push, Array.getElem?_append]
    simp only [Array.size_append, Array.size_replicate, Array.getElem?_replicate]
    have hsz : h.cells.size + (i - h.cells.size) = i := by omega
    rw [hsz]
    by_cases hji : j = i
    · simp [hji]
    · simp only [hji, if_false]
      by_cases hj : j < h.cells.size
      · simp [hj]
      · simp only [hj, if_false]
        rw [Array.getElem?_eq_none (Nat.le_of_not_lt hj)]
        split <;> simp

theorem size_set (h : Heap) (i : Nat) (v : Option Obj) :
    (h.set i v).size = max h.size (i + 1) := by
  unfold Heap.set Heap.size
  by_cases hi : i < h.cells.size
  · simp only [hi, if_true, Array.size_setIfInBounds]; omega
  · simp only [hi, if_false, Array.size_push, Array.size_append, Array.size_replicate]; omega

theorem size_le_size_set (h : Heap) (i : Nat) (v : Option Obj) : h.size ≤ (h.set i v).size := by
  rw [size_set]; omega

@[simp] theorem get_set_self (h : Heap) (i : Nat) (v : Option Obj) : (h.set i v).get i = v := by
  simp [get_set]

theorem get_set_ne (h : Heap) (i j : Nat) (v : Option Obj) (hne : j ≠ i) :
    (h.set i v).get j = h.get j := by
  simp [get_set, hne]

end Heap
namespace Ctx

@[simp] theorem fail_phase (c : Ctx) (f : Fault) : (c.fail f).phase = c.phase := by
  unfold Ctx.fail; cases c.err <;> rfl
@[simp] theorem fail_heap (c : Ctx) (f : Fault) : (c.fail f).heap = c.heap := by
  unfold Ctx.fail; cases c.err <;> rfl
@[simp] theorem fail_pre (c : Ctx) (f : Fault) : (c.fail f).pre = c.pre := by
  unfold Ctx.fail; cases c.err <;> rfl
@[simp] theorem fail_rest (c : Ctx) (f : Fault) : (c.fail f).rest = c.rest := by
  unfold Ctx.fail; cases c.err <;> rfl
@[simp] theorem fail_rnt (c : Ctx) (f : Fault) : (c.fail f).rootNeedsTrace = c.rootNeedsTrace := by
  unfold Ctx.fail; cases c.err <;> rfl
@[simp] theorem fail_gray (c : Ctx) (f : Fault) : (c.fail f).gray = c.gray := by
  unfold Ctx.fail; cases c.err <;> rfl
@[simp] theorem fail_grayAgain (c : Ctx) (f : Fault) : (c.fail f).grayAgain = c.grayAgain := by
  unfold Ctx.fail; cases c.err <;> rfl
@[simp] theorem fail_metrics (c : Ctx) (f : Fault) : (c.fail f).metrics = c.metrics := by
  unfold Ctx.fail; cases c.err <;> rfl
@[simp] theorem fail_log (c : Ctx) (f : Fault) : (c.fail f).log = c.log := by
  unfold Ctx.fail; cases c.err <;> rfl
@[simp] theorem fail_steps (c : Ctx) (f : Fault) : (c.fail f).steps = c.steps := by
  unfold Ctx.fail; cases c.err <;> rfl
@[simp] theorem setObj_get (c : Ctx) (i j : Nat) (o : Obj) :
    (c.setObj i o).heap.get j = if j = i then some o else c.heap.get j := by
  simp [Ctx.setObj, Heap.get_set]
@[simp] theorem setObj_phase (c : Ctx) (i : Nat) (o : Obj) : (c.setObj i o).phase = c.phase := rfl
@[simp] theorem setObj_pre (c : Ctx) (i : Nat) (o : Obj) : (c.setObj i o).pre = c.pre := rfl
@[simp] theorem setObj_rest (c : Ctx) (i : Nat) (o : Obj) : (c.setObj i o).rest = c.rest := rfl
@[simp] theorem setObj_rnt (c : Ctx) (i : Nat) (o : Obj) :
    (c.setObj i o).rootNeedsTrace = c.rootNeedsTrace := rfl
@[simp] theorem setObj_gray (c : Ctx) (i : Nat) (o : Obj) : (c.setObj i o).gray = c.gray := rfl
@[simp] theorem setObj_grayAgain (c : Ctx) (i : Nat) (o : Obj) :
    (c.setObj i o).grayAgain = c.grayAgain := rfl
@[simp] theorem setObj_metrics (c : Ctx) (i : Nat) (o : Obj) : (c.setObj i o).metrics = c.metrics := rfl
@[simp] theorem setObj_log (c : Ctx) (i : Nat) (o : Obj) : (c.setObj i o).log = c.log := rfl
@[simp] theorem setObj_steps (c : Ctx) (i : Nat) (o : Obj) : (c.setObj i o).steps = c.steps := rfl
@[simp] theorem setObj_err (c : Ctx) (i : Nat) (o : Obj) : (c.setObj i o).err = c.err := rfl

@[simp] theorem withMetrics_phase (c : Ctx) (f) : (c.withMetrics f).phase = c.phase := rfl
@[simp] theorem withMetrics_heap (c : Ctx) (f) : (c.withMetrics f).heap = c.heap := rfl
@[simp] theorem withMetrics_pre (c : Ctx) (f) : (c.withMetrics f).pre = c.pre := rfl
@[simp] theorem withMetrics_rest (c : Ctx) (f) : (c.withMetrics f).rest = c.rest := rfl
@[simp] theorem withMetrics_rnt (c : Ctx) (f) : (c.withMetrics f).rootNeedsTrace = c.rootNeedsTrace := rfl
@[simp] theorem withMetrics_gray (c : Ctx) (f) : (c.withMetrics f).gray = c.gray := rfl
@[simp] theorem withMetrics_grayAgain (c : Ctx) (f) : (c.withMetrics f).grayAgain = c.grayAgain := rfl
@[simp] theorem withMetrics_metrics (c : Ctx) (f) : (c.withMetrics f).metrics = f c.metrics := rfl
@[simp] theorem withMetrics_log (c : Ctx) (f) : (c.withMetrics f).log = c.log := rfl
@[simp] theorem withMetrics_steps (c : Ctx) (f) : (c.withMetrics f).steps = c.steps := rfl
@[simp] theorem withMetrics_err (c : Ctx) (f) : (c.withMetrics f).err = c.err := rfl

@[simp] theorem step_phase (c : Ctx) (ch) : (c.step ch).phase = c.phase := rfl
@[simp] theorem step_heap (c : Ctx) (ch) : (c.step ch).heap = c.heap := rfl
@[simp] theorem step_pre (c : Ctx) (ch) : (c.step ch).pre = c.pre := rfl
@[simp] theorem step_rest (c : Ctx) (ch) : (c.step ch).rest = c.rest := rfl
@[simp] theorem step_rnt (c : Ctx) (ch) : (c.step ch).rootNeedsTrace = c.rootNeedsTrace := rfl
@[simp] theorem step_gray (c : Ctx) (ch) : (c.step ch).gray = c.gray := rfl
@[simp] theorem step_grayAgain (c : Ctx) (ch) : (c.step ch).grayAgain = c.grayAgain := rfl
@[simp] theorem step_metrics (c : Ctx) (ch) : (c.step ch).metrics = c.metrics := rfl
@[simp] theorem step_log (c : Ctx) (ch) : (c.step ch).log = c.log := rfl
@[simp] theorem step_err (c : Ctx) (ch) : (c.step ch).err = c.err := rfl

@[simp] theorem emit_phase (c : Ctx) (e) : (c.emit e).phase = c.phase := rfl
@[simp] theorem emit_heap (c : Ctx) (e) : (c.emit e).heap = c.heap := rfl
@[simp] theorem emit_pre (c : Ctx) (e) : (c.emit e).pre = c.pre := rfl
@[simp] theorem emit_rest (c : Ctx) (e) : (c.emit e).rest = c.rest := rfl
@[simp] theorem emit_rnt (c : Ctx) (e) : (c.emit e).rootNeedsTrace = c.rootNeedsTrace := rfl
@[simp] theorem emit_gray (c : Ctx) (e) : (c.emit e).gray = c.gray := rfl
@[simp] theorem emit_grayAgain (c : Ctx) (e) : (c.emit e).grayAgain = c.grayAgain := rfl
@[simp] theorem emit_metrics (c : Ctx) (e) : (c.emit e).metrics = c.metrics := rfl
@[simp] theorem emit_log (c : Ctx) (e) : (c.emit e).log = e :: c.log := rfl
@[simp] theorem emit_steps (c : Ctx) (e) : (c.emit e).steps = c.steps := rfl
@[simp] theorem emit_err (c : Ctx) (e) : (c.emit e).err = c.err := rfl

/-- `trace` touches no object other than its target. -/
theorem trace_frame (c : Ctx) (t j : Nat) (hj : j ≠ t) : (c.trace t).heap.get j = c.heap.get j := by
  unfold Ctx.trace
  split
  · simp
  · split <;> (try rfl)
    split <;> split <;> (try split) <;> simp [hj]

theorem traceWeak_frame (c : Ctx) (t j : Nat) (hj : j ≠ t) :
    (c.traceWeak t).heap.get j = c.heap.get j := by
  unfold Ctx.traceWeak
  split
  · simp
  · split <;> simp [hj]

theorem grayRemaining_eq_false {c : Ctx} :
    c.grayRemaining = false ↔ c.gray = [] ∧ c.grayAgain = [] ∧ c.rootNeedsTrace = false := by
  simp [Ctx.grayRemaining, and_assoc]

end Ctx

theorem isMarked_iff {c : Ctx} :
    Arena.isMarked c = true ↔ c.phase = .mark ∧ c.grayRemaining = false := by
  simp [Arena.isMarked]

end GcArena
