import GcArena.Proofs.Transitions
/-!
  "A `MarkedArena` is outstanding ⇒ the arena is fully marked": the model's `marked` flag (the
  previous op handed out a `MarkedArena` that the client kept for `finalize`) is set only by the
  tail of `mark_debt` / `finish_marking` when `phase == Mark && !gray_remaining()`, and every
  operation other than the pacing / debt knobs resets it.  `Inv.markedMark` (Spec/Inv.lean) records `phase = mark ∧ cb = none`; this is
  the stronger fact, as a theorem about every run, without changing the invariant.
-/
namespace GcArena

/-- After any op on an arena whose flag was reset (as `Arena.step` does first): flag set ⇒ fully
    marked.  Only two things set it: a collection call whose `MarkedArena` the client keeps for
    `finalize`, and the pacing / debt knobs (usable through a cloned `Metrics` handle while a
    `MarkedArena` is held), which keep it and touch the metrics only. -/
theorem stepBody_marked_flag (b : Arena) (fin : Bool) (op : Op) (hb : b.marked = false)
    (hfin : fin = true → Arena.isMarked b.ctx = true)
    (hm : (b.stepBody fin op).1.marked = true) : Arena.isMarked (b.stepBody fin op).1.ctx = true := by
  have no : ∀ {x : Bool}, x = true → x = b.marked → Arena.isMarked (b.stepBody fin op).1.ctx = true :=
    fun h e => absurd ((h.symm.trans e).trans hb) (by simp)
  cases hop : op.isMutator with
  | true =>
    have st := stepBody_mutStep b fin op hop
    generalize (b.stepBody fin op).1 = b', (b.stepBody fin op).2 = out at st hm no ⊢
    cases st with
    | setPacing | adjustDebt => exact hfin hm
    | alloc | hold | upgradeSome | resurrect => exact no hm (Arena.push_marked _ _)
    | _ => exact no hm rfl
  | false =>
    cases op with
    | collect m k f o =>
      have st := stepBody_collectStep b fin m k f o
      generalize (b.stepBody fin (.collect m k f o)).1 = b' at st hm no ⊢
      cases st with
      | kept c hcb hr hm' hmk hk => exact hmk
      | _ => exact no hm rfl
    | dropArena =>
      simp only [Arena.stepBody, Arena.bad] at hm
      split at hm <;> exact no hm rfl
    | _ => cases hop

/-- **A `MarkedArena` outstanding ⇒ the arena is fully marked**, in every state of every history. -/
theorem marked_flag_run (n : Nat) (ops : List Op) :
    ((Arena.new n).run ops).marked = true → Arena.isMarked ((Arena.new n).run ops).ctx = true := by
  have key : ∀ (ops : List Op) (a : Arena), (a.marked = true → Arena.isMarked a.ctx = true) →
      (a.run ops).marked = true → Arena.isMarked (a.run ops).ctx = true := by
    intro ops
    induction ops with
    | nil => intro a h; exact h
    | cons op ops ih =>
      intro a h
      simp only [Arena.run]
      apply ih
      cases hal : a.alive with
      | false => rw [step_dead hal]; exact h
      | true =>
        rw [step_eq hal]
        exact stepBody_marked_flag ({ a with marked := false } : Arena) a.marked op rfl h
  exact key ops _ (fun h => by simp [Arena.new] at h)

end GcArena
