import GcArena.Proofs.Release
/-!
  Shell release under a *per-state* premise.

  `WeakHeldA a i`: a `GcWeak` to `i` is stored in the root, held by the running callback, or stored
  in an object the client can reach through `Gc` pointers from the root or from what the callback
  holds — "a reachable weak pointer refers to `i`", in the state `a`.

  If from the start of a cycle to its completion no state at an operation boundary has
  `WeakHeldA … i`, the shell `i` is released by the sweep of that cycle — whatever callbacks and
  collection calls are interleaved.  (Proofs/Release.lean has the version with a premise on the
  first state only, which must then be stronger: `¬ Nameable`.)
-/
namespace GcArena

def Obj.marked (o : Obj) : Prop := o.color = .gray ∨ o.color = .black

/-- Every object gray or black in `c'` satisfies `S`, or was gray or black in `c` already. -/
def NewMarks (S : Nat → Prop) (c c' : Ctx) : Prop :=
  ∀ j o', c'.heap.get j = some o' → o'.marked → S j ∨ ∃ o, c.heap.get j = some o ∧ o.marked

theorem NewMarks.ofHeap {S} {c c' : Ctx} (h : ∀ j, c'.heap.get j = c.heap.get j) : NewMarks S c c' :=
  fun j o' ho' hm => .inr ⟨o', by rw [← h]; exact ho', hm⟩

theorem NewMarks.refl {S} (c : Ctx) : NewMarks S c c := .ofHeap (fun _ => rfl)

theorem NewMarks.trans {S} {a b c : Ctx} (h1 : NewMarks S a b) (h2 : NewMarks S b c) : NewMarks S a c :=
  fun j o2 ho2 hm => (h2 j o2 ho2 hm).elim .inl (fun ⟨o1, ho1, hm1⟩ => h1 j o1 ho1 hm1)

theorem NewMarks.mono {S S' : Nat → Prop} {c c' : Ctx} (h : NewMarks S c c') (hS : ∀ j, S j → S' j) :
    NewMarks S' c c' :=
  fun j o' ho' hm => (h j o' ho' hm).imp (hS j) id

theorem Recol.newMarks {T} {c c' : Ctx} (r : Recol T c c') : NewMarks T c c' := by
  intro j o' ho' hm
  obtain ⟨o, ho⟩ := r.noNew j o' ho'
  obtain ⟨o2, ho2, _, _, _, _, u⟩ := r.keep j o ho
  rw [ho'] at ho2; cases ho2
  by_cases hT : T j
  · exact .inl hT
  · exact .inr ⟨o, ho, u hT ▸ hm⟩

/-- `trace_weak` colours white-weak at most: it marks nothing. -/
theorem newMarks_traceWeak {S} (c : Ctx) (t : Nat) : NewMarks S c (c.traceWeak t) := by
  intro j o' ho' hm
  by_cases hj : j = t
  · subst hj
    rcases traceWeak_self c j o' ho' with h | h
    · exact .inr ⟨o', h, hm⟩
    · exact (Color.dead_not_marked (.inr h) hm).elim
  · exact .inr ⟨o', by rw [← Ctx.traceWeak_frame c t j hj]; exact ho', hm⟩

theorem newMarks_forwardBarrierWeak {S} (c : Ctx) (p : Option Nat) (ch : Nat) :
    NewMarks S c (c.forwardBarrierWeak p ch) := by
  unfold Ctx.forwardBarrierWeak
  split
  · split
    · exact newMarks_traceWeak _ _
    · split
      · exact (touch_fail _ _).newMarks
      · split
        · exact newMarks_traceWeak _ _
        · exact .refl _
  · exact .refl _

theorem newMarks_setSlot {S} (c : Ctx) (p i : Nat) (v : Slot) : NewMarks S c (Arena.setSlot c p i v) := by
  unfold Arena.setSlot
  split
  · exact (touch_fail _ _).newMarks
  · rename_i op hp
    intro j o' ho' hm
    rw [Ctx.setObj_get] at ho'
    split at ho'
    · rename_i hj
      cases ho'
      exact .inr ⟨op, hj ▸ hp, hm⟩
    · exact .inr ⟨o', ho', hm⟩

theorem newMarks_link {S} (c : Ctx) (o : Obj) (hw : o.color = .white) : NewMarks S c (c.link o).1 := by
  intro j o' ho' hm
  simp only [Ctx.link, Heap.get_set] at ho'
  split at ho'
  · cases ho'
    exact (Color.dead_not_marked (.inl hw) hm).elim
  · exact .inr ⟨o', ho', hm⟩

/-- A store is a slot update with, on the barriered paths, a backward barrier on the parent before
    or after it. -/
theorem StorePath.apply_rel {R : Ctx → Ctx → Prop} {p i : Nat} {v : Slot}
    (trans : ∀ {x y z}, R x y → R y z → R x z) (bb : ∀ c : Ctx, R c (c.backwardBarrier p none))
    (set : ∀ c, R c (Arena.setSlot c p i v)) (path : StorePath) (c : Ctx) : R c (path.apply c p i v) := by
  cases path with
  | write => exact trans (bb c) (set _)
  | raw => exact set c
  | storeThenBarrier => exact trans (set c) (bb _)

theorem Touch.newMarksAt {c c' : Ctx} {t : Nat} {ts : List Ptr} (tc : Touch (Eq t) c c')
    (ht : Ptr.strong t ∈ ts) : NewMarks (fun j => Ptr.strong j ∈ ts) c c' :=
  tc.toRecol.newMarks.mono (fun _ hj => hj ▸ ht)

theorem newMarks_barrier {ts : List Ptr} (c : Ctx) (b : BarrierOp) (hb : ∀ p, p ∈ b.operands → p ∈ ts) :
    NewMarks (fun j => Ptr.strong j ∈ ts) c (b.apply c) := by
  have ht := hb _ b.target_mem
  cases b with
  | bb p ch => exact (touch_backwardBarrier c p ch rfl).newMarksAt ht
  | bbw p ch => exact (touch_backwardBarrierWeak c p ch rfl).newMarksAt ht
  | fb p ch => exact (touch_forwardBarrier c p ch rfl).newMarksAt ht
  | fbw p ch => exact newMarks_forwardBarrierWeak c p ch

/-- The only objects a mutator operation turns gray or black are targets of `Gc` pointers the
    callback holds afterwards: the parent of a backward barrier or store, the child of a forward
    barrier, the resurrected object. -/
theorem MutStep.newMarks {a a' : Arena} {fin : Bool} {op : Op} {out : String}
    (st : MutStep a fin op a' out) :
    NewMarks (fun j => Ptr.strong j ∈ a'.temps) a.ctx a'.ctx := by
  have none_ : ∀ {c c' : Ctx} {ts : List Ptr}, Touch (fun _ => False) c c' →
      NewMarks (fun j => Ptr.strong j ∈ ts) c c' :=
    fun tc => tc.toRecol.newMarks.mono (fun _ hj => hj.elim)
  cases st with
  | same | enter | leave | rootStore => exact .refl _
  | hold => simp only [Arena.push_ctx]; exact .refl _
  | setPacing | adjustDebt => exact .ofHeap (fun _ => rfl)
  | enterRoot => exact .ofHeap (fun _ => by unfold Ctx.rootBarrier; split <;> rfl)
  | alloc => simp only [Arena.push_ctx]; exact newMarks_link _ _ rfl
  | upgradeSome | upgradeNone => simp only [Arena.push_ctx]; exact none_ (touch_upgrade _ _)
  | dangling => exact none_ (touch_fail _ _)
  | resurrect p =>
    simp only [Arena.push_ctx]
    exact (touch_resurrect _ _ rfl).newMarksAt ((Arena.mem_push _ _).mpr (.inl rfl))
  | barrier b _ hb => exact newMarks_barrier _ b hb
  | store path p i v _ hp =>
    exact StorePath.apply_rel (R := NewMarks (fun j => Ptr.strong j ∈ a.temps)) NewMarks.trans
      (fun c => (touch_backwardBarrier c p none rfl).newMarksAt hp) (fun c => newMarks_setSlot c p i v) path _

/-- A store that changes the heap was accepted: the callback still holds the `Gc` pointer to the
    object stored into. -/
theorem MutStep.store_held {a a' : Arena} {fin : Bool} {path : StorePath} {p i : Nat} {v : Slot}
    {out : String} (st : MutStep a fin (.store path p i v) a' out) :
    (∀ j, a'.ctx.heap.get j = a.ctx.heap.get j) ∨ Ptr.strong p ∈ a'.temps := by
  cases st with
  | same => exact .inl fun _ => rfl
  | hold => exact .inl fun _ => by rw [Arena.push_ctx]
  | dangling => exact .inl fun _ => by rw [Ctx.fail_heap]
  | store _ _ _ _ _ hp => exact .inr hp

/-- Strongly reachable from the root, from a `Gc` the callback holds, or from an object that is
    already gray or black: the objects the marker may still trace in this cycle. -/
inductive MarkReach (c : Ctx) (root : List Slot) (temps : List Ptr) : Nat → Prop
  | root (t : Nat) : some (Ptr.strong t) ∈ root → MarkReach c root temps t
  | temp (t : Nat) : Ptr.strong t ∈ temps → MarkReach c root temps t
  | marked (j : Nat) (o : Obj) : c.heap.get j = some o → o.marked → MarkReach c root temps j
  | edge (j : Nat) (o : Obj) (t : Nat) : MarkReach c root temps j → c.heap.get j = some o →
      some (Ptr.strong t) ∈ o.slots → MarkReach c root temps t

/-- `Exposed` (Proofs/Release) along `Gc` pointers only. -/
theorem markReach_iff_exposed {c : Ctx} {root temps} {t : Nat} :
    MarkReach c root temps t ↔ Exposed Ptr.IsGc c root temps t := by
  constructor
  · intro h
    induction h with
    | root t ht => exact .root (.strong t) trivial ht
    | temp t ht => exact .temp (.strong t) trivial ht
    | marked j o ho hm => exact .marked j o ho hm
    | edge j o t _ ho hs ih => exact .edge j o (.strong t) trivial ih ho hs
  · intro h
    induction h with
    | root p hk hp => rw [hk.eq] at hp; exact .root _ hp
    | temp p hk hp => rw [hk.eq] at hp; exact .temp _ hp
    | marked j o ho hm => exact .marked j o ho hm
    | edge j o p hk _ ho hs ih => rw [hk.eq] at hs; exact .edge j o _ ih ho hs

/-- A reachable weak pointer refers to `i`: in the root, held by the running callback, or stored in
    an object accessible through `Gc` pointers from those. -/
def WeakHeldA (a : Arena) (i : Nat) : Prop :=
  some (Ptr.weak i) ∈ a.root ∨ Ptr.weak i ∈ a.temps ∨
    ∃ j oj, Accessible a j ∧ a.ctx.heap.get j = some oj ∧ some (Ptr.weak i) ∈ oj.slots

/-- Outside callbacks this is `WeakHeld` (Proofs/Stable). -/
theorem weakHeldA_iff {a : Arena} (ht : a.temps = []) (i : Nat) :
    WeakHeldA a i ↔ WeakHeld a.ctx a.root i := by
  unfold WeakHeldA WeakHeld Accessible
  rw [ht]
  exact or_congr_right ⟨fun h => h.resolve_left List.not_mem_nil, .inr⟩

theorem markReach_safe {c : Ctx} {root temps hole} (h : CInvH c root temps hole) {j : Nat}
    (hj : MarkReach c root temps j) : Safe c j := by
  induction hj with
  | root t ht => exact h.rootOK _ ht
  | temp t ht => exact h.tempsOK _ ht
  | marked j o ho hm =>
    refine ⟨o, ho, h.markedLive j o ho hm, fun hp _ => ?_⟩
    rcases hm with hg | hb
    · have := h.grayQ j o ho hg
      have hq := h.qMark (by rw [hp]; simp)
      rw [hq.1, hq.2] at this; simp at this
    · exact hb
  | edge j o t _ ho hs ih => exact h.closed j o ho ih _ hs

theorem markReach_of_accessible {c : Ctx} {root temps} {j : Nat} (h : AccessibleC c root temps j) :
    MarkReach c root temps j :=
  h.closed .root .temp (fun i o t ih ho hs => .edge i o t ih ho hs)

theorem accessible_of_markReach {c : Ctx} {root temps}
    (hw : ∀ j o, c.heap.get j = some o → ¬ o.marked) {j : Nat} (h : MarkReach c root temps j) :
    AccessibleC c root temps j := by
  induction h with
  | root t ht => exact .root t ht
  | temp t ht => exact .temp t ht
  | marked j o ho hm => exact absurd hm (hw j o ho)
  | edge j o t _ ho hs ih => exact .edge j t ih ⟨o, ho, hs⟩

theorem eq_weak_of_ptrOK {c : Ctx} {i : Nat} {o : Obj} (ho : c.heap.get i = some o) (hdead : o.live = false)
    {p : Ptr} (hpt : p.target = i) (hok : PtrOK c p) : p = .weak i := by
  cases p with
  | weak t => exact congrArg _ hpt
  | strong t =>
    obtain ⟨o2, ho2, hl2, _⟩ := hok
    rw [show t = i from hpt, ho] at ho2; cases ho2
    rw [hdead] at hl2; cases hl2

/-- A mutator operation keeps the shell `i` doomed along `Gc` pointers (white, destructed, no pointer
    to it where marking could find it, while sweeping still ahead of the cursor), given the premise
    in the state it leads to. -/
theorem step_cond {a : Arena} (h : Inv a) (op : Op) (hop : op.isMutator = true)
    (hal : (a.step op).1.alive = true) {i : Nat} {o : Obj} (hdead : o.live = false)
    (hP : ¬ WeakHeldA (a.step op).1 i) (d : Doomed Ptr.IsGc a.ctx a.root a.temps i o) :
    Doomed Ptr.IsGc (a.step op).1.ctx (a.step op).1.root (a.step op).1.temps i o := by
  have h' : Inv (a.step op).1 := inv_step h op hal
  have m := step_mutFacts h op hop
  have nm := (step_mutStep h.alive hop).newMarks
  have hph : (a.step op).1.ctx.phase = a.ctx.phase := (step_quiet h op hop).phase
  obtain ⟨ho, hw, hne, hsw⟩ := d
  have hnh : ¬ Held a i := fun ⟨q, hq, hqt⟩ => hne ⟨q, hqt, .inr (.inl hq)⟩
  obtain ⟨o', ho', _, _, _, _, hu, _⟩ := m.keep i o ho
  have ho'' : (a.step op).1.ctx.heap.get i = some o := hu hnh ▸ ho'
  -- slots of an object that existed before: unchanged, or it was stored into and is held
  have slotsOf : ∀ j oj oj', a.ctx.heap.get j = some oj → (a.step op).1.ctx.heap.get j = some oj' →
      oj'.slots = oj.slots ∨ Ptr.strong j ∈ (a.step op).1.temps := by
    intro j oj oj' hoj hoj'
    obtain ⟨o2, ho2, _, _, _, _, _, sl⟩ := m.keep j oj hoj
    rw [hoj'] at ho2; cases ho2
    rcases sl with sl | ⟨idx, v, ⟨path, hopw⟩, sl, _⟩
    · exact Or.inl sl
    · subst hopw
      rcases (step_mutStep h.alive rfl).store_held with hc | hp
      · left
        rw [hc, hoj] at hoj'; cases hoj'; rfl
      · exact Or.inr hp
  -- what marking can reach afterwards was within reach before, or is accessible now
  have claim : ∀ j, MarkReach (a.step op).1.ctx (a.step op).1.root (a.step op).1.temps j →
      Accessible (a.step op).1 j ∨ MarkReach a.ctx a.root a.temps j := by
    intro j hj
    induction hj with
    | root t ht => exact Or.inl (.root t ht)
    | temp t ht => exact Or.inl (.temp t ht)
    | marked j oj' hoj' hmk =>
      rcases nm j oj' hoj' hmk with hk | ⟨oj, hoj, hk⟩
      · exact Or.inl (.temp j hk)
      · exact Or.inr (.marked j oj hoj hk)
    | edge j oj' t _ hoj' hsl ih =>
      rcases ih with ih | ih
      · exact Or.inl (.edge j t ih ⟨oj', hoj', hsl⟩)
      · obtain ⟨oj, hoj, _⟩ := markReach_safe h.cinv ih
        rcases slotsOf j oj oj' hoj hoj' with sl | hheld
        · rw [sl] at hsl
          exact Or.inr (.edge j oj t ih hoj hsl)
        · exact Or.inl (.edge j t (.temp j hheld) ⟨oj', hoj', hsl⟩)
  refine ⟨ho'', hw, ?_, fun hp => by rw [m.rest]; exact hsw (hph ▸ hp)⟩
  rintro ⟨p, hpt, hp⟩
  -- a pointer to the shell in a place the invariant covers is weak, which the premise excludes
  have weak := fun hok => eq_weak_of_ptrOK ho'' hdead hpt hok
  rcases hp with hp | hp | ⟨j, oj', hj, hoj', hsl⟩
  · exact hP (.inl (weak (h'.cinv.rootOK p hp) ▸ hp))
  · exact hP (.inr (.inl (weak (h'.cinv.tempsOK p hp) ▸ hp)))
  · have viaAcc : Accessible (a.step op).1 j → False := fun hacc =>
      hP (.inr (.inr ⟨j, oj', hacc, hoj',
        weak (h'.cinv.closed j oj' hoj' (h'.safe_of_accessible hacc) p hsl) ▸ hsl⟩))
    rcases claim j (markReach_iff_exposed.mpr hj) with hacc | hold
    · exact viaAcc hacc
    · obtain ⟨oj, hoj, _⟩ := markReach_safe h.cinv hold
      rcases slotsOf j oj oj' hoj hoj' with sl | hheld
      · rw [sl] at hsl
        exact hne ⟨p, hpt, .inr (.inr ⟨j, oj, markReach_iff_exposed.mp hold, hoj, hsl⟩)⟩
      · exact viaAcc (.temp j hheld)

theorem cond_of_asleep {a : Arena} (h : Inv a) (hsl : a.ctx.phase = .sleep) {i : Nat} {o : Obj}
    (ho : a.ctx.heap.get i = some o) (hdead : o.live = false) (hP : ¬ WeakHeldA a i) :
    Doomed Ptr.IsGc a.ctx a.root a.temps i o := by
  have hw := h.cinv.sleepWhite hsl
  refine ⟨ho, hw i o ho, ?_, fun hp => by rw [hsl] at hp; cases hp⟩
  have nomark : ∀ j oj, a.ctx.heap.get j = some oj → ¬ oj.marked := by
    intro j oj hoj hm
    exact Color.dead_not_marked (.inl (hw j oj hoj)) hm
  rintro ⟨p, hpt, hp⟩
  have weak := fun hok => eq_weak_of_ptrOK ho hdead hpt hok
  rcases hp with hp | hp | ⟨j, oj, hj, hoj, hsl'⟩
  · exact hP (.inl (weak (h.cinv.rootOK p hp) ▸ hp))
  · exact hP (.inr (.inl (weak (h.cinv.tempsOK p hp) ▸ hp)))
  · have hacc : Accessible a j := accessible_of_markReach nomark (markReach_iff_exposed.mpr hj)
    exact hP (.inr (.inr ⟨j, oj, hacc, hoj,
      weak (h.cinv.closed j oj hoj (h.safe_of_accessible hacc) p hsl') ▸ hsl'⟩))

theorem run_cond (i : Nat) (o : Obj) (hdead : o.live = false) (ops : List Op) : ∀ (a : Arena), Inv a →
    (a.run ops).alive = true → (∀ k, k ≤ ops.length → ¬ WeakHeldA (a.run (ops.take k)) i) →
    FateRel Ptr.IsGc i o a (a.run ops) := by
  induction ops with
  | nil => intro a _ _ _; exact .refl
  | cons op ops ih =>
    intro a h hal hP
    have hal1 := alive_of_run_alive hal
    have hP1 : ¬ WeakHeldA (a.step op).1 i := hP 1 (Nat.succ_le_succ (Nat.zero_le _))
    refine Fate.trans ?_ (ih _ (inv_step h op hal1) hal (fun k hk => hP (k + 1) (Nat.succ_le_succ hk)))
    rcases step_kind h op hal1 with hop | rel
    · exact fateRel_of_mutator h hop (step_cond h op hop hal1 hdead hP1)
    · exact rel.fateRel (fun _ => trivial) h i o

theorem shell_released_run {a : Arena} (hinv : Inv a) (hsl : a.ctx.phase = .sleep) (i : Nat) (o : Obj)
    (ho : a.ctx.heap.get i = some o) (hdead : o.live = false) (ops : List Op)
    (hP : ∀ k, k ≤ ops.length → ¬ WeakHeldA (a.run (ops.take k)) i)
    (halive : (a.run ops).alive = true) (hz : zc a.ctx < zc (a.run ops).ctx) :
    (a.run ops).ctx.heap.get i = none ∧ Event.freed i ∈ (a.run ops).ctx.log := by
  have d := cond_of_asleep hinv hsl ho hdead (hP 0 (Nat.zero_le _))
  rcases (run_cond i o hdead ops a hinv halive hP).fate d with r | ⟨he, _⟩
  · exact ⟨r.1, r.2.2⟩
  · omega

/-- A checkable sufficient condition for `¬ WeakHeldA`: no `GcWeak` to `i` exists anywhere — not in
    the root, not held by the callback, in no slot of any allocated object. -/
def Arena.noWeakTo (b : Arena) (i : Nat) : Bool :=
  !b.root.contains (some (Ptr.weak i)) && !b.temps.contains (Ptr.weak i) &&
    (List.range b.ctx.heap.size).all (fun j =>
      match b.ctx.heap.get j with
      | some o => !o.slots.contains (some (Ptr.weak i))
      | none => true)

theorem not_weakHeldA_of_noWeakTo {b : Arena} {i : Nat} (h : b.noWeakTo i = true) : ¬ WeakHeldA b i := by
  simp only [Arena.noWeakTo, Bool.and_eq_true, Bool.not_eq_true', List.all_eq_true, List.mem_range] at h
  obtain ⟨⟨h1, h2⟩, h3⟩ := h
  rintro (hw | hw | ⟨j, oj, _, hoj, hs⟩)
  · have : b.root.contains (some (Ptr.weak i)) = true := List.contains_iff_mem.mpr hw
    rw [h1] at this; cases this
  · have : b.temps.contains (Ptr.weak i) = true := List.contains_iff_mem.mpr hw
    rw [h2] at this; cases this
  · have := h3 j (Heap.lt_size_of_get _ _ _ hoj)
    rw [hoj] at this
    simp only [Bool.not_eq_true'] at this
    have hc : oj.slots.contains (some (Ptr.weak i)) = true := List.contains_iff_mem.mpr hs
    rw [this] at hc; cases hc

/-- `chk` holds of every state along the history, the first and the last included: the per-state
    premise of `shell_released_run` on a concrete history, checked in one pass. -/
def Arena.allAlong (chk : Arena → Bool) : Arena → List Op → Bool
  | a, [] => chk a
  | a, op :: ops => chk a && allAlong chk (a.step op).1 ops

theorem Arena.allAlong_take {chk : Arena → Bool} : ∀ {a : Arena} {ops : List Op},
    Arena.allAlong chk a ops = true → ∀ k, k ≤ ops.length → chk (a.run (ops.take k)) = true
  | _, [], h, k, hk => by rw [Nat.le_zero.mp hk]; exact h
  | _, _ :: _, h, 0, _ => (Bool.and_eq_true _ _ ▸ h).1
  | _, _ :: _, h, k + 1, hk =>
    allAlong_take (Bool.and_eq_true _ _ ▸ h).2 k (Nat.le_of_succ_le_succ hk)

end GcArena
