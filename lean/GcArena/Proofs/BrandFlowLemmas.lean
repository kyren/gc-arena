import GcArena.Model.BrandFlow
/-!
# BrandFlow lemmas — no brand is ever chosen by the caller

For every table satisfying `Table.ok` (whatever its entries are): in every reachable state of the
calculus of `GcArena.Model.BrandFlow` every held brand is the brand of a callback that is currently
executing, and every call produces only brands of values it consumed.
-/
namespace GcArena.BrandFlow

theorem Table.sig_ok {T : Table} (h : T.ok = true) {s : Sig} (hs : s ∈ T.sigs) : s.ok = true := by
  simp only [Table.ok, Bool.and_eq_true, List.all_eq_true] at h
  exact h.2 s hs

theorem Sig.out_mem_in {s : Sig} (hok : s.ok = true) (hc : s.callable = true) {l : String}
    (hl : l ∈ s.outBrands) : l ∈ s.inBrands := by
  simp only [Sig.ok, hc, Bool.not_true, Bool.false_or, Sig.flowOk, Bool.and_eq_true,
    List.all_eq_true] at hok
  simpa using hok.1.1 l hl

theorem Sig.single {s : Sig} (hok : s.ok = true) (hc : s.callable = true) {l l' : String}
    (hl : l ∈ s.brands) (hl' : l' ∈ s.brands) : l = l' := by
  simp only [Sig.ok, hc, Bool.not_true, Bool.false_or, Sig.flowOk, Bool.and_eq_true,
    Sig.singleBrand, List.all_eq_true] at hok
  simpa using hok.2 l hl l' hl'

theorem Sig.outHeld_mem_in {s : Sig} (hok : s.ok = true) (hc : s.callable = true) {l : String}
    (hl : l ∈ s.outHeld) : l ∈ s.inBrands := by
  rcases List.mem_append.mp hl with h | h
  · exact Sig.out_mem_in hok hc h
  · have hb : l ∈ s.brands := by simpa using (List.mem_filter.mp h).2
    exact (List.mem_append.mp hb).elim id (Sig.out_mem_in hok hc)

theorem call_single_arena {s : Sig} (hok : s.ok = true) (hc : s.callable = true) (σ : Subst)
    {b b' : Brand} (hb : b ∈ s.brands.map σ) (hb' : b' ∈ s.brands.map σ) : b = b' := by
  obtain ⟨l, hl, rfl⟩ := List.mem_map.mp hb
  obtain ⟨l', hl', rfl⟩ := List.mem_map.mp hb'
  rw [Sig.single hok hc hl hl']

structure Inv (st : State) : Prop where
  held_active : ∀ b ∈ st.held, b ∈ st.active
  active_opened : ∀ b ∈ st.active, b ∈ st.opened
  nodup : st.active.Nodup

theorem inv_init : Inv State.init where
  held_active := fun _ hb => nomatch hb
  active_opened := fun _ hb => nomatch hb
  nodup := List.nodup_nil

theorem step_inv {T : Table} (hok : T.ok = true) {st st' : State} (hi : Inv st)
    (hs : Step T st st') : Inv st' := by
  cases hs with
  | enter b fresh =>
    exact ⟨fun x hx => List.mem_cons.mpr ((List.mem_cons.mp hx).imp_right (hi.held_active x)),
      fun x hx => List.mem_cons.mpr ((List.mem_cons.mp hx).imp_right (hi.active_opened x)),
      List.nodup_cons.mpr ⟨fun h => fresh (hi.active_opened b h), hi.nodup⟩⟩
  | exit b rest top =>
    refine ⟨?_, ?_, ?_⟩
    · intro x hx
      have hx' := List.mem_filter.mp hx
      have hne : x ≠ b := by simpa using hx'.2
      have := hi.held_active x hx'.1
      rw [top] at this
      rcases List.mem_cons.mp this with h | h
      · exact absurd h hne
      · exact h
    · intro x hx
      apply hi.active_opened
      rw [top]
      exact List.mem_cons_of_mem _ hx
    · have := hi.nodup
      rw [top] at this
      exact (List.nodup_cons.mp this).2
  | call s σ mem callable inputs =>
    refine ⟨?_, hi.active_opened, hi.nodup⟩
    intro x hx
    rcases List.mem_append.mp hx with h | h
    · obtain ⟨l, hl, rfl⟩ := List.mem_map.mp h
      exact hi.held_active _ (inputs l (Sig.outHeld_mem_in (Table.sig_ok hok mem) callable hl))
    · exact hi.held_active x h
  | forget held' sub =>
    exact ⟨fun x hx => hi.held_active x (sub x hx), hi.active_opened, hi.nodup⟩

theorem reachable_inv {T : Table} (hok : T.ok = true) {st : State} (hr : Reachable T st) : Inv st := by
  induction hr with
  | init => exact inv_init
  | step _ hs ih => exact step_inv hok ih hs

theorem exit_kills_brand {T : Table} (hok : T.ok = true) {st : State} (hr : Reachable T st)
    (b : Brand) (rest : List Brand) (top : st.active = b :: rest) :
    b ∉ rest ∧ b ∉ st.held.filter (· != b) ∧ b ∈ st.opened := by
  have hi := reachable_inv hok hr
  have hn := hi.nodup
  rw [top] at hn
  refine ⟨(List.nodup_cons.mp hn).1, ?_, hi.active_opened b (by rw [top]; exact List.mem_cons_self ..)⟩
  intro h
  have := (List.mem_filter.mp h).2
  simp at this

inductive Steps (T : Table) : State → State → Prop where
  | refl (st : State) : Steps T st st
  | tail {st st' st'' : State} : Steps T st st' → Step T st' st'' → Steps T st st''

theorem reachable_steps {T : Table} {st st' : State} (hr : Reachable T st) (hs : Steps T st st') :
    Reachable T st' := by
  induction hs with
  | refl => exact hr
  | tail _ h ih => exact .step ih h

/-- A brand that was opened and is no longer active stays that way: it can never be re-entered
(`enter` needs a brand that was never opened), `opened` only grows and only `enter` extends
`active`. -/
theorem step_dead {T : Table} {st st' : State} {b : Brand} (ho : b ∈ st.opened) (hna : b ∉ st.active)
    (hs : Step T st st') : b ∈ st'.opened ∧ b ∉ st'.active := by
  cases hs with
  | enter b' fresh =>
    refine ⟨List.mem_cons_of_mem _ ho, ?_⟩
    intro h
    rcases List.mem_cons.mp h with rfl | h
    · exact fresh ho
    · exact hna h
  | exit b' rest top =>
    refine ⟨ho, ?_⟩
    intro h
    exact hna (by rw [top]; exact List.mem_cons_of_mem _ h)
  | call s σ mem callable inputs => exact ⟨ho, hna⟩
  | forget held' sub => exact ⟨ho, hna⟩

theorem steps_dead {T : Table} {st st' : State} {b : Brand} (ho : b ∈ st.opened) (hna : b ∉ st.active)
    (hs : Steps T st st') : b ∈ st'.opened ∧ b ∉ st'.active := by
  induction hs with
  | refl => exact ⟨ho, hna⟩
  | tail _ h ih => exact step_dead ih.1 ih.2 h

/-- In every reachable state: (1) what the program holds has the brand of an executing callback;
(2) once the innermost callback has returned, its brand is neither held nor active in any later
state; (3) every possible call involves one brand only, that of an executing callback; (4) whatever
a call hands out (`Sig.outHeld`: pointers and references alike) has the brand of a held input. -/
theorem no_escape_of_table_ok {T : Table} (hok : T.ok = true) {st : State} (hr : Reachable T st) :
    (∀ b ∈ st.held, b ∈ st.active ∧ b ∈ st.opened) ∧
    (∀ (b : Brand) (rest : List Brand), st.active = b :: rest →
      ∀ st', Steps T { st with active := rest, held := st.held.filter (· != b) } st' →
        b ∉ st'.held ∧ b ∉ st'.active) ∧
    (∀ (s : Sig) (σ : Subst), s ∈ T.sigs → s.callable = true → (∀ l ∈ s.inBrands, σ l ∈ st.held) →
      ∀ b ∈ s.brands.map σ, b ∈ st.active ∧ ∀ b' ∈ s.brands.map σ, b' = b) ∧
    (∀ (s : Sig) (σ : Subst), s ∈ T.sigs → s.callable = true → (∀ l ∈ s.inBrands, σ l ∈ st.held) →
      ∀ b ∈ s.outHeld.map σ, ∃ l ∈ s.inBrands, σ l = b ∧ b ∈ st.held) := by
  have hi := reachable_inv hok hr
  refine ⟨fun b hb => ⟨hi.held_active b hb, hi.active_opened b (hi.held_active b hb)⟩, ?_, ?_, ?_⟩
  · intro b rest top st' hs
    have hex : Step T st { st with active := rest, held := st.held.filter (· != b) } :=
      .exit st b rest top
    have hk := exit_kills_brand hok hr b rest top
    have hd := steps_dead (T := T) (st := { st with active := rest, held := st.held.filter (· != b) })
      (b := b) hk.2.2 hk.1 hs
    have hi' := reachable_inv hok (reachable_steps (.step hr hex) hs)
    exact ⟨fun h => hd.2 (hi'.held_active b h), hd.2⟩
  · intro s σ mem hc inputs b hb
    have hs := Table.sig_ok hok mem
    have hact : b ∈ st.active := by
      obtain ⟨l, hl, rfl⟩ := List.mem_map.mp hb
      have hin : l ∈ s.inBrands := (List.mem_append.mp hl).elim id (Sig.out_mem_in hs hc)
      exact hi.held_active _ (inputs l hin)
    exact ⟨hact, fun b' hb' => call_single_arena hs hc σ hb' hb⟩
  · intro s σ mem hc inputs b hb
    obtain ⟨l, hl, rfl⟩ := List.mem_map.mp hb
    have hl := Sig.outHeld_mem_in (Table.sig_ok hok mem) hc hl
    exact ⟨l, hl, rfl, inputs l hl⟩

/-- Why `Table.ok` is needed: one callable entry whose result brand `w` is not the brand `g` of its
input suffices for the program to hold a brand (0) that no callback introduced, and to keep it after
the only callback has returned.  (Enter with brand 1, call at `g ↦ 1`, `w ↦ 0`, leave.) -/
theorem escape_of_foreign_out {T : Table} {sg : Sig} {g w : String} (hs : sg ∈ T.sigs)
    (hc : sg.callable = true) (hin : sg.inBrands = [g]) (hout : sg.outHeld = [w]) (hne : w ≠ g) :
    ∃ st, Reachable T st ∧ 0 ∈ st.held ∧ 0 ∉ st.opened ∧ st.active = [] := by
  have h1 : Reachable T { opened := [1], active := [1], held := [1] } :=
    .step .init (.enter State.init 1 (by simp [State.init]))
  have h2 : Reachable T { opened := [1], active := [1], held := [0, 1] } := by
    have := Reachable.step h1 (.call _ sg (fun l => if l = g then 1 else 0) hs hc (by simp [hin]))
    simpa [hout, hne] using this
  have h3 : Reachable T { opened := [1], active := [], held := [0] } :=
    .step h2 (.exit _ 1 [] rfl)
  exact ⟨_, h3, by decide, by decide, rfl⟩

end GcArena.BrandFlow
