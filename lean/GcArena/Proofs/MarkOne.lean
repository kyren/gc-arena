import GcArena.Proofs.MarkPrims
import GcArena.Proofs.Basic
/-!
  `Context::mark_one` taken apart, without any invariant: by cases with the popped arm in closed
  form (`markOne_cases`, `markObj_eq`), for facts that depend on what was popped, and as a
  composition of steps (`markOne_induct`), for what every step keeps.  Then: `make_gray_again`,
  `resurrect`, the slot loop of `Collect::trace`, and `mark_one` (including a `trace` that unwinds
  after `j` slots) preserve the invariant.
-/
namespace GcArena

theorem markObj_eq {c : Ctx} {i : Nat} {o : Obj} (ho : c.heap.get i = some o) (hl : o.live = true)
    (f : Option Nat) :
    c.markObj i f =
      match f with
      | none =>
        (((c.withMetrics Metrics.markGcTraced).setObj i { o with color := .black }).traceSlots o.slots,
          .continue)
      | some j =>
        ((((c.withMetrics Metrics.markGcTraced).setObj i { o with color := .black }).traceSlots
          (o.slots.take j)).makeGrayAgain i, .unwind) := by
  unfold Ctx.markObj
  simp only [Ctx.withMetrics_heap, ho, hl, if_true]
  cases f <;> rfl

/-- An object popped from the head of the two queues, the root traced, or nothing left to do. -/
theorem markOne_cases (c : Ctx) (root : List Slot) (f : Option Nat) :
    (∃ i g ga, (i ∈ c.gray ∨ i ∈ c.grayAgain) ∧ c.gray ++ c.grayAgain = i :: (g ++ ga) ∧
      c.markOne root f = (({ c with gray := g, grayAgain := ga } : Ctx).step 'g').markObj i f) ∨
    (c.rootNeedsTrace = true ∧ c.markOne root f =
      match f with
      | none => ({ ((c.step 'r').traceSlots root) with rootNeedsTrace := false }, .continue)
      | some j => ((c.step 'r').traceSlots (root.take j), .unwind)) ∨
    (c.grayRemaining = false ∧ c.markOne root f = (c.step 'b', .break)) := by
  unfold Ctx.markOne
  cases hg : c.gray with
  | cons i g => exact .inl ⟨i, g, c.grayAgain, .inl (by simp), rfl, rfl⟩
  | nil =>
    cases hga : c.grayAgain with
    | cons i g => exact .inl ⟨i, [], g, .inr (by simp), rfl, by simp only [← hg]⟩
    | nil =>
      cases hr : c.rootNeedsTrace with
      | true => exact .inr (.inl ⟨rfl, by cases f <;> rfl⟩)
      | false => exact .inr (.inr ⟨Ctx.grayRemaining_eq_false.mpr ⟨hg, hga, hr⟩, rfl⟩)

theorem traceSlots_induct {P : Ctx → Prop} (ss : List Slot)
    (slot : ∀ {x : Ctx} p, some p ∈ ss → P x → P (x.traceSlot (some p))) :
    ∀ {c : Ctx}, P c → P (c.traceSlots ss) := by
  induction ss with
  | nil => exact fun h => h
  | cons s ss ih =>
    intro c h
    refine ih (fun p hp => slot p (List.mem_cons_of_mem _ hp)) ?_
    cases s with
    | none => exact h
    | some p => exact slot p (List.mem_cons_self ..) h

/-- `mark_one` is made of steps that leave the heap alone (popping, counters, `fail`), the
    blackening of the popped object, `trace` / `trace_weak` of pointers found in it or in the root,
    and `make_gray_again` of it: what all of these keep, `mark_one` keeps. -/
theorem markOne_induct {P : Ctx → Prop} (c : Ctx) (root : List Slot) (f : Option Nat)
    (heap : ∀ {x x' : Ctx}, x'.heap = x.heap → P x → P x')
    (black : ∀ {x : Ctx} i o, i ∈ c.gray ∨ i ∈ c.grayAgain → c.heap.get i = some o → P x →
      P (x.setObj i { o with color := .black }))
    (slot : ∀ {x : Ctx} p, (some p ∈ root ∨ ∃ i o, (i ∈ c.gray ∨ i ∈ c.grayAgain) ∧
      c.heap.get i = some o ∧ some p ∈ o.slots) → P x → P (x.traceSlot (some p)))
    (again : ∀ {x : Ctx} i, i ∈ c.gray ∨ i ∈ c.grayAgain → P x → P (x.makeGrayAgain i))
    (h : P c) : P (c.markOne root f).1 := by
  rcases markOne_cases c root f with ⟨i, g, ga, hi, _, e⟩ | ⟨_, e⟩ | ⟨_, e⟩ <;> rw [e]
  · generalize hc0 : (({ c with gray := g, grayAgain := ga } : Ctx).step 'g') = c0
    have e0 : c0.heap = c.heap := by rw [← hc0]; rfl
    have h0 : P (c0.withMetrics Metrics.markGcTraced) := heap (x := c) e0 h
    unfold Ctx.markObj
    simp only [Ctx.withMetrics_heap, e0]
    cases ho : c.heap.get i with
    | none => exact heap (Ctx.fail_heap ..) h0
    | some o =>
      simp only
      have h1 : P (if o.live = true then
          (c0.withMetrics Metrics.markGcTraced).setObj i { o with color := .black }
          else ((c0.withMetrics Metrics.markGcTraced).setObj i { o with color := .black }).fail .debugAssert) := by
        split
        · exact black i o hi ho h0
        · exact heap (Ctx.fail_heap ..) (black i o hi ho h0)
      have slots : ∀ ss : List Slot, (∀ p, some p ∈ ss → some p ∈ o.slots) → P (Ctx.traceSlots _ ss) :=
        fun ss sub => traceSlots_induct ss (fun p hp => slot p (.inr ⟨i, o, hi, ho, sub p hp⟩)) h1
      cases f with
      | none => exact slots _ (fun _ hp => hp)
      | some j => exact again i hi (slots _ (fun _ hp => List.mem_of_mem_take hp))
  · have hr : P (c.step 'r') := heap (x := c) rfl h
    cases f with
    | none =>
      exact heap (x := (c.step 'r').traceSlots root) rfl (traceSlots_induct root (fun p hp => slot p (.inl hp)) hr)
    | some j => exact traceSlots_induct _ (fun p hp => slot p (.inl (List.mem_of_mem_take hp))) hr
  · exact heap (x := c) rfl h

/-- Tracing never changes an object that is already gray or black. -/
def KeepMarked (c c' : Ctx) : Prop :=
  ∀ i o, c.heap.get i = some o → (o.color = .gray ∨ o.color = .black) → c'.heap.get i = some o

theorem KeepMarked.refl (c : Ctx) : KeepMarked c c := fun _ _ h _ => h

theorem KeepMarked.trans {a b c : Ctx} (h1 : KeepMarked a b) (h2 : KeepMarked b c) : KeepMarked a c :=
  fun i o ho hc => h2 i o (h1 i o ho hc) hc

theorem Recolored.keepMarked {c c' t o col} (r : Recolored c c' t o col)
    (hoc : ¬ (o.color = .gray ∨ o.color = .black)) : KeepMarked c c' := by
  intro i oi hoi hc
  rw [r.heap]
  by_cases hi : i = t
  · subst hi; rw [r.get_t] at hoi; cases hoi; exact absurd hc hoc
  · simp [hi, hoi]

theorem traceWeak_keep {c : Ctx} (t : Nat) : KeepMarked c (c.traceWeak t) := by
  intro i oi hoi hc
  by_cases hi : i = t
  · subst hi
    have : oi.color ≠ .white := by rcases hc with h | h <;> simp [h]
    simp [Ctx.traceWeak, hoi, this]
  · rw [Ctx.traceWeak_frame c t i hi]; exact hoi

theorem trace_keep {c : Ctx} (t : Nat) : KeepMarked c (c.trace t) := by
  intro i oi hoi hc
  by_cases hi : i = t
  · subst hi
    rcases hc with hc | hc <;> simp [Ctx.trace, hc, hoi]
  · rw [Ctx.trace_frame c t i hi]; exact hoi

/-! ### `Context::make_gray_again` -/

theorem makeGrayAgain_spec {c : Ctx} {root temps hole} (h : CInvH c root temps hole) (hm : c.phase = .mark)
    {t : Nat} {o : Obj} (ho : c.heap.get t = some o) (hb : o.color = .black) :
    CInvH (c.makeGrayAgain t) root temps hole ∧ MarkMono c (c.makeGrayAgain t) ∧
      (∃ o', (c.makeGrayAgain t).heap.get t = some o' ∧ o'.color = .gray) := by
  have e : c.makeGrayAgain t = { c.withColor t o .gray false Metrics.markGcUntraced with
      grayAgain := t :: c.grayAgain } := by simp [Ctx.makeGrayAgain, ho, hb, Ctx.setObj]
  have r : Recolored c (c.makeGrayAgain t) t o .gray :=
    e ▸ ⟨ho, fun _ => Heap.get_set .., rfl, rfl, rfl, rfl, rfl, rfl, rfl⟩
  refine ⟨h.recolor_queue hm r (by simp [hb, cls]) (fun _ => h.markedLive t o ho (.inr hb)) (by simp [hb])
      (e ▸ List.perm_middle) (fun hc => by cases hc),
    r.markMono (by simp [hb, cls]) (e ▸ rfl), _, (r.heap t).trans (if_pos rfl), rfl⟩

/-! ### `Context::resurrect` -/

theorem resurrect_spec {c : Ctx} {root temps hole} (h : CInvH c root temps hole) (hm : c.phase = .mark)
    {t : Nat} (ht : Safe c t) :
    CInvH (c.resurrect t) root temps hole ∧ MarkMono c (c.resurrect t) ∧
      PtrMarked (c.resurrect t) (.strong t) := by
  obtain ⟨o, ho, hlive, _⟩ := ht
  by_cases hmk : o.color = .gray ∨ o.color = .black
  · rw [show c.resurrect t = c by rcases hmk with hc | hc <;> simp [Ctx.resurrect, ho, hc, hm, hlive]]
    exact ⟨h, MarkMono.refl c, o, ho, hmk⟩
  · rw [resurrect_eq ho hm hlive (fun hc => hmk (.inl hc)) (fun hc => hmk (.inr hc))]
    exact h.queue hm ho hlive (fun hc => hmk (.inl hc))

/-! ### The slot loop of a value's `Collect::trace` -/

theorem MarkMono.ptrOK {c c' : Ctx} (h : MarkMono c c') (hm : c.phase = .mark) {p : Ptr}
    (hp : PtrOK c p) : PtrOK c' p := by
  cases p with
  | strong t => exact h.safe hm hp
  | weak t =>
    obtain ⟨o, ho, _⟩ := hp
    obtain ⟨o', ho', _⟩ := h.mono t o ho
    refine ⟨o', ho', ?_⟩
    intro hp'; rw [h.phase, hm] at hp'; cases hp'

theorem traceSlot_spec {c : Ctx} {root temps hole} (h : CInvH c root temps hole) (hm : c.phase = .mark)
    {s : Slot} (hs : ∀ p, s = some p → PtrOK c p) :
    CInvH (c.traceSlot s) root temps hole ∧ MarkMono c (c.traceSlot s) ∧ KeepMarked c (c.traceSlot s) ∧
      (∀ p, s = some p → PtrMarked (c.traceSlot s) p) := by
  cases s with
  | none => exact ⟨h, MarkMono.refl c, KeepMarked.refl c, fun _ hp => by cases hp⟩
  | some p =>
    cases p with
    | strong t =>
      obtain ⟨h1, h2, h3⟩ := trace_spec h hm (hs _ rfl)
      exact ⟨h1, h2, trace_keep t, fun p hp => by cases hp; exact h3⟩
    | weak t =>
      have : ∃ o, c.heap.get t = some o := by
        obtain ⟨o, ho, _⟩ := hs _ rfl; exact ⟨o, ho⟩
      obtain ⟨h1, h2, h3⟩ := traceWeak_spec h hm this
      exact ⟨h1, h2, traceWeak_keep t, fun p hp => by cases hp; exact h3⟩

theorem traceSlots_spec {root temps hole} (ss : List Slot) :
    ∀ {c : Ctx}, CInvH c root temps hole → c.phase = .mark → (∀ p, some p ∈ ss → PtrOK c p) →
      CInvH (c.traceSlots ss) root temps hole ∧ MarkMono c (c.traceSlots ss) ∧
      KeepMarked c (c.traceSlots ss) ∧ (∀ p, some p ∈ ss → PtrMarked (c.traceSlots ss) p) := by
  induction ss with
  | nil => intro c h _ _; exact ⟨h, MarkMono.refl c, KeepMarked.refl c, fun _ hp => by cases hp⟩
  | cons s ss ih =>
    intro c h hm hs
    obtain ⟨h1, m1, k1, p1⟩ := traceSlot_spec (s := s) h hm (fun p hp => hs p (by simp [hp]))
    have hm1 : (c.traceSlot s).phase = .mark := by rw [m1.phase]; exact hm
    obtain ⟨h2, m2, k2, p2⟩ := ih h1 hm1
      (fun p hp => m1.ptrOK hm (hs p (List.mem_cons_of_mem _ hp)))
    refine ⟨h2, m1.trans m2, k1.trans k2, ?_⟩
    intro p hp
    simp only [List.mem_cons] at hp
    rcases hp with hp | hp
    · exact m2.marked (p1 p hp.symm)
    · exact p2 p hp

/-! ### Closing the hole -/

theorem CInvH.fill {c : Ctx} {root temps} {i : Nat} (h : CInvH c root temps (some i))
    (hi : c.phase = .mark → ∀ o, c.heap.get i = some o → o.color = .black →
      ∀ p, some p ∈ o.slots → PtrMarked c p) : CInvH c root temps none := by
  refine { h with tri := ?_ }
  intro hm j o ho hb _ p hp
  by_cases hj : j = i
  · subst hj; exact hi hm o ho hb p hp
  · exact h.tri hm j o ho hb (by simpa using hj) p hp

theorem CInvH.open_ {c : Ctx} {root temps} (h : CInvH c root temps none) (i : Nat) :
    CInvH c root temps (some i) := by
  refine { h with tri := ?_ }
  intro hm j o ho hb _ p hp
  exact h.tri hm j o ho hb (by simp) p hp


/-- Changing `root_needs_trace` in the mark phase. -/
theorem CInvH.setRnt {c : Ctx} {root temps hole} (h : CInvH c root temps hole) (hm : c.phase = .mark)
    (b : Bool) (hb : b = false → ∀ p, some p ∈ root → PtrMarked c p) :
    CInvH { c with rootNeedsTrace := b } root temps hole :=
  have notMark : ∀ {p : Phase} {P : Prop}, p ≠ .mark → c.phase = p → P :=
    fun hne hp => absurd (hm.symm.trans hp) (Ne.symm hne)
  { h with sleepRoot := notMark (by simp), sweepRoot := notMark (by simp),
           triRoot := fun _ hr p hp => hb hr p hp }

/-- What every `mark_one` / barrier step keeps fixed. -/
structure MarkFrame (c c' : Ctx) : Prop where
  phase : c'.phase = c.phase
  pre : c'.pre = c.pre
  rest : c'.rest = c.rest
  log : c'.log = c.log
  alloc : ∀ i, (∃ o, c'.heap.get i = some o) ↔ (∃ o, c.heap.get i = some o)
  live : ∀ i o o', c.heap.get i = some o → c'.heap.get i = some o' →
    o'.live = o.live ∧ o'.slots = o.slots ∧ o'.needsTrace = o.needsTrace

theorem MarkMono.frame {c c' : Ctx} (m : MarkMono c c') : MarkFrame c c' := by
  refine ⟨m.phase, m.pre, m.rest, m.log, ?_, ?_⟩
  · intro i
    constructor
    · rintro ⟨o', ho'⟩; exact m.noNew i o' ho'
    · rintro ⟨o, ho⟩; obtain ⟨o', ho', _⟩ := m.mono i o ho; exact ⟨o', ho'⟩
  · intro i o o' ho ho'
    obtain ⟨o2, ho2, _, hs, hl, hn⟩ := m.mono i o ho
    rw [ho'] at ho2; cases ho2
    exact ⟨hl, hs, hn⟩

theorem MarkFrame.refl (c : Ctx) : MarkFrame c c :=
  ⟨rfl, rfl, rfl, rfl, fun _ => Iff.rfl, fun _ o o' h h' => by rw [h] at h'; cases h'; exact ⟨rfl, rfl, rfl⟩⟩

theorem MarkFrame.trans {a b c : Ctx} (h1 : MarkFrame a b) (h2 : MarkFrame b c) : MarkFrame a c := by
  refine ⟨h2.phase.trans h1.phase, h2.pre.trans h1.pre, h2.rest.trans h1.rest, h2.log.trans h1.log, ?_, ?_⟩
  · intro i; exact (h2.alloc i).trans (h1.alloc i)
  · intro i o o' ho ho'
    obtain ⟨ob, hob⟩ := (h1.alloc i).mpr ⟨o, ho⟩
    obtain ⟨l1, s1, n1⟩ := h1.live i o ob ho hob
    obtain ⟨l2, s2, n2⟩ := h2.live i ob o' hob ho'
    exact ⟨l2.trans l1, s2.trans s1, n2.trans n1⟩

theorem SameView.markFrame {c c' : Ctx} (s : SameView c c') (hlog : c'.log = c.log) : MarkFrame c c' := by
  refine ⟨s.phase, s.pre, s.rest, hlog, ?_, ?_⟩
  · intro i; rw [s.heap]
  · intro i o o' ho ho'; rw [s.heap, ho] at ho'; cases ho'; exact ⟨rfl, rfl, rfl⟩

/-- The "an object was popped" arm of `mark_one`. -/
theorem markObj_spec {c : Ctx} {root temps} (h : CInv c root temps) (hm : c.phase = .mark)
    {i : Nat} {g ga : List Nat} (hi : i ∈ c.gray ∨ i ∈ c.grayAgain)
    (hq : c.gray ++ c.grayAgain = i :: (g ++ ga)) (fault : Option Nat) :
    CInv ((({ c with gray := g, grayAgain := ga } : Ctx).step 'g').markObj i fault).1 root temps ∧
      MarkFrame c ((({ c with gray := g, grayAgain := ga } : Ctx).step 'g').markObj i fault).1 := by
  obtain ⟨o, ho, hg⟩ := h.qGray i hi
  have hlive := h.markedLive i o ho (Or.inl hg)
  have hnd : (i :: (g ++ ga)).Nodup := hq ▸ h.qNodup
  -- the state after popping and blackening
  let c2 : Ctx := ((({ c with gray := g, grayAgain := ga } : Ctx).step 'g').withMetrics
    Metrics.markGcTraced).setObj i { o with color := .black }
  have r : Recolored c c2 i o .black := by
    constructor <;> simp [c2, Metrics.markGcTraced, ho]
  have hcls : cls o.color ≤ cls Color.black := by simp [hg, cls]
  have h2 : CInvH c2 root temps (some i) := by
    apply (h.open_ i).recolor hm r hcls (fun _ => hlive)
    · intro j
      show (j ∈ g ∨ j ∈ ga) ↔ _
      rw [← List.mem_append, ← List.mem_append, hq, List.mem_cons]
      constructor
      · intro hj; exact .inl ⟨fun e => (List.nodup_cons.mp hnd).1 (e ▸ hj), .inr hj⟩
      · rintro (⟨hne, e | hj⟩ | ⟨_, hc⟩)
        · exact absurd e hne
        · exact hj
        · cases hc
    · exact (List.nodup_cons.mp hnd).2
    · intro _ hne; exact absurd rfl hne
  have hm2 : c2.phase = .mark := by rw [r.phase]; exact hm
  have hsafe : Safe c i := ⟨o, ho, hlive, fun hp => by rw [hm] at hp; cases hp⟩
  have hslots : ∀ p, some p ∈ o.slots → PtrOK c2 p := fun p hp =>
    (r.ptrOK_iff hm p).mpr (h.closed i o ho hsafe p hp)
  have hgi2 : c2.heap.get i = some { o with color := .black } := by rw [r.heap]; simp
  have hmm2 : MarkMono c c2 := r.markMono hcls rfl
  have hdef : (({ c with gray := g, grayAgain := ga } : Ctx).step 'g').markObj i fault =
      match fault with
      | none => (c2.traceSlots o.slots, Flow.continue)
      | some j => ((c2.traceSlots (o.slots.take j)).makeGrayAgain i, Flow.unwind) :=
    markObj_eq (c := ({ c with gray := g, grayAgain := ga } : Ctx).step 'g') ho hlive fault
  rw [hdef]
  cases fault with
  | none =>
    simp only
    obtain ⟨h3, m3, k3, p3⟩ := traceSlots_spec o.slots h2 hm2 hslots
    refine ⟨?_, (hmm2.trans m3).frame⟩
    apply h3.fill
    intro _ o3 ho3 _ p hp
    have := k3 i _ hgi2 (Or.inr rfl)
    rw [this] at ho3; cases ho3
    exact p3 p hp
  | some j =>
    simp only
    have hsl : ∀ p, some p ∈ o.slots.take j → PtrOK c2 p :=
      fun p hp => hslots p (List.mem_of_mem_take hp)
    obtain ⟨h3, m3, k3, _⟩ := traceSlots_spec (o.slots.take j) h2 hm2 hsl
    have hgi3 := k3 i _ hgi2 (Or.inr rfl)
    have hm3 : (c2.traceSlots (o.slots.take j)).phase = .mark := by rw [m3.phase]; exact hm2
    obtain ⟨h4, m4, o4, ho4, hc4⟩ := makeGrayAgain_spec h3 hm3 hgi3 rfl
    refine ⟨?_, ((hmm2.trans m3).trans m4).frame⟩
    apply h4.fill
    intro _ o5 ho5 hb
    rw [ho4] at ho5; cases ho5; rw [hc4] at hb; cases hb


/-- `Context::mark_one` preserves the invariant (including when the traced value's `trace`
    unwinds after `j` slots), releases nothing and moves no object in the list. -/
theorem markOne_spec {c : Ctx} {root temps} (h : CInv c root temps) (hm : c.phase = .mark)
    (fault : Option Nat) :
    CInv (c.markOne root fault).1 root temps ∧ MarkFrame c (c.markOne root fault).1 := by
  rcases markOne_cases c root fault with ⟨i, g, ga, hi, hq, e⟩ | ⟨_, e⟩ | ⟨_, e⟩ <;> rw [e]
  · exact markObj_spec h hm hi hq fault
  · have hs : CInv (c.step 'r') root temps := h.sameView (sameView_step c 'r')
    have hms : (c.step 'r').phase = .mark := hm
    cases fault with
    | none =>
      obtain ⟨h3, m3, _, p3⟩ := traceSlots_spec root hs hms (fun p hp => hs.rootOK p hp)
      have hm3 : ((c.step 'r').traceSlots root).phase = .mark := by rw [m3.phase]; exact hms
      refine ⟨h3.setRnt hm3 false (fun _ => p3), ?_⟩
      have f3 := m3.frame
      exact ⟨f3.phase, f3.pre, f3.rest, f3.log, f3.alloc, f3.live⟩
    | some j =>
      obtain ⟨h3, m3, _, _⟩ := traceSlots_spec (root.take j) hs hms
        (fun p hp => hs.rootOK p (List.mem_of_mem_take hp))
      have f3 := m3.frame
      exact ⟨h3, ⟨f3.phase, f3.pre, f3.rest, f3.log, f3.alloc, f3.live⟩⟩
  · exact ⟨h.sameView (sameView_step c 'b'), (sameView_step c 'b').markFrame rfl⟩

end GcArena
