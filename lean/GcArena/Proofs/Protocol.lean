import GcArena.Proofs.Termination
/-!
  Exit states of the driver loop: what `Context::do_collection` returns with, per `Stop`, and
  the shape of the step log a call appends.  All statements are for every state satisfying the
  invariant, every pacing and every debt.
-/
namespace GcArena

theorem markObj_none_flow (c : Ctx) (i : Nat) : (c.markObj i none).2 = .continue := by
  unfold Ctx.markObj
  simp only
  split <;> rfl

theorem markOne_none_flow (c : Ctx) (root : List Slot) : (c.markOne root none).2 ≠ .unwind := by
  rcases markOne_cases c root none with ⟨i, g, ga, _, _, e⟩ | ⟨_, e⟩ | ⟨_, e⟩ <;> rw [e]
  · rw [markObj_none_flow]; simp
  · simp
  · simp

theorem faultAt_none (k : Nat) : faultAt none k = none := rfl

theorem collectLoop_no_unwind {root ru stop} (fuel : Nat) (c : Ctx) (hs : Bool) (k : Nat) :
    (Ctx.collectLoop root ru stop none fuel c hs k).2 ≠ .unwound :=
  collectLoop_induct (I := fun _ _ _ _ => True) (Q := fun _ ex => ex ≠ .unwound)
    (fun _ _ _ _ => by simp)
    (fun _ c _ _ _ _ _ _ _ a => by
      rcases a.exit_cases with h | ⟨_, h⟩
      · simp [h]
      · exact absurd h (markOne_none_flow c root))
    (fun _ _ _ _ _ _ _ _ _ => trivial) fuel c hs k trivial

/-- A fault-free collection call returns normally. -/
theorem doCollection_returns {c : Ctx} {root} (h : CInv c root []) (ru : RunUntil) (stop : Stop) :
    (c.doCollection root ru stop none).2 = .returned := by
  have h1 := doCollection_terminates h ru stop none
  have h2 : (c.doCollection root ru stop none).2 ≠ .unwound := by
    rcases doCollection_cases c root ru stop none with ⟨_, _, he⟩ | ⟨_, he⟩ <;> rw [he]
    · simp
    · exact collectLoop_no_unwind _ _ _ _
  cases he : (c.doCollection root ru stop none).2 with
  | returned => rfl
  | unwound => exact absurd he h2
  | outOfFuel => exact absurd he h1

theorem collectLoop_inv {root ru stop fault fuel} {c c' : Ctx} {hs : Bool} {k : Nat} {ex : Exit}
    (h : CInv c root []) (hr : Ctx.collectLoop root ru stop fault fuel c hs k = (c', ex)) :
    CInv c' root [] := by
  have := (collectLoop_reaches (ru := ru) (stop := stop) (fault := fault) fuel c hs k h).inv h
  rwa [hr] at this

theorem doCollection_reaches_eq {c c' : Ctx} {root ru stop fault} {ex : Exit} (h : CInv c root [])
    (hr : c.doCollection root ru stop fault = (c', ex)) : Reaches c root c' := by
  have := doCollection_reaches (ru := ru) (stop := stop) (fault := fault) h
  rwa [hr] at this

/-- With `Stop::FullyMarked`, outside `Sweep`, an iteration stays in `Mark`, and if it returns the
    debt test let it go or nothing gray is left. -/
theorem Arm.fullyMarked {root ru fault} {c c1 : Ctx} {hs hs1 : Bool} {k k1 : Nat} {e : Option Exit}
    (a : Arm root ru .fullyMarked fault c hs k c1 hs1 k1 e) (h : CInv c root []) (hns : c.phase ≠ .sweep) :
    c1.phase = .mark ∧ (e = some .returned → c1.debtBreak ru = true ∨ Arena.isMarked c1 = true) := by
  have paid : ∀ {c : Ctx}, c.debtExit ru = some .returned → c.debtBreak ru = true ∨ Arena.isMarked c = true :=
    fun he => .inl (debtExit_eq_some.mp he).1
  cases a with
  | wake hp => exact ⟨rfl, paid⟩
  | mark hp hg hf => exact ⟨(markOne_spec h hp _).2.phase.trans hp, paid⟩
  | unwind hp hg hf => exact ⟨(markOne_spec h hp _).2.phase.trans hp, fun he => nomatch he⟩
  | marked hp hg hst =>
    have hm : Arena.isMarked (c.step 'b') = (decide (c.phase = .mark) && !c.grayRemaining) := rfl
    exact ⟨hp, fun _ => .inr (by simp [hm, hp, hg])⟩
  | toSweep hp hg hst => exact absurd (by decide) hst
  | atSweep hp | sweep hp | toSleep hp => exact absurd hp hns
  | drop hp => exact absurd hp h.notDrop

theorem collectLoop_stop_fullyMarked {root ru fault fuel} {c c' : Ctx} {hs : Bool} {k : Nat}
    (h : CInv c root []) (hns : c.phase ≠ .sweep)
    (hr : Ctx.collectLoop root ru .fullyMarked fault fuel c hs k = (c', .returned)) :
    c'.debtBreak ru = true ∨ Arena.isMarked c' = true :=
  collectLoop_induct' (I := fun c _ _ => CInv c root [] ∧ c.phase ≠ .sweep)
    (Q := fun c' ex => ex = .returned → c'.debtBreak ru = true ∨ Arena.isMarked c' = true)
    (fun _ _ _ _ hx => nomatch hx)
    (fun _ _ _ _ _ _ _ hi a hx => (a.fullyMarked hi.1 hi.2).2 (by rw [hx]))
    (fun _ _ _ _ _ _ hi a => ⟨a.inv hi.1, by rw [(a.fullyMarked hi.1 hi.2).1]; simp⟩)
    ⟨h, hns⟩ hr rfl

theorem collectLoop_fullyMarked {root fault} (fuel : Nat) :
    ∀ (c : Ctx) (hs : Bool) (k : Nat), CInv c root [] → c.phase ≠ .sweep →
      (Ctx.collectLoop root .stop .fullyMarked fault fuel c hs k).2 = .returned →
      Arena.isMarked (Ctx.collectLoop root .stop .fullyMarked fault fuel c hs k).1 = true := by
  intro c hs k h hns hr
  rcases collectLoop_stop_fullyMarked h hns (Prod.ext rfl hr) with hb | hm
  · rw [debtBreak_stop] at hb; cases hb
  · exact hm

theorem collectLoop_finishCycle {root fault} (fuel : Nat) :
    ∀ (c : Ctx) (hs : Bool) (k : Nat), CInv c root [] →
      (Ctx.collectLoop root .stop .finishCycle fault fuel c hs k).2 = .returned →
      (Ctx.collectLoop root .stop .finishCycle fault fuel c hs k).1.phase = .sleep := by
  intro c hs k h hr
  rcases collectLoop_exit (Prod.ext rfl hr) with hb | ⟨hst, _⟩ | ⟨hst, _⟩ | ⟨c1, b, he, _⟩ | ⟨hd, _⟩
  · rw [debtBreak_stop] at hb; cases hb
  · exact absurd hst (by decide)
  · exact absurd hst (by decide)
  · exact congrArg Ctx.phase he
  · exact absurd hd ((collectLoop_reaches fuel c hs k h).inv h).notDrop

theorem traceSlots_steps (ss : List Slot) (c : Ctx) : (c.traceSlots ss).steps = c.steps :=
  (traceSlots_touch ss c).1.steps

theorem makeGrayAgain_steps (c : Ctx) (i : Nat) : (c.makeGrayAgain i).steps = c.steps :=
  (touch_makeGrayAgain (T := fun _ => True) c i trivial).steps

theorem markObj_steps (c : Ctx) (i : Nat) (f : Option Nat) : (c.markObj i f).1.steps = c.steps := by
  unfold Ctx.markObj
  simp only
  split
  · simp
  · split <;> split <;> simp [traceSlots_steps, makeGrayAgain_steps]

/-- `mark_one` logs one character, which is neither the `Sweep → Sleep` switch nor the end of the
    sweep list. -/
theorem markOne_steps (c : Ctx) (root : List Slot) (f : Option Nat) :
    ∃ ch, ch ≠ 'Z' ∧ ch ≠ 'e' ∧ (c.markOne root f).1.steps = ch :: c.steps := by
  rcases markOne_cases c root f with ⟨i, g, ga, _, _, e⟩ | ⟨_, e⟩ | ⟨_, e⟩ <;> rw [e]
  · exact ⟨'g', by decide, by decide, markObj_steps _ i f⟩
  · exact ⟨'r', by decide, by decide, by cases f <;> exact traceSlots_steps _ (c.step 'r')⟩
  · exact ⟨'b', by decide, by decide, rfl⟩

theorem sweepOne_steps (c : Ctx) :
    ∃ ch, ch ≠ 'Z' ∧ ch ≠ 'W' ∧ c.sweepOne.1.steps = ch :: c.steps := by
  cases hr : c.rest with
  | nil => exact ⟨'e', by decide, by decide, by rw [sweepOne_end hr]; rfl⟩
  | cons i r =>
    refine ⟨'x', by decide, by decide, ?_⟩
    cases ho : c.heap.get i with
    | none => rw [sweepOne_none hr ho, Ctx.fail_steps]; rfl
    | some o => exact (sweepOne_at hr ho).2.2.2.2.2

/-- What one iteration appends to the step log: `'Z'` comes only from the `Sweep → Sleep` arm, as
    the newest entry. -/
theorem Arm.steps {root ru stop fault} {c c1 : Ctx} {hs hs1 : Bool} {k k1 : Nat} {e : Option Exit}
    (a : Arm root ru stop fault c hs k c1 hs1 k1 e) :
    (∃ chs, c1.steps = chs ++ c.steps ∧ 'Z' ∉ chs) ∨
    (c1.steps = 'Z' :: 'e' :: c.steps ∧ c1.phase = .sleep ∧
      e = if stop = .finishCycle ∨ hs = true then some .returned else c1.debtExit ru) := by
  have one : ∀ {c1 : Ctx} {X : Char → Prop}, (∃ ch, ch ≠ 'Z' ∧ X ch ∧ c1.steps = ch :: c.steps) →
      ∃ chs, c1.steps = chs ++ c.steps ∧ 'Z' ∉ chs :=
    fun ⟨ch, hz, _, he⟩ => ⟨[ch], he, by simpa using hz.symm⟩
  cases a with
  | wake => exact .inl ⟨['W'], rfl, by decide⟩
  | mark | unwind => exact .inl (one (markOne_steps c root _))
  | marked => exact .inl ⟨['b'], rfl, by decide⟩
  | toSweep => exact .inl ⟨['S', 'b'], rfl, by decide⟩
  | atSweep => exact .inl ⟨[], rfl, by simp⟩
  | sweep => exact .inl (one (sweepOne_steps c))
  | toSleep => exact .inr ⟨rfl, rfl, rfl⟩
  | drop =>
    refine .inl ⟨[], ?_, by simp⟩
    unfold Ctx.fail
    split <;> rfl

/-- What one call with `Stop::FinishCycle` appends to the step log: `'Z'` (the `Sweep → Sleep`
    switch) can only be the newest entry — the loop returns right after it, so it never wakes
    again in the same call. -/
theorem collectLoop_finishCycle_log {root ru fault} (fuel : Nat) :
    ∀ (c : Ctx) (hs : Bool) (k : Nat), CInv c root [] →
      ∃ new, (Ctx.collectLoop root ru .finishCycle fault fuel c hs k).1.steps = new ++ c.steps ∧
        ∀ ch ∈ new.tail, ch ≠ 'Z' := by
  intro c hs k _
  -- at the head of every iteration nothing appended so far is `'Z'`
  refine collectLoop_induct (I := fun _ c0 _ _ => ∃ chs, c0.steps = chs ++ c.steps ∧ 'Z' ∉ chs)
    (Q := fun c' _ => ∃ new, c'.steps = new ++ c.steps ∧ ∀ ch ∈ new.tail, ch ≠ 'Z')
    ?_ ?_ ?_ fuel c hs k ⟨[], rfl, by simp⟩
  · intro c0 _ _ ⟨chs, e0, hz⟩
    exact ⟨chs, e0, fun ch hch hc => hz (hc ▸ List.mem_of_mem_tail hch)⟩
  · intro _ c0 _ _ c1 _ _ _ ⟨chs, e0, hz⟩ a
    rcases a.steps with ⟨chs1, e1, hz1⟩ | ⟨e1, _, _⟩
    · refine ⟨chs1 ++ chs, by rw [e1, e0, List.append_assoc], fun ch hch hc => ?_⟩
      rcases List.mem_append.mp (List.mem_of_mem_tail hch) with hm | hm
      · exact hz1 (hc ▸ hm)
      · exact hz (hc ▸ hm)
    · refine ⟨'Z' :: 'e' :: chs, by rw [e1, e0]; rfl, fun ch hch hc => ?_⟩
      rcases List.mem_cons.mp hch with hm | hm
      · rw [hc] at hm; exact absurd hm (by decide)
      · exact hz (hc ▸ hm)
  · intro _ c0 _ _ c1 _ _ ⟨chs, e0, hz⟩ a
    rcases a.steps with ⟨chs1, e1, hz1⟩ | ⟨_, _, he⟩
    · refine ⟨chs1 ++ chs, by rw [e1, e0, List.append_assoc], fun hm => ?_⟩
      rcases List.mem_append.mp hm with hm | hm
      · exact hz1 hm
      · exact hz hm
    · simp at he

end GcArena
