import GcArena.Proofs.Step
/-!
  `inv_step`, `inv_run`: the invariant is preserved by every API-level operation and hence holds
  in every state reachable by any operation sequence (while the arena exists).
-/
namespace GcArena

theorem stepBody_inv {a : Arena} (h : Inv a) (hm : a.marked = false) (fin : Bool)
    (hfin : fin = true → a.ctx.phase = .mark ∧ a.cb = none) (op : Op)
    (halive : (a.stepBody fin op).1.alive = true) : Inv (a.stepBody fin op).1 := by
  cases hop : op.isMutator with
  | true => exact (stepBody_mutStep a fin op hop).inv h hm hfin
  | false =>
    cases op with
    | collect m k f o => exact (stepBody_collectStep a fin m k f o).inv h hm
    | dropArena =>
      rcases stepBody_dropArena a fin with ⟨_, e⟩ | ⟨_, e⟩ <;> rw [e] at halive ⊢
      · exact h
      · cases halive
    | _ => cases hop

/-- Every operation preserves the invariant for as long as the arena exists. -/
theorem inv_step {a : Arena} (h : Inv a) (op : Op) (halive : (a.step op).1.alive = true) :
    Inv (a.step op).1 := by
  rw [step_eq h.alive] at halive ⊢
  exact stepBody_inv h.unmark rfl a.marked h.markedMark op halive

/-- Run an operation sequence. -/
def Arena.run (a : Arena) : List Op → Arena
  | [] => a
  | op :: ops => Arena.run (a.step op).1 ops

theorem step_dead {a : Arena} (h : a.alive = false) (op : Op) : (a.step op).1 = a := by
  simp [Arena.step, h, Arena.bad]

theorem run_dead {a : Arena} (h : a.alive = false) (ops : List Op) : a.run ops = a := by
  induction ops with
  | nil => rfl
  | cons op ops ih => simp only [Arena.run, step_dead h, ih]

theorem inv_run_from (ops : List Op) : ∀ {a : Arena}, Inv a → (a.run ops).alive = true →
    Inv (a.run ops) := by
  induction ops with
  | nil => intro a h _; exact h
  | cons op ops ih =>
    intro a h hal
    simp only [Arena.run] at hal ⊢
    by_cases hs : (a.step op).1.alive = true
    · exact ih (inv_step h op hs) hal
    · have hd : (a.step op).1.alive = false := by simpa using hs
      rw [run_dead hd] at hal
      exact absurd hal hs

/-- The invariant holds in every state reachable from a fresh arena in which the arena still
    exists — for every operation sequence: every interleaving of mutator steps and collection
    calls, every `RunUntil` / `Stop`, every pacing and debt, every oracle, every fault position. -/
theorem inv_run (n : Nat) (ops : List Op) (halive : ((Arena.new n).run ops).alive = true) :
    Inv ((Arena.new n).run ops) :=
  inv_run_from ops (inv_init n) halive

end GcArena
