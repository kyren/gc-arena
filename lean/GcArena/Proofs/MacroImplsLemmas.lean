import GcArena.Model.MacroImpls
import GcArena.Proofs.CollectLemmas
/-! The template rule in the terms of the `Collect`-impl table: an instantiated template is a row
(`Template.toEntry`), and `Template.ok` makes every such row complete and untraced-static. -/
namespace GcArena.MacroImpls
open GcArena.CollectTy

/-- The impl a client gets from a template, as a row of the `Collect`-impl table
(`Model/CollectTy.Entry`), so that the table theorems (`C16.exact`, `C16.no_hidden_brand`) speak
about it.  The user-supplied type is opaque: every declared parameter may be stored in it
(`fieldParams` = all positions), and if it mentions the impl's brand outside its parameters it holds
branded data of its own (one pointer field, `'gc`) — unless the template demands `$type: 'static`,
under which the brand can only be `'static`.  A forwarding `trace` (`dyn_trace`) visits everything
the value holds; an empty one nothing. -/
def Template.toEntry (t : Template) (i : Inst) : Entry :=
  let n := if t.hasParams then i.nparams else 0
  let fwd := t.trace == .forwardsDyn
  { shape := .internal
    text := t.macroName ++ "! arm " ++ toString t.arm
    nparams := n
    constNeeds := t.needsTraceValue == some true
    disjuncts := []
    traced := if fwd then List.range n else []
    direct := if fwd then List.range n else []
    guards := []
    staticParams := if t.paramsStatic then List.range n else []
    selfStatic := t.typeStatic
    ptrFields := if !i.brandFree && t.gcInScope && !t.typeStatic then ["'gc"] else []
    tracedFields := if fwd then ["'gc"] else []
    params := (List.range n).map (fun k =>
      ⟨"P", k, if fwd then .traced else if t.typeStatic || t.paramsStatic then .static else .unbounded⟩)
    fieldParams := List.range n
    freeLifetimes := []
    gate := "" }

theorem Template.ok_cases {t : Template} (h : t.ok = true) :
    (t.trace = .noop ∧ t.typeStatic = true) ∨
      (t.trace = .forwardsDyn ∧ t.needsTraceValue = some true) := by
  simp only [Template.ok, Template.reportsNothing, Bool.and_eq_true] at h
  obtain ⟨⟨⟨_, hshape⟩, hlic⟩, hfwd⟩ := h
  cases htr : t.trace with
  | noop => rw [htr] at hlic; exact .inl ⟨rfl, by simpa using hlic⟩
  | forwardsDyn => rw [htr] at hfwd; exact .inr ⟨rfl, by simpa using hfwd⟩
  | other b => rw [htr] at hshape; cases hshape

/-- **What the template rule buys, in the terms of the impl table**: every instantiation of a
template satisfying `Template.ok` — any number of declared parameters, the user-supplied type
mentioning the brand or not — is a complete entry (every stored position traced under a true
`NEEDS_TRACE` or `'static`; branded data of the type itself traced and not short-circuited) and
satisfies the untraced-static rule. -/
theorem Template.toEntry_ok (t : Template) (h : t.ok = true) (i : Inst) :
    (t.toEntry i).complete = true ∧ (t.toEntry i).untracedStatic = true := by
  rcases Template.ok_cases h with ⟨htr, hs⟩ | ⟨htr, hn⟩
  · -- `Self: 'static`: every position is static and the type has no branded field of its own
    simp [Template.toEntry, Entry.complete, Entry.untracedStatic, Entry.held, Entry.isStaticAt,
      Shape.stored, htr, hs]
  · -- every declared position is traced, and so is the type's own `'gc` field
    simp [Template.toEntry, Entry.complete, Entry.untracedStatic, Entry.held, Entry.isStaticAt,
      Shape.stored, htr, hn]
    exact ⟨fun k hk => ⟨hk, .inl hk⟩, fun k hk => .inl hk⟩

/-- The impl table extended by client instantiations of templates. -/
def withInstances (tb : Table) (is : List (Template × Inst)) : Table :=
  tb.extend (is.map (fun p => p.1.toEntry p.2))

theorem withInstances_ok (tb : Table) (ts : List Template) (hts : ts.all Template.ok = true)
    (is : List (Template × Inst)) (hmem : ∀ p, p ∈ is → p.1 ∈ ts) :
    (tb.complete = true → (withInstances tb is).complete = true) ∧
    (tb.untracedStatic = true → (withInstances tb is).untracedStatic = true) := by
  have hrow : ∀ e ∈ is.map (fun p => p.1.toEntry p.2),
      e.complete = true ∧ e.untracedStatic = true := by
    intro e he
    obtain ⟨p, hp, rfl⟩ := List.mem_map.mp he
    exact Template.toEntry_ok p.1 (List.all_eq_true.mp hts _ (hmem p hp)) p.2
  exact ⟨fun h => Table.extend_complete _ _ h fun e he => (hrow e he).1,
    fun h => Table.extend_untracedStatic _ _ h fun e he => (hrow e he).2⟩

/-- *Definitional reading of the rule*: the conclusion re-reads conjuncts of `Template.ok`.  That an
impl which is not brand-generic (it holds only when the brand is `'static`) is rejected by the
`for<'a> Root<'a, R>: Collect<'a>` bound of the collecting `Arena` methods and by a generative
callback's `Gc::new` is prose; assurance that `Template.applies` reflects rustc comes from the
template probes (`c12-template-*`, `c16-template-*`).  The semantic statement is
`Template.toEntry_ok`. -/
theorem ok_sound (t : Template) (h : t.ok = true) (i : Inst) (hb : i.brandFree = false) :
    t.brandGeneric i = false ∨ (t.reportsNothing = false ∧ t.needsTraceValue = some true) := by
  rcases Template.ok_cases h with ⟨_, hs⟩ | ⟨htr, hn⟩
  · exact .inl (by simp [Template.brandGeneric, Template.applies, hs, hb])
  · refine .inr ⟨?_, hn⟩
    have hne : t.needsTrace ≠ .explicitFalse := fun e => by simp [Template.needsTraceValue, e] at hn
    simp [Template.reportsNothing, htr, hne]

/-- A template that claims nothing needs tracing without `$type: 'static` yields, for a type that
mentions the brand, an impl for every brand that reports no pointer: the brand hides. -/
theorem unlicensed_hides (t : Template) (hn : t.reportsNothing = true) (hs : t.typeStatic = false) :
    ∃ i : Inst, i.brandFree = false ∧ t.brandGeneric i = true ∧ t.reportsNothing = true :=
  ⟨{ brandFree := false }, rfl, by simp [Template.brandGeneric, Template.applies, hs], hn⟩

/-! Rows used by the `mutant_witness` theorems: the generic arms as they are in the crate, and as
the two seeded changes leave them. -/
namespace Example

def staticCollectArm0 : Template :=
  { macroName := "static_collect", arm := 0, hasParams := true, gcInScope := true, typeStatic := true,
    paramsStatic := false, userBounds := true, needsTrace := .explicitFalse, trace := .noop,
    isUnsafeImpl := true }

/-- `where $type: 'static,` ↦ `$($params: 'static,)+` -/
def staticCollectArm0Mutant : Template :=
  { staticCollectArm0 with typeStatic := false, paramsStatic := true }

def dynCollectArm0 : Template :=
  { macroName := "__dyn_collect", arm := 0, hasParams := true, gcInScope := true, typeStatic := false,
    paramsStatic := false, userBounds := true, needsTrace := .defaulted, trace := .forwardsDyn,
    isUnsafeImpl := true }

/-- `+ const NEEDS_TRACE: bool = false;` -/
def dynCollectArm0Mutant : Template := { dynCollectArm0 with needsTrace := .explicitFalse }

end Example

/-- Both seeded templates, instantiated at a type that mentions the brand (`Latch<'gc, T>`,
`dyn Tr<'gc, T>`), are rows the impl-table rule rejects; the crate's templates give complete rows at
the same instantiation. -/
theorem mutant_instances_incomplete :
    (Example.staticCollectArm0.toEntry { brandFree := false, nparams := 1 }).complete = true ∧
    (Example.staticCollectArm0Mutant.toEntry { brandFree := false, nparams := 1 }).complete = false ∧
    (Example.dynCollectArm0.toEntry { brandFree := false, nparams := 1 }).complete = true ∧
    (Example.dynCollectArm0Mutant.toEntry { brandFree := false, nparams := 1 }).complete = false ∧
    (Example.dynCollectArm0Mutant.toEntry { brandFree := false, nparams := 0 }).complete = false := by
  decide

end GcArena.MacroImpls
