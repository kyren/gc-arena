import GcArena.Proofs.GrayMono
/-!
  What one mutator operation does to the arena, in one record (`MutFacts`): step log and sweep list
  untouched, liveness kept, recolouring only upward in the marking order, only of objects the
  callback holds a pointer to and never outside the mark phase; slots changed only by a store of a
  held value; new cells only by allocation; new root entries and held pointers only from what was
  held, read or allocated.
-/
namespace GcArena

theorem Recol.ofSame {T} {c c' : Ctx} (steps : c'.steps = c.steps) (rest : c'.rest = c.rest)
    (pre : c'.pre = c.pre) (heap : c'.heap = c.heap) : Recol T c c' :=
  ⟨steps, rest, pre, fun j o ho => ⟨o, by rw [heap]; exact ho, rfl, rfl, rfl, Nat.le_refl _, fun _ => rfl⟩,
   fun j o' ho' => ⟨o', by rw [← heap]; exact ho'⟩⟩

theorem Recol.refl {T} (c : Ctx) : Recol T c c := Recol.ofSame rfl rfl rfl rfl

theorem rootBarrier_frame (c : Ctx) : c.rootBarrier.steps = c.steps ∧ c.rootBarrier.rest = c.rest ∧
    c.rootBarrier.pre = c.pre ∧ c.rootBarrier.heap = c.heap := by
  unfold Ctx.rootBarrier; split <;> exact ⟨rfl, rfl, rfl, rfl⟩

/-- Outside the mark phase the barriers do nothing at all. -/
theorem backwardBarrier_noop {c : Ctx} (h : c.phase ≠ .mark) (p : Nat) (ch : Option Nat) :
    c.backwardBarrier p ch = c := by simp [Ctx.backwardBarrier, h]

theorem backwardBarrierWeak_noop {c : Ctx} (h : c.phase ≠ .mark) (p ch : Nat) :
    c.backwardBarrierWeak p ch = c := by simp [Ctx.backwardBarrierWeak, h]

theorem forwardBarrier_noop {c : Ctx} (h : c.phase ≠ .mark) (p : Option Nat) (ch : Nat) :
    c.forwardBarrier p ch = c := by simp [Ctx.forwardBarrier, h]

theorem forwardBarrierWeak_noop {c : Ctx} (h : c.phase ≠ .mark) (p : Option Nat) (ch : Nat) :
    c.forwardBarrierWeak p ch = c := by simp [Ctx.forwardBarrierWeak, h]

theorem BarrierOp.apply_noop {c : Ctx} (h : c.phase ≠ .mark) (b : BarrierOp) : b.apply c = c := by
  cases b with
  | bb p ch => exact backwardBarrier_noop h p ch
  | bbw p ch => exact backwardBarrierWeak_noop h p ch
  | fb p ch => exact forwardBarrier_noop h p ch
  | fbw p ch => exact forwardBarrierWeak_noop h p ch

theorem upgrade_heap (c : Ctx) (w : Nat) : (c.upgrade w).1.heap = c.heap := by
  unfold Ctx.upgrade
  repeat' split
  all_goals first | rfl | exact Ctx.fail_heap _ _

theorem setSlot_frame (c : Ctx) (p i : Nat) (v : Slot) :
    (Arena.setSlot c p i v).steps = c.steps ∧ (Arena.setSlot c p i v).rest = c.rest ∧
    (Arena.setSlot c p i v).pre = c.pre ∧ (Arena.setSlot c p i v).phase = c.phase := by
  unfold Arena.setSlot; split <;> simp

/-- The op is a store (by any write path) of `v` into slot `idx` of object `j`. -/
def Op.writes (op : Op) (j idx : Nat) (v : Slot) : Prop := ∃ path, op = Op.store path j idx v

structure MutFacts (op : Op) (a a' : Arena) : Prop where
  steps : a'.ctx.steps = a.ctx.steps
  rest : a'.ctx.rest = a.ctx.rest
  keep : ∀ j o, a.ctx.heap.get j = some o → ∃ o', a'.ctx.heap.get j = some o' ∧ o'.live = o.live ∧
      o'.needsTrace = o.needsTrace ∧ cls o.color ≤ cls o'.color ∧
      (a.ctx.phase ≠ .mark → o'.color = o.color) ∧ (¬ Held a j → o' = o) ∧
      (o'.slots = o.slots ∨
        ∃ idx v, op.writes j idx v ∧ o'.slots = o.slots.set idx v ∧ a.holdsSlot v = true)
  fresh : ∀ j o', a'.ctx.heap.get j = some o' → a.ctx.heap.get j = none →
      j = a.ctx.heap.size ∧ o'.color = .white ∧ o'.live = true ∧ (∀ p, some p ∈ o'.slots → p ∈ a.temps)
  root : ∀ p, some p ∈ a'.root → some p ∈ a.root ∨ p ∈ a.temps
  temps : ∀ p, p ∈ a'.temps → TempOK a p
  pre : a'.ctx.pre = a.ctx.pre ∨
    (a'.ctx.pre = a.ctx.heap.size :: a.ctx.pre ∧ a.ctx.heap.get a.ctx.heap.size = none)

theorem MutFacts.ofRecol {op : Op} {a a' : Arena} (r : Recol (Held a) a.ctx a'.ctx)
    (hph : a.ctx.phase ≠ .mark → ∀ j, a'.ctx.heap.get j = a.ctx.heap.get j)
    (hroot : ∀ p, some p ∈ a'.root → some p ∈ a.root ∨ p ∈ a.temps)
    (htemps : ∀ p, p ∈ a'.temps → TempOK a p) : MutFacts op a a' := by
  refine ⟨r.steps, r.rest, ?_, ?_, hroot, htemps, Or.inl r.pre⟩
  · intro j o ho
    obtain ⟨o', ho', l, sl, n, cl, u⟩ := r.keep j o ho
    refine ⟨o', ho', l, n, cl, ?_, u, Or.inl sl⟩
    intro hne
    have := hph hne j
    rw [ho', ho] at this
    cases this; rfl
  · intro j o' ho' hn
    obtain ⟨o, ho⟩ := r.noNew j o' ho'
    rw [hn] at ho; cases ho

theorem MutFacts.ofSame {op : Op} {a a' : Arena} (hctx : a'.ctx = a.ctx) (hroot : a'.root = a.root)
    (htemps : ∀ p, p ∈ a'.temps → TempOK a p) : MutFacts op a a' :=
  MutFacts.ofRecol (by rw [hctx]; exact Recol.refl _) (fun _ j => by rw [hctx])
    (fun p hp => Or.inl (by rw [← hroot]; exact hp)) htemps

theorem MutFacts.refl (op : Op) (a : Arena) : MutFacts op a a :=
  MutFacts.ofSame rfl rfl (fun _ hp => Or.inl hp)

theorem MutFacts.push {op : Op} {a a' : Arena} {p : Ptr} (m : MutFacts op a a') (hp : TempOK a p) :
    MutFacts op a (a'.push p) := by
  refine ⟨?_, ?_, ?_, ?_, ?_, fun q hq => ?_, ?_⟩
  · rw [Arena.push_ctx]; exact m.steps
  · rw [Arena.push_ctx]; exact m.rest
  · rw [Arena.push_ctx]; exact m.keep
  · rw [Arena.push_ctx]; exact m.fresh
  · rw [Arena.push_root]; exact m.root
  · rcases (a'.mem_push p).mp hq with rfl | hq
    · exact hp
    · exact m.temps q hq
  · rw [Arena.push_ctx]; exact m.pre

/-- A store into slot `i` of the held, allocated object `p`, with a recolouring before (`c1`) and
    one after it (`c3`) — the write barrier, on whichever side the write path puts it — neither of
    which does anything outside the mark phase. -/
theorem MutFacts.store {a : Arena} {path : StorePath} {p i : Nat} {v : Slot} {c1 c3 : Ctx}
    (cover : List Cover) (hp : Held a p) (hv : a.holdsSlot v = true)
    (hal : ∃ o, a.ctx.heap.get p = some o)
    (r1 : Recol (Held a) a.ctx c1)
    (n1 : a.ctx.phase ≠ .mark → ∀ j, c1.heap.get j = a.ctx.heap.get j)
    (r2 : Recol (Held a) (Arena.setSlot c1 p i v) c3)
    (n2 : a.ctx.phase ≠ .mark → ∀ j, c3.heap.get j = (Arena.setSlot c1 p i v).heap.get j) :
    MutFacts (.store path p i v) a { a with ctx := c3, cover := cover } := by
  obtain ⟨op, hop⟩ := hal
  obtain ⟨o1p, h1p, _⟩ := r1.keep p op hop
  have hget : ∀ j, (Arena.setSlot c1 p i v).heap.get j =
      if j = p then some { o1p with slots := o1p.slots.set i v } else c1.heap.get j := by
    intro j; rw [setSlot_eq h1p, Ctx.setObj_get]
  obtain ⟨s2, re2, pr2, _⟩ := setSlot_frame c1 p i v
  have noNew : ∀ j o3, c3.heap.get j = some o3 → ∃ o, a.ctx.heap.get j = some o := by
    intro j o3 h3
    obtain ⟨o2, h2⟩ := r2.noNew j o3 h3
    rw [hget] at h2
    by_cases hj : j = p
    · exact ⟨op, hj ▸ hop⟩
    · rw [if_neg hj] at h2; exact r1.noNew j o2 h2
  refine ⟨(r2.steps.trans s2).trans r1.steps, (r2.rest.trans re2).trans r1.rest, ?_, ?_,
    fun _ hq => Or.inl hq, fun _ hq => Or.inl hq, Or.inl ((r2.pre.trans pr2).trans r1.pre)⟩
  · intro j o ho
    obtain ⟨o1, h1, l1, sl1, nt1, cl1, u1⟩ := r1.keep j o ho
    have same1 : a.ctx.phase ≠ .mark → o1 = o := fun hne => by
      have := n1 hne j; rw [h1, ho] at this; exact Option.some.inj this
    by_cases hj : j = p
    · subst hj
      have e1 : o1 = o1p := Option.some.inj (h1.symm.trans h1p)
      subst e1
      obtain ⟨o3, h3, l3, sl3, nt3, cl3, _⟩ :=
        r2.keep j { o1 with slots := o1.slots.set i v } (by rw [hget, if_pos rfl])
      refine ⟨o3, h3, l3.trans l1, nt3.trans nt1, Nat.le_trans cl1 cl3, fun hne => ?_,
        fun hn => absurd hp hn, Or.inr ⟨i, v, ⟨path, rfl⟩, sl3.trans (by rw [sl1]), hv⟩⟩
      have := n2 hne j
      rw [h3, hget, if_pos rfl] at this
      rw [Option.some.inj this, ← same1 hne]
    · obtain ⟨o3, h3, l3, sl3, nt3, cl3, u3⟩ := r2.keep j o1 (by rw [hget, if_neg hj]; exact h1)
      refine ⟨o3, h3, l3.trans l1, nt3.trans nt1, Nat.le_trans cl1 cl3, fun hne => ?_,
        fun hn => (u3 hn).trans (u1 hn), Or.inl (sl3.trans sl1)⟩
      have := n2 hne j
      rw [h3, hget, if_neg hj, h1] at this
      rw [Option.some.inj this, same1 hne]
  · intro j o' ho' hn
    obtain ⟨o, ho⟩ := noNew j o' ho'
    rw [hn] at ho; cases ho

theorem MutStep.mutFacts {a a' : Arena} {fin : Bool} {op : Op} {out : String} (h : Inv a)
    (st : MutStep a fin op a' out) :
    MutFacts op a a' := by
  -- only the context changes, by a recolouring that does nothing outside the mark phase
  have ofCtx : ∀ {a' : Arena}, a'.root = a.root → a'.temps = a.temps → Recol (Held a) a.ctx a'.ctx →
      (a.ctx.phase ≠ .mark → ∀ j, a'.ctx.heap.get j = a.ctx.heap.get j) → MutFacts op a a' :=
    fun hr ht r hn => .ofRecol r hn (fun _ hp => Or.inl (hr ▸ hp)) (fun _ hp => Or.inl (ht ▸ hp))
  have sameHeap : ∀ {c' : Ctx}, c'.heap = a.ctx.heap → a.ctx.phase ≠ .mark →
      ∀ j, c'.heap.get j = a.ctx.heap.get j := fun e _ j => by rw [e]
  cases st with
  | same | enter => exact .ofSame rfl rfl (fun _ hp => Or.inl hp)
  | leave => exact .ofSame rfl rfl (fun _ hp => absurd hp List.not_mem_nil)
  | setPacing | adjustDebt => exact ofCtx rfl rfl (Recol.ofSame rfl rfl rfl rfl) (fun _ _ => rfl)
  | enterRoot =>
    obtain ⟨s, r, p, hh⟩ := rootBarrier_frame a.ctx
    exact ofCtx rfl rfl (Recol.ofSame s r p hh) (sameHeap hh)
  | alloc nt slots _ hs _ =>
    refine MutFacts.push ⟨rfl, rfl, ?_, ?_, fun _ hp => Or.inl hp, fun _ hp => Or.inl hp,
      Or.inr ⟨rfl, Heap.get_fresh _⟩⟩ (Or.inr (Or.inr (Or.inr (Or.inr rfl))))
    · intro j o ho
      have hj : j ≠ a.ctx.heap.size := Nat.ne_of_lt (Heap.lt_size_of_get _ _ _ ho)
      exact ⟨o, by simp only [link_get, hj, if_false]; exact ho, rfl, rfl, Nat.le_refl _,
        fun _ => rfl, fun _ => rfl, Or.inl rfl⟩
    · intro j o' ho' hn
      simp only [link_get] at ho'
      by_cases hj : j = a.ctx.heap.size
      · rw [if_pos hj] at ho'; cases ho'; exact ⟨hj, rfl, rfl, hs⟩
      · rw [if_neg hj, hn] at ho'; cases ho'
  | hold _ p _ hp => exact (MutFacts.refl op a).push hp.tempOK
  | upgradeSome w _ hw _ =>
    exact .push (ofCtx rfl rfl (touch_upgrade _ w).toRecol (sameHeap (upgrade_heap _ w)))
      (Or.inr (Or.inl ⟨_, hw, rfl⟩))
  | upgradeNone w => exact ofCtx rfl rfl (touch_upgrade _ w).toRecol (sameHeap (upgrade_heap _ w))
  | dangling => exact ofCtx rfl rfl (touch_fail _ _).toRecol (sameHeap (Ctx.fail_heap _ _))
  | resurrect p hcb hp _ =>
    -- `resurrect` is only offered by the finalization callback, which runs in the mark phase
    exact .push (ofCtx rfl rfl (touch_resurrect _ _ (held_of_mem hp)).toRecol
      (fun hne => absurd (h.finMark hcb) hne)) (Or.inr (Or.inl ⟨_, hp, rfl⟩))
  | barrier b _ hb =>
    exact ofCtx rfl rfl (touch_barrier _ b (held_of_mem (hb _ b.target_mem))).toRecol
      (fun hne j => by rw [b.apply_noop hne])
  | store path p i v _ hp hv hs =>
    have held : Held a p := held_of_mem hp
    have hvs : a.holdsSlot v = true := by
      cases v with
      | none => rfl
      | some q => exact (holds_iff a q).mpr (hv q rfl)
    have hal : ∃ o, a.ctx.heap.get p = some o := by
      unfold Arena.slotOf at hs
      cases ho : a.ctx.heap.get p with
      | none => rw [ho] at hs; cases hs
      | some o => exact ⟨o, rfl⟩
    have bb := fun c : Ctx => (touch_backwardBarrier c p none held).toRecol
    cases path with
    | write =>
      exact .store _ held hvs hal (bb _) (fun hne j => by rw [backwardBarrier_noop hne])
        (Recol.refl _) (fun _ _ => rfl)
    | raw => exact .store _ held hvs hal (Recol.refl _) (fun _ _ => rfl) (Recol.refl _) (fun _ _ => rfl)
    | storeThenBarrier =>
      exact .store _ held hvs hal (Recol.refl _) (fun _ _ => rfl) (bb _) (fun hne j => by
        rw [StorePath.apply, backwardBarrier_noop (by rw [(setSlot_frame _ p i v).2.2.2]; exact hne)])
  | rootStore i v _ hv =>
    refine .ofRecol (Recol.refl _) (fun _ _ => rfl) (fun q hq => ?_) (fun _ hq => Or.inl hq)
    rcases mem_set_slot hq with hq | hq
    · exact Or.inl hq
    · exact Or.inr (hv q hq)

theorem stepBody_mutFacts {a : Arena} (h : Inv a) (fin : Bool) (op : Op) (hop : op.isMutator = true) :
    MutFacts op a (a.stepBody fin op).1 := (stepBody_mutStep a fin op hop).mutFacts h

theorem step_mutFacts {a : Arena} (h : Inv a) (op : Op) (hop : op.isMutator = true) :
    MutFacts op a (a.step op).1 := by
  rw [step_eq h.alive]
  have m := stepBody_mutFacts h.unmark a.marked op hop
  exact ⟨m.steps, m.rest, m.keep, m.fresh, m.root, m.temps, m.pre⟩

end GcArena
