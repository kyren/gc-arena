import GcArena.Proofs.Transitions
/-!
  What the collector's steps do to the heap and to the log.

  The heap's size (the next fresh id) changes only in `link`: every other heap write targets an
  allocated cell.  `sweepOne_at` says what `sweep_one` does with an object under the cursor: the
  cell it leaves, the events it logs, the two lists and the step character.  From it:
  which steps emit `dropped` / `freed` events and about which objects (`micro_events`), that safe
  objects keep their slots (`Persist`), and that whatever is undestructed after a collector step
  was so before, with the same contents (`LiveFrame`).
-/
namespace GcArena

theorem Heap.size_set_of_get {h : Heap} {i : Nat} {o : Obj} (hg : h.get i = some o) (v : Option Obj) :
    (h.set i v).size = h.size := by
  rw [Heap.size_set]
  have := Heap.lt_size_of_get h i o hg
  omega

namespace Ctx

theorem setObj_size {c : Ctx} {i : Nat} {o : Obj} (hg : c.heap.get i = some o) (o' : Obj) :
    (c.setObj i o').heap.size = c.heap.size := Heap.size_set_of_get hg _

theorem markOne_size (c : Ctx) (root : List Slot) (f : Option Nat) :
    (c.markOne root f).1.heap.size = c.heap.size :=
  markOne_induct (P := fun x => x.heap.size = c.heap.size) c root f (fun e h => by rw [e]; exact h)
    (fun {x} i o _ ho h => by
      have := Heap.lt_size_of_get _ i o ho
      show (x.heap.set i _).size = _
      rw [Heap.size_set, h]; omega)
    (fun p _ h => match p with
      | .strong t => (touch_trace (T := fun _ => True) _ t trivial).size.trans h
      | .weak t => (touch_traceWeak (T := fun _ => True) _ t trivial).size.trans h)
    (fun i _ h => (touch_makeGrayAgain (T := fun _ => True) _ i trivial).size.trans h) rfl

end Ctx

def Event.target : Event → Nat
  | .dropped i => i
  | .freed i => i

/-- The events a step appended to the log. -/
def NewEvents (c c' : Ctx) (evs : List Event) : Prop := c'.log = evs ++ c.log

theorem NewEvents.trans {a b c : Ctx} {e1 e2 : List Event} (h1 : NewEvents a b e1) (h2 : NewEvents b c e2) :
    NewEvents a c (e2 ++ e1) := by
  unfold NewEvents at *; rw [h2, h1, List.append_assoc]

/-- What `sweep_one` leaves in the cell of the object `o` it found under the cursor … -/
def sweptCell (o : Obj) : Option Obj :=
  match o.color with
  | .white => none
  | .whiteWeak =>
    some (if o.live then { o with color := .white, live := false, slots := [] } else { o with color := .white })
  | .black => some { o with color := .white }
  | .gray => some o

/-- … and the events it logs about it (newest first). -/
def sweptEvents (i : Nat) (o : Obj) : List Event :=
  match o.color with
  | .white => .freed i :: (if o.live then [.dropped i] else [])
  | .whiteWeak => if o.live then [.dropped i] else []
  | _ => []

theorem sweepOne_at {c : Ctx} {i : Nat} {r : List Nat} {o : Obj} (hr : c.rest = i :: r)
    (ho : c.heap.get i = some o) :
    c.sweepOne.1.log = sweptEvents i o ++ c.log ∧
    (∀ j, c.sweepOne.1.heap.get j = if j = i then sweptCell o else c.heap.get j) ∧
    c.sweepOne.1.heap.size = c.heap.size ∧ c.sweepOne.1.rest = r ∧
    c.sweepOne.1.pre = (if o.color = .white ∨ o.color = .gray then c.pre else c.pre ++ [i]) ∧
    c.sweepOne.1.steps = 'x' :: c.steps := by
  unfold Ctx.sweepOne
  simp only [hr, Ctx.step_heap, ho]
  cases hcol : o.color with
  | white | whiteWeak =>
    cases hl : o.live <;>
      simp [sweptCell, sweptEvents, hcol, hl, Heap.get_set, Ctx.setObj, Heap.size_set_of_get ho, Ctx.step]
  | black | gray =>
    simp [sweptCell, sweptEvents, hcol, ho, Heap.get_set, Ctx.setObj, Heap.size_set_of_get ho, Ctx.step]

/-- The cursor's object is gone (excluded by the invariant): `sweep_one` only records the fault. -/
theorem sweepOne_none {c : Ctx} {i : Nat} {r : List Nat} (hr : c.rest = i :: r) (hg : c.heap.get i = none) :
    c.sweepOne.1 = (({ c with rest := r } : Ctx).step 'x').fail .dangling := by
  simp [Ctx.sweepOne, hr, hg]

theorem mem_sweptEvents {i : Nat} {o : Obj} {e : Event} (he : e ∈ sweptEvents i o) :
    e.target = i ∧ o.color ≠ .black ∧ (e = .dropped i → o.live = true) := by
  have drop : e ∈ (if o.live then [Event.dropped i] else []) → e = .dropped i ∧ o.live = true := by
    cases o.live <;> simp
  unfold sweptEvents at he
  split at he
  next hc =>
    rcases List.mem_cons.mp he with rfl | he
    · exact ⟨rfl, by simp [hc], nofun⟩
    · obtain ⟨rfl, hl⟩ := drop he
      exact ⟨rfl, by simp [hc], fun _ => hl⟩
  next hc =>
    obtain ⟨rfl, hl⟩ := drop he
    exact ⟨rfl, by simp [hc], fun _ => hl⟩
  next => cases he

theorem sweepOne_events {c : Ctx} {root temps} (h : CInv c root temps) (hp : c.phase = .sweep) :
    ∃ evs, NewEvents c c.sweepOne.1 evs ∧
      ∀ e, e ∈ evs → e.target ∈ c.rest ∧ ¬ Safe c e.target ∧
        (∃ o, c.heap.get e.target = some o ∧ (e = .dropped e.target → o.live = true)) := by
  cases hr : c.rest with
  | nil => rw [sweepOne_end hr]; exact ⟨[], rfl, nofun⟩
  | cons i r =>
    obtain ⟨o, ho⟩ := (h.memAll i).mp (by rw [hr]; simp)
    refine ⟨sweptEvents i o, (sweepOne_at hr ho).1, fun e he => ?_⟩
    obtain ⟨ht, hnb, hd⟩ := mem_sweptEvents he
    rw [ht]
    refine ⟨by simp, ?_, o, ho, hd⟩
    -- a safe object the cursor has not reached yet is black
    rintro ⟨o2, ho2, _, hb⟩
    rw [ho] at ho2; cases ho2
    exact hnb (hb hp (by rw [hr]; simp))

theorem micro_events {c c' : Ctx} {root} (h : CInv c root []) (m : Micro)
    (hs : c.micro root m = some c') :
    ∃ evs, NewEvents c c' evs ∧ ∀ e, e ∈ evs → ¬ AccessibleC c root [] e.target := by
  rcases (micro_iff.mp hs).kind with ⟨_, hl⟩ | ⟨hp, f, rfl⟩ | ⟨hp, rfl⟩
  · exact ⟨[], hl, nofun⟩
  · exact ⟨[], (markOne_spec h hp f).2.log, nofun⟩
  · obtain ⟨evs, hn, he⟩ := sweepOne_events h hp
    exact ⟨evs, hn, fun e hem hacc => (he e hem).2.1 (h.safe_of_accessible hacc)⟩

/-- Safe objects keep their slots across the step. -/
def Persist (c c' : Ctx) : Prop :=
  ∀ i o, c.heap.get i = some o → Safe c i → ∃ o', c'.heap.get i = some o' ∧ o'.slots = o.slots

theorem Persist.accessible {c c' : Ctx} {root temps hole} (hp : Persist c c') (h : CInvH c root temps hole)
    {i : Nat} (ha : AccessibleC c root temps i) : AccessibleC c' root temps i := by
  induction ha with
  | root t ht => exact .root t ht
  | temp t ht => exact .temp t ht
  | edge i t hi e ih =>
    obtain ⟨o, ho, hs⟩ := e
    obtain ⟨o', ho', hsl⟩ := hp i o ho (h.safe_of_accessible hi)
    exact .edge i t ih ⟨o', ho', by rw [hsl]; exact hs⟩

theorem sweepOne_persist {c : Ctx} {root temps} (h : CInv c root temps) (hp : c.phase = .sweep) :
    Persist c c.sweepOne.1 := by
  intro j oj hoj hsj
  cases hr : c.rest with
  | nil => rw [sweepOne_end hr]; exact ⟨oj, hoj, rfl⟩
  | cons i r =>
    obtain ⟨o, ho⟩ := (h.memAll i).mp (by rw [hr]; simp)
    rw [(sweepOne_at hr ho).2.1]
    by_cases hj : j = i
    · -- the object under the cursor is safe, hence black: it is only whitened
      subst hj
      obtain ⟨o2, ho2, _, hb⟩ := hsj
      rw [hoj] at ho; cases ho
      rw [hoj] at ho2; cases ho2
      exact ⟨{ oj with color := .white }, by simp [sweptCell, hb hp (by rw [hr]; simp)], rfl⟩
    · exact ⟨oj, by rw [if_neg hj]; exact hoj, rfl⟩

theorem micro_persist {c c' : Ctx} {root} (h : CInv c root []) (m : Micro)
    (hs : c.micro root m = some c') : Persist c c' := by
  rcases (micro_iff.mp hs).kind with ⟨hh, _⟩ | ⟨hp, f, rfl⟩ | ⟨hp, rfl⟩
  · exact fun i o ho _ => ⟨o, by rw [hh]; exact ho, rfl⟩
  · intro i o ho _
    have fr := (markOne_spec h hp f).2
    obtain ⟨o', ho'⟩ := (fr.alloc i).mpr ⟨o, ho⟩
    exact ⟨o', ho', (fr.live i o o' ho ho').2.1⟩
  · exact sweepOne_persist h hp

theorem micros_events {root} (ms : List Micro) : ∀ {c c' : Ctx}, CInv c root [] →
    c.micros root ms = some c' →
    (∃ evs, NewEvents c c' evs ∧ ∀ e, e ∈ evs → ¬ AccessibleC c root [] e.target) ∧
    (∀ i, AccessibleC c root [] i → AccessibleC c' root [] i) := by
  refine micros_lift (R := fun c c' =>
      (∃ evs, NewEvents c c' evs ∧ ∀ e, e ∈ evs → ¬ AccessibleC c root [] e.target) ∧
      (∀ i, AccessibleC c root [] i → AccessibleC c' root [] i))
    (fun c => ⟨⟨[], rfl, nofun⟩, fun _ hi => hi⟩) ?_
    (fun h st => ⟨micro_events h _ (micro_iff.mpr st),
      fun i hi => (micro_persist h _ (micro_iff.mpr st)).accessible h hi⟩) ms
  -- the later events concern objects inaccessible midway, hence (what was accessible stays so)
  -- inaccessible at the start
  rintro a b c ⟨⟨e1, hn1, ha1⟩, k1⟩ ⟨⟨e2, hn2, ha2⟩, k2⟩
  refine ⟨⟨e2 ++ e1, hn1.trans hn2, fun e he => ?_⟩, fun i hi => k2 i (k1 i hi)⟩
  rcases List.mem_append.mp he with he | he
  · exact fun hacc => ha2 e he (k1 _ hacc)
  · exact ha1 e he

/-- The collector allocates nothing, resurrects nothing and rewrites no value: every object
    undestructed in `c'` was undestructed in `c`, with the same slots and `needs_trace`. -/
structure LiveFrame (c c' : Ctx) : Prop where
  size : c'.heap.size = c.heap.size
  back : ∀ i o', c'.heap.get i = some o' → o'.live = true →
    ∃ o, c.heap.get i = some o ∧ o.live = true ∧ o'.slots = o.slots ∧ o'.needsTrace = o.needsTrace

theorem LiveFrame.ofHeap {c c' : Ctx} (h : c'.heap = c.heap) : LiveFrame c c' :=
  ⟨by rw [h], fun i o' ho' hl => ⟨o', by rw [← h]; exact ho', hl, rfl, rfl⟩⟩

theorem LiveFrame.refl (c : Ctx) : LiveFrame c c := .ofHeap rfl

theorem LiveFrame.trans {a b c : Ctx} (h1 : LiveFrame a b) (h2 : LiveFrame b c) : LiveFrame a c := by
  refine ⟨h2.size.trans h1.size, fun i o2 ho2 hl2 => ?_⟩
  obtain ⟨o1, ho1, hl1, s1, n1⟩ := h2.back i o2 ho2 hl2
  obtain ⟨o, ho, hl, s, n⟩ := h1.back i o1 ho1 hl1
  exact ⟨o, ho, hl, s1.trans s, n1.trans n⟩

theorem LiveFrame.at {c c' : Ctx} (f : LiveFrame c c') {i : Nat} {o o' : Obj} (ho : c.heap.get i = some o)
    (ho' : c'.heap.get i = some o') (hl : o'.live = true) : o'.slots = o.slots ∧ o.live = true := by
  obtain ⟨o2, ho2, hl2, s, _⟩ := f.back i o' ho' hl
  rw [ho] at ho2; cases ho2
  exact ⟨s, hl2⟩

theorem sweptCell_live {o o' : Obj} (h : sweptCell o = some o') (hl : o'.live = true) :
    o.live = true ∧ o'.slots = o.slots ∧ o'.needsTrace = o.needsTrace := by
  unfold sweptCell at h
  split at h
  · cases h
  · -- the shell left of a destructed weakly marked object is not live
    split at h <;> cases h
    · cases hl
    · exact ⟨hl, rfl, rfl⟩
  · cases h; exact ⟨hl, rfl, rfl⟩
  · cases h; exact ⟨hl, rfl, rfl⟩

theorem sweepOne_liveFrame (c : Ctx) : LiveFrame c c.sweepOne.1 := by
  cases hr : c.rest with
  | nil => rw [sweepOne_end hr]; exact .ofHeap rfl
  | cons i r =>
    cases ho : c.heap.get i with
    | none => exact .ofHeap (by rw [sweepOne_none hr ho, Ctx.fail_heap]; rfl)
    | some o =>
      obtain ⟨_, hget, hsz, _⟩ := sweepOne_at hr ho
      refine ⟨hsz, fun j oj' hoj' hl => ?_⟩
      rw [hget] at hoj'
      by_cases hj : j = i
      · rw [if_pos hj] at hoj'
        exact ⟨o, hj ▸ ho, sweptCell_live hoj' hl⟩
      · rw [if_neg hj] at hoj'
        exact ⟨oj', hoj', hl, rfl, rfl⟩

theorem Ctx.sweepOne_size (c : Ctx) : c.sweepOne.1.heap.size = c.heap.size := (sweepOne_liveFrame c).size

theorem MicroStep.size {root : List Slot} {c c' : Ctx} {m : Micro} (st : MicroStep root c m c') :
    c'.heap.size = c.heap.size := by
  rcases st.kind with ⟨hh, _⟩ | ⟨_, f, rfl⟩ | ⟨_, rfl⟩
  · rw [hh]
  · exact Ctx.markOne_size _ _ _
  · exact Ctx.sweepOne_size _

theorem MicroStep.liveFrame {c c' : Ctx} {root} {m : Micro} (h : CInv c root [])
    (st : MicroStep root c m c') : LiveFrame c c' := by
  rcases st.kind with ⟨hh, _⟩ | ⟨hp, f, rfl⟩ | ⟨_, rfl⟩
  · exact .ofHeap hh
  · have fr := (markOne_spec h hp f).2
    refine ⟨Ctx.markOne_size _ _ _, fun i o' ho' hl => ?_⟩
    obtain ⟨o, ho⟩ := (fr.alloc i).mp ⟨o', ho'⟩
    obtain ⟨l, s, n⟩ := fr.live i o o' ho ho'
    exact ⟨o, ho, l ▸ hl, s, n⟩
  · exact sweepOne_liveFrame c

theorem Reaches.liveFrame {c c' : Ctx} {root} (r : Reaches c root c') (h : CInv c root []) :
    LiveFrame c c' := by
  obtain ⟨ms, hs⟩ := r
  exact micros_lift LiveFrame.refl LiveFrame.trans MicroStep.liveFrame ms h hs

theorem CollectRel.liveFrame {a a' : Arena} (h : Inv a) (rel : CollectRel a a') :
    LiveFrame a.ctx a'.ctx :=
  rel.lift h LiveFrame.refl LiveFrame.trans MicroStep.liveFrame

end GcArena
