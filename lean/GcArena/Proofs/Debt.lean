import GcArena.Proofs.Transitions
import GcArena.Proofs.Loop
import GcArena.Proofs.Protocol
/-!
  Debt facts of the driver loop (exact rationals): `collect_debt` returns with the debt paid; `mark_debt`
  (`RunUntil::PayDebt`, `Stop::FullyMarked`) returns with the debt paid, or fully marked (its
  documented stopping phase) — or it was called while Sweeping, where it does nothing.
-/
namespace GcArena

theorem debt_nonneg (m : Metrics) : 0 ≤ m.allocationDebt := by
  unfold Metrics.allocationDebt
  split
  · exact Rat.le_refl
  · split
    · exact Rat.le_refl
    · grind

theorem debt_zero_of_not_hasDebt (m : Metrics) (h : m.hasDebt = false) : m.allocationDebt = 0 := by
  have h1 := debt_nonneg m
  simp only [Metrics.hasDebt, decide_eq_false_iff_not] at h
  grind

/-- After `finish_cycle(true)` (an atomic full cycle) the debt is zero. -/
theorem debt_zero_after_reset (m : Metrics) : (m.finishCycle true).allocationDebt = 0 := by
  unfold Metrics.finishCycle Metrics.allocationDebt Metrics.cycleDebits
  simp only [if_true]
  split
  · rfl
  · have : (0 : Rat) ≤ (m.pacing.minSleep : Rat) := Rat.natCast_nonneg
    split
    · rfl
    · rename_i h2; exfalso; apply h2
      grind

/-- `collect_debt` (RunUntil::PayDebt, Stop::Full): every normal return has zero debt — there was
    none to pay, or the call went through `finish_cycle(true)`. -/
theorem doCollection_collectDebt_zero {c c' : Ctx} {root : List Slot} {fault : TraceFault}
    (h : c.doCollection root .payDebt .full fault = (c', .returned)) (hnd : c'.phase ≠ .drop) :
    c'.metrics.allocationDebt = 0 := by
  rcases doCollection_exit h with ⟨_, hd, _⟩ | ⟨hst, _⟩ | ⟨hst, _⟩ | ⟨c1, b, he, hb⟩ | ⟨hd, _⟩
  · exact debt_zero_of_not_hasDebt _ hd
  · exact absurd hst (by decide)
  · exact absurd hst (by decide)
  · rcases hb with hb | hb
    · cases hb
    · rw [he, hb]
      exact debt_zero_after_reset c1.metrics
  · exact absurd hd hnd

theorem doCollection_markDebt {c c' : Ctx} {root fault} (h : CInv c root [])
    (hr : c.doCollection root .payDebt .fullyMarked fault = (c', .returned)) :
    c'.metrics.allocationDebt = 0 ∨ Arena.isMarked c' = true ∨ (c.phase = .sweep ∧ c' = c) := by
  rcases doCollection_cases c root .payDebt .fullyMarked fault with ⟨_, hd, he⟩ | ⟨_, he⟩ <;> rw [he] at hr
  · cases hr
    exact .inl (debt_zero_of_not_hasDebt _ hd)
  · by_cases hp : c.phase = .sweep
    · -- the first iteration returns at once: `stop <= Stop::AtSweep`
      rw [(Arm.atSweep hp (by decide)).eq (2 * c.fuelBound root + 7)] at hr
      cases hr
      exact .inr (.inr ⟨hp, rfl⟩)
    · rcases collectLoop_stop_fullyMarked h hp hr with hb | hm
      · exact .inl (debt_zero_of_not_hasDebt _ (debtBreak_iff.mp hb).2.1)
      · exact .inr (.inl hm)

end GcArena
