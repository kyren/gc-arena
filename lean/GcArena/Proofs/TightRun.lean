import GcArena.Proofs.ProtRun
/-!
  Tightness of marking (Proofs/Tight) along histories without mutation: collection calls of every
  kind interleaved with *observer* operations — callbacks that only read.
-/
namespace GcArena

/-- Operations that change neither the heap nor the root: entering / leaving callbacks, reads,
    `downgrade`, `upgrade`, `is_dropped`, `is_dead`, pacing and debt knobs.
    `enter mutateRoot` counts as an observer although `mutate_root` calls `root_barrier()`: that
    only sets `root_needs_trace` (Marked → Marking, the root is traced once more); it changes no
    object, no colour, no list and not the root, which is all `Tight` and reachability read
    (`MutStep.observer`: `HeapView` + same root).  An *actual* replacement of a root field is
    `rootStore`, which is not an observer.  Re-tracing an unchanged root marks only what is
    reachable, so tightness survives (`markOne_tight` covers the root trace). -/
def Op.isObserver : Op → Bool
  | .setPacing _ | .adjustDebt _ | .enter _ | .leave | .readRoot _ | .read _ _ | .downgrade _
  | .upgrade _ | .isDropped _ | .isDead _ => true
  | _ => false

theorem Op.isObserver_mutator {op : Op} (h : op.isObserver = true) : op.isMutator = true := by
  cases op <;> first | rfl | cases h

structure HeapView (c c' : Ctx) : Prop where
  heap : ∀ j, c'.heap.get j = c.heap.get j
  phase : c'.phase = c.phase
  pre : c'.pre = c.pre

theorem HeapView.refl (c : Ctx) : HeapView c c := ⟨fun _ => rfl, rfl, rfl⟩

theorem Tight.view {c c' : Ctx} {root} (v : HeapView c c') (t : Tight c root) : Tight c' root :=
  t.ofHeap v.heap (fun hp _ hi => ⟨v.phase ▸ hp, v.pre ▸ hi⟩)

theorem Tight.ofView {c c' : Ctx} {root} (h : CInv c root []) (v : HeapView c c') (t : Tight c root) :
    Tight c' root :=
  t.view v

/-- A recolouring primitive that is handed no object changes no cell. -/
theorem Touch.heapView {c c' : Ctx} (t : Touch (fun _ => False) c c') : HeapView c c' := by
  refine ⟨fun j => ?_, t.phase, t.pre⟩
  cases ho : c.heap.get j with
  | some o =>
    obtain ⟨o', ho', _, _, _, _, u⟩ := t.keep j o ho
    rw [ho', u id]
  | none =>
    cases ho' : c'.heap.get j with
    | none => rfl
    | some o' => obtain ⟨o, ho2⟩ := t.noNew j o' ho'; rw [ho] at ho2; cases ho2

theorem MutStep.observer {a a' : Arena} {fin : Bool} {op : Op} {out : String}
    (st : MutStep a fin op a' out)
    (hop : op.isObserver = true) : HeapView a.ctx a'.ctx ∧ a'.root = a.root := by
  cases st with
  | same | enter | leave => exact ⟨.refl _, rfl⟩
  | hold => exact ⟨by rw [Arena.push_ctx]; exact .refl _, Arena.push_root ..⟩
  | setPacing | adjustDebt => exact ⟨⟨fun _ => rfl, rfl, rfl⟩, rfl⟩
  | enterRoot => exact ⟨by unfold Ctx.rootBarrier; split <;> exact ⟨fun _ => rfl, rfl, rfl⟩, rfl⟩
  | upgradeSome => exact ⟨by rw [Arena.push_ctx]; exact (touch_upgrade _ _).heapView, Arena.push_root ..⟩
  | upgradeNone => exact ⟨(touch_upgrade _ _).heapView, rfl⟩
  | dangling => exact ⟨(touch_fail _ _).heapView, rfl⟩
  | alloc | resurrect | barrier | store | rootStore => cases hop

def TightOrAsleep (a : Arena) : Prop := a.ctx.phase ≠ .sleep → Tight a.ctx a.root

theorem step_tightOrAsleep {a : Arena} (h : Inv a) (op : Op) (hal : (a.step op).1.alive = true)
    (hop : op.isObserver = true ∨ op.isMutator = false) (t : TightOrAsleep a) :
    TightOrAsleep (a.step op).1 := by
  unfold TightOrAsleep
  rcases step_kind h op hal with hm | rel
  · obtain ⟨v, hroot⟩ := (step_mutStep h.alive hm).observer (hop.resolve_right (by rw [hm]; simp))
    rw [hroot]
    exact fun hp => (t (by rw [← v.phase]; exact hp)).view v
  · rw [rel.root]
    exact rel.lift
      (R := fun c c' => (c.phase ≠ .sleep → Tight c a.root) → c'.phase ≠ .sleep → Tight c' a.root)
      h (fun _ t => t) (fun h1 h2 t => h2 (h1 t)) (fun h0 st t _ => micro_tight h0 st t) t

theorem run_tightOrAsleep (ops : List Op) : ∀ (a : Arena), Inv a → (a.run ops).alive = true →
    (∀ op, op ∈ ops → op.isObserver = true ∨ op.isMutator = false) → TightOrAsleep a →
    TightOrAsleep (a.run ops) ∧ Inv (a.run ops) := by
  induction ops with
  | nil => intro a h _ _ t; exact ⟨t, h⟩
  | cons op ops ih =>
    intro a h hal hops t
    simp only [Arena.run] at hal ⊢
    have hal1 := alive_of_run_alive hal
    exact ih _ (inv_step h op hal1) hal (fun o ho => hops o (List.mem_cons_of_mem _ ho))
      (step_tightOrAsleep h op hal1 (hops op (by simp)) t)

end GcArena
