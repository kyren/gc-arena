import GcArena.Proofs.Protocol
import GcArena.Proofs.Touch
/-!
  The accounting invariant `Acc`: the work counters of `Metrics` (`marked`, `traced`,
  `remembered`, `dropped`, `freed`) never run ahead of the colours on the `all` list.

  * Sleep: all five are zero (reset by `finish_cycle`, nothing increments them while asleep).
  * Mark: `marked ≤ #non-white`, `traced ≤ #black` (on the list), the sweep counters are zero.
  * Sweep: the counters split into what was done to black objects (`rb` remembered), to
    weakly-marked objects (`rw` remembered as shells, `dw` of them destructed now) and to white
    objects (`freed`, `dfr` of them destructed first); the mark counters are bounded by what is
    still in front of the cursor plus what was already remembered.

  It is independent of the pacing factors.  This file: counting lemmas, the definition, and
  preservation by the collector / mutator primitives of `Model/Context.lean`.
-/
namespace GcArena

theorem countP_le_succ_of_imp {p q : Nat → Bool} (t : Nat) (l : List Nat) (hnd : l.Nodup)
    (h : ∀ i, i ∈ l → i ≠ t → p i = true → q i = true) : l.countP p ≤ l.countP q + 1 := by
  induction l with
  | nil => simp
  | cons a l ih =>
    have hnd' := List.nodup_cons.mp hnd
    simp only [List.countP_cons]
    by_cases ha : a = t
    · have hle : l.countP p ≤ l.countP q := by
        apply countP_le_of_imp
        intro i hi hp
        exact h i (List.mem_cons_of_mem _ hi) (fun he => hnd'.1 (by rw [ha, ← he]; exact hi)) hp
      have h1 : (if p a = true then 1 else 0) ≤ 1 := by split <;> omega
      omega
    · have ih' := ih hnd'.2 (fun i hi => h i (List.mem_cons_of_mem _ hi))
      by_cases hp : p a = true
      · rw [if_pos hp, if_pos (h a List.mem_cons_self ha hp)]
        omega
      · rw [if_neg hp]
        split <;> omega

theorem countP_eq_of_eq {p q : Nat → Bool} (l : List Nat) (h : ∀ i, i ∈ l → p i = q i) :
    l.countP p = l.countP q := by
  induction l with
  | nil => rfl
  | cons a l ih =>
    simp only [List.countP_cons, h a (by simp), ih (fun i hi => h i (List.mem_cons_of_mem _ hi))]

def colOf (c : Ctx) (j : Nat) : Option Color := (c.heap.get j).map Obj.color

def isBlk (c : Ctx) (j : Nat) : Bool := colOf c j == some .black

/-- Allocated and not white ("marked" in the sense of `mark_gc_marked`). -/
def isMk (c : Ctx) (j : Nat) : Bool := (colOf c j).isSome && colOf c j != some .white

def nB (c : Ctx) (l : List Nat) : Nat := l.countP (isBlk c)
def nM (c : Ctx) (l : List Nat) : Nat := l.countP (isMk c)

theorem nB_le_nM (c : Ctx) (l : List Nat) : nB c l ≤ nM c l := by
  apply countP_le_of_imp
  intro i _ hb
  unfold isBlk at hb
  unfold isMk
  cases h : colOf c i with
  | none => simp [h] at hb
  | some col => simp [h] at hb; simp [hb]

theorem nM_le_length (c : Ctx) (l : List Nat) : nM c l ≤ l.length := List.countP_le_length

theorem nB_congr {c c' : Ctx} (l : List Nat) (h : ∀ j, j ∈ l → colOf c' j = colOf c j) :
    nB c' l = nB c l :=
  countP_eq_of_eq l (fun j hj => by unfold isBlk; rw [h j hj])

theorem nM_congr {c c' : Ctx} (l : List Nat) (h : ∀ j, j ∈ l → colOf c' j = colOf c j) :
    nM c' l = nM c l :=
  countP_eq_of_eq l (fun j hj => by unfold isMk; rw [h j hj])

theorem nB_append (c : Ctx) (l1 l2 : List Nat) : nB c (l1 ++ l2) = nB c l1 + nB c l2 := by
  simp [nB, List.countP_append]

theorem nM_append (c : Ctx) (l1 l2 : List Nat) : nM c (l1 ++ l2) = nM c l1 + nM c l2 := by
  simp [nM, List.countP_append]

theorem nB_cons (c : Ctx) (i : Nat) (l : List Nat) :
    nB c (i :: l) = nB c l + (if isBlk c i then 1 else 0) := by
  simp [nB, List.countP_cons]

theorem nM_cons (c : Ctx) (i : Nat) (l : List Nat) :
    nM c (i :: l) = nM c l + (if isMk c i then 1 else 0) := by
  simp [nM, List.countP_cons]

/-- `c'` is `c` with the object at `t` replaced (`o ↦ o'`). -/
structure AccRecol (c c' : Ctx) (t : Nat) (o o' : Obj) : Prop where
  get_t : c.heap.get t = some o
  heap : ∀ j, c'.heap.get j = if j = t then some o' else c.heap.get j

theorem AccRecol.colOf_ne {c c' t o o'} (r : AccRecol c c' t o o') {j : Nat} (hj : j ≠ t) :
    colOf c' j = colOf c j := by
  unfold colOf; rw [r.heap]; simp [hj]

theorem AccRecol.colOf_t {c c' t o o'} (r : AccRecol c c' t o o') : colOf c' t = some o'.color := by
  unfold colOf; rw [r.heap]; simp

theorem AccRecol.colOf_t0 {c c' t o o'} (r : AccRecol c c' t o o') : colOf c t = some o.color := by
  unfold colOf; rw [r.get_t]; rfl

theorem AccRecol.nM_mono {c c' t o o'} (r : AccRecol c c' t o o') (l : List Nat)
    (h : o.color ≠ .white → o'.color ≠ .white) : nM c l ≤ nM c' l := by
  apply countP_le_of_imp
  intro j _ hq
  by_cases hj : j = t
  · subst hj
    unfold isMk at hq ⊢
    rw [r.colOf_t0] at hq
    rw [r.colOf_t]
    simp at hq ⊢
    exact h hq
  · unfold isMk at hq ⊢; rw [r.colOf_ne hj]; exact hq

theorem AccRecol.nM_up {c c' t o o'} (r : AccRecol c c' t o o') (l : List Nat) (ht : t ∈ l)
    (h0 : o.color = .white) (h1 : o'.color ≠ .white) : nM c l + 1 ≤ nM c' l := by
  apply countP_lt_of_imp l _ t ht
  · unfold isMk; rw [r.colOf_t]; simp [h1]
  · unfold isMk; rw [r.colOf_t0]; simp [h0]
  · intro j _ hq
    by_cases hj : j = t
    · subst hj; unfold isMk at hq; rw [r.colOf_t0] at hq; simp [h0] at hq
    · unfold isMk at hq ⊢; rw [r.colOf_ne hj]; exact hq

theorem AccRecol.nB_mono {c c' t o o'} (r : AccRecol c c' t o o') (l : List Nat)
    (h : o.color = .black → o'.color = .black) : nB c l ≤ nB c' l := by
  apply countP_le_of_imp
  intro j _ hq
  by_cases hj : j = t
  · subst hj
    unfold isBlk at hq ⊢
    rw [r.colOf_t0] at hq
    rw [r.colOf_t]
    simp at hq ⊢
    exact h hq
  · unfold isBlk at hq ⊢; rw [r.colOf_ne hj]; exact hq

theorem AccRecol.nB_up {c c' t o o'} (r : AccRecol c c' t o o') (l : List Nat) (ht : t ∈ l)
    (h0 : o.color ≠ .black) (h1 : o'.color = .black) : nB c l + 1 ≤ nB c' l := by
  apply countP_lt_of_imp l _ t ht
  · unfold isBlk; rw [r.colOf_t]; simp [h1]
  · unfold isBlk; rw [r.colOf_t0]; simp [h0]
  · intro j _ hq
    by_cases hj : j = t
    · subst hj; unfold isBlk at hq; rw [r.colOf_t0] at hq; simp [h0] at hq
    · unfold isBlk at hq ⊢; rw [r.colOf_ne hj]; exact hq

theorem AccRecol.nB_down {c c' t o o'} (r : AccRecol c c' t o o') (l : List Nat) (hnd : l.Nodup) :
    nB c l ≤ nB c' l + 1 := by
  apply countP_le_succ_of_imp t l hnd
  intro j _ hj hq
  unfold isBlk at hq ⊢; rw [r.colOf_ne hj]; exact hq

/-- What the counting needs of the list shape (two clauses of `CInvH`). -/
structure LI (c : Ctx) : Prop where
  nodup : (c.pre ++ c.rest).Nodup
  mem : ∀ i, i ∈ c.pre ++ c.rest ↔ ∃ o, c.heap.get i = some o

theorem CInvH.li {c : Ctx} {root temps hole} (h : CInvH c root temps hole) : LI c := ⟨h.nodup, h.memAll⟩

def SleepAcc (c : Ctx) : Prop :=
  c.metrics.marked = 0 ∧ c.metrics.traced = 0 ∧ c.metrics.remembered = 0 ∧ c.metrics.dropped = 0 ∧
    c.metrics.freed = 0

structure MarkAcc (c : Ctx) : Prop where
  rem : c.metrics.remembered = 0
  drp : c.metrics.dropped = 0
  frd : c.metrics.freed = 0
  mkd : c.metrics.marked ≤ nM c (c.pre ++ c.rest)
  trd : c.metrics.traced ≤ nB c (c.pre ++ c.rest)

/-- `rb`: black objects remembered; `rw`: weakly-marked objects remembered (as shells); `dw`: of
    those, the ones whose value was destructed by this sweep; `dfr`: white objects destructed and
    released. -/
def SweepAcc (c : Ctx) : Prop :=
  ∃ rb rw dw dfr : Nat, c.metrics.remembered = rb + rw ∧ c.metrics.dropped = dw + dfr ∧ dw ≤ rw ∧
    dfr ≤ c.metrics.freed ∧ rb + rw ≤ c.pre.length ∧ c.metrics.traced ≤ nB c c.rest + rb ∧
    c.metrics.marked ≤ nM c c.rest + rb + rw

def Acc (c : Ctx) : Prop :=
  (c.phase = .sleep → SleepAcc c) ∧ (c.phase = .mark → MarkAcc c) ∧ (c.phase = .sweep → SweepAcc c)

theorem acc_new : Acc Ctx.new := by
  refine ⟨fun _ => ?_, fun h => ?_, fun h => ?_⟩
  · simp [SleepAcc, Ctx.new, Metrics.new]
  · simp [Ctx.new] at h
  · simp [Ctx.new] at h

def Metrics.work (m : Metrics) : Nat × Nat × Nat × Nat × Nat :=
  (m.marked, m.traced, m.remembered, m.dropped, m.freed)

theorem work_eq {m m' : Metrics} (h : m'.work = m.work) :
    m'.marked = m.marked ∧ m'.traced = m.traced ∧ m'.remembered = m.remembered ∧
    m'.dropped = m.dropped ∧ m'.freed = m.freed := by
  simp only [Metrics.work, Prod.mk.injEq] at h; exact h

/-- Same lists, same colours, same work counters (phase may differ: per-phase lemmas below). -/
structure AccSame (c c' : Ctx) : Prop where
  pre : c'.pre = c.pre
  rest : c'.rest = c.rest
  col : ∀ j, colOf c' j = colOf c j
  work : c'.metrics.work = c.metrics.work

theorem AccSame.of_heap {c c' : Ctx} (pre : c'.pre = c.pre) (rest : c'.rest = c.rest)
    (heap : ∀ j, c'.heap.get j = c.heap.get j) (work : c'.metrics.work = c.metrics.work) :
    AccSame c c' := ⟨pre, rest, fun j => by unfold colOf; rw [heap], work⟩

theorem AccSame.refl (c : Ctx) : AccSame c c := ⟨rfl, rfl, fun _ => rfl, rfl⟩

theorem AccSame.trans {a b c : Ctx} (h1 : AccSame a b) (h2 : AccSame b c) : AccSame a c :=
  ⟨h2.pre.trans h1.pre, h2.rest.trans h1.rest, fun j => (h2.col j).trans (h1.col j),
   h2.work.trans h1.work⟩

theorem AccSame.sleep {c c' : Ctx} (s : AccSame c c') (h : SleepAcc c) : SleepAcc c' := by
  obtain ⟨e1, e2, e3, e4, e5⟩ := work_eq s.work
  unfold SleepAcc at *
  rw [e1, e2, e3, e4, e5]; exact h

theorem AccSame.mark {c c' : Ctx} (s : AccSame c c') (h : MarkAcc c) : MarkAcc c' := by
  obtain ⟨e1, e2, e3, e4, e5⟩ := work_eq s.work
  have hb : nB c' (c'.pre ++ c'.rest) = nB c (c.pre ++ c.rest) := by
    rw [s.pre, s.rest]; exact nB_congr _ (fun j _ => s.col j)
  have hm : nM c' (c'.pre ++ c'.rest) = nM c (c.pre ++ c.rest) := by
    rw [s.pre, s.rest]; exact nM_congr _ (fun j _ => s.col j)
  exact ⟨by rw [e3]; exact h.rem, by rw [e4]; exact h.drp, by rw [e5]; exact h.frd,
    by rw [e1, hm]; exact h.mkd, by rw [e2, hb]; exact h.trd⟩

theorem AccSame.sweep {c c' : Ctx} (s : AccSame c c') (h : SweepAcc c) : SweepAcc c' := by
  obtain ⟨e1, e2, e3, e4, e5⟩ := work_eq s.work
  obtain ⟨rb, rw, dw, dfr, h1, h2, h3, h4, h5, h6, h7⟩ := h
  have hb : nB c' c'.rest = nB c c.rest := by
    rw [s.rest]; exact nB_congr _ (fun j _ => s.col j)
  have hm : nM c' c'.rest = nM c c.rest := by
    rw [s.rest]; exact nM_congr _ (fun j _ => s.col j)
  refine ⟨rb, rw, dw, dfr, ?_, ?_, h3, ?_, ?_, ?_, ?_⟩
  · rw [e3]; exact h1
  · rw [e4]; exact h2
  · rw [e5]; exact h4
  · rw [s.pre]; exact h5
  · rw [e2, hb]; exact h6
  · rw [e1, hm]; exact h7

theorem AccSame.acc {c c' : Ctx} (s : AccSame c c') (hp : c'.phase = c.phase) (h : Acc c) : Acc c' := by
  refine ⟨fun hs => s.sleep (h.1 (hp ▸ hs)), fun hs => s.mark (h.2.1 (hp ▸ hs)),
    fun hs => s.sweep (h.2.2 (hp ▸ hs))⟩

theorem LI.same {c c' : Ctx} (li : LI c) (pre : c'.pre = c.pre) (rest : c'.rest = c.rest)
    (alloc : ∀ j, (∃ o, c'.heap.get j = some o) ↔ ∃ o, c.heap.get j = some o) : LI c' := by
  refine ⟨by rw [pre, rest]; exact li.nodup, fun i => ?_⟩
  rw [pre, rest, alloc]; exact li.mem i

theorem AccRecol.alloc {c c' t o o'} (r : AccRecol c c' t o o') (j : Nat) :
    (∃ x, c'.heap.get j = some x) ↔ ∃ x, c.heap.get j = some x := by
  rw [r.heap]
  by_cases hj : j = t
  · subst hj; simp [r.get_t]
  · simp [hj]

theorem LI.recol {c c' t o o'} (li : LI c) (r : AccRecol c c' t o o') (pre : c'.pre = c.pre)
    (rest : c'.rest = c.rest) : LI c' := li.same pre rest r.alloc

theorem MarkAcc.recol {c c' : Ctx} {t : Nat} {o o' : Obj} (li : LI c) (h : MarkAcc c)
    (r : AccRecol c c' t o o') (pre : c'.pre = c.pre) (rest : c'.rest = c.rest)
    (e3 : c'.metrics.remembered = c.metrics.remembered) (e4 : c'.metrics.dropped = c.metrics.dropped)
    (e5 : c'.metrics.freed = c.metrics.freed)
    (hm : (c'.metrics.marked = c.metrics.marked ∧ (o.color ≠ .white → o'.color ≠ .white)) ∨
          (c'.metrics.marked = c.metrics.marked + 1 ∧ o.color = .white ∧ o'.color ≠ .white))
    (ht : (c'.metrics.traced = c.metrics.traced ∧ (o.color = .black → o'.color = .black)) ∨
          (c'.metrics.traced = c.metrics.traced + 1 ∧ o.color ≠ .black ∧ o'.color = .black) ∨
          (c'.metrics.traced = c.metrics.traced - 1)) : MarkAcc c' := by
  have hmem : t ∈ c.pre ++ c.rest := (li.mem t).mpr ⟨o, r.get_t⟩
  refine ⟨by rw [e3]; exact h.rem, by rw [e4]; exact h.drp, by rw [e5]; exact h.frd, ?_, ?_⟩
  · rw [pre, rest]
    have := h.mkd
    rcases hm with ⟨e, hc⟩ | ⟨e, h0, h1⟩
    · have := r.nM_mono (c.pre ++ c.rest) hc; omega
    · have := r.nM_up (c.pre ++ c.rest) hmem h0 h1; omega
  · rw [pre, rest]
    have := h.trd
    rcases ht with ⟨e, hc⟩ | ⟨e, h0, h1⟩ | e
    · have := r.nB_mono (c.pre ++ c.rest) hc; omega
    · have := r.nB_up (c.pre ++ c.rest) hmem h0 h1; omega
    · have := r.nB_down (c.pre ++ c.rest) li.nodup; omega

/-- What no collector step other than `finish_cycle`, and no mutator step other than allocation,
    `set_pacing` and `adjust_debt`, changes: the inputs of `cycle_debits` and the pacing. -/
structure MFrame (m m' : Metrics) : Prop where
  pacing : m'.pacing = m.pacing
  wakeup : m'.wakeup = m.wakeup
  artificial : m'.artificial = m.artificial
  allocated : m'.allocated = m.allocated

theorem MFrame.refl (m : Metrics) : MFrame m m := ⟨rfl, rfl, rfl, rfl⟩

theorem MFrame.trans {a b c : Metrics} (h1 : MFrame a b) (h2 : MFrame b c) : MFrame a c :=
  ⟨h2.pacing.trans h1.pacing, h2.wakeup.trans h1.wakeup, h2.artificial.trans h1.artificial,
   h2.allocated.trans h1.allocated⟩

theorem MFrame.debits {m m' : Metrics} (f : MFrame m m') : m'.cycleDebits = m.cycleDebits := by
  unfold Metrics.cycleDebits; rw [f.wakeup, f.artificial, f.allocated]

/-- Nothing the accounting reads changed. -/
structure Silent (c c' : Ctx) : Prop where
  phase : c'.phase = c.phase
  pre : c'.pre = c.pre
  rest : c'.rest = c.rest
  heap : ∀ j, c'.heap.get j = c.heap.get j
  metrics : c'.metrics = c.metrics

theorem Silent.refl (c : Ctx) : Silent c c := ⟨rfl, rfl, rfl, fun _ => rfl, rfl⟩

theorem Silent.trans {a b c : Ctx} (h1 : Silent a b) (h2 : Silent b c) : Silent a c :=
  ⟨h2.phase.trans h1.phase, h2.pre.trans h1.pre, h2.rest.trans h1.rest,
   fun j => (h2.heap j).trans (h1.heap j), h2.metrics.trans h1.metrics⟩

theorem silent_fail (c : Ctx) (f : Fault) : Silent c (c.fail f) :=
  ⟨Ctx.fail_phase c f, Ctx.fail_pre c f, Ctx.fail_rest c f, fun _ => by rw [Ctx.fail_heap],
   Ctx.fail_metrics c f⟩

theorem silent_step (c : Ctx) (ch : Char) : Silent c (c.step ch) := ⟨rfl, rfl, rfl, fun _ => rfl, rfl⟩

theorem Silent.accSame {c c' : Ctx} (s : Silent c c') : AccSame c c' :=
  AccSame.of_heap s.pre s.rest s.heap (by rw [s.metrics])

theorem Silent.acc {c c' : Ctx} (s : Silent c c') (h : Acc c) : Acc c' := s.accSame.acc s.phase h

theorem Silent.li {c c' : Ctx} (s : Silent c c') (li : LI c) : LI c' :=
  li.same s.pre s.rest (fun j => by rw [s.heap])

/-- A mark-phase primitive: keeps phase and lists, preserves the list shape and the mark-phase
    accounting, and does not touch the debit side or the count. -/
structure MarkPrim (c c' : Ctx) : Prop where
  phase : c'.phase = c.phase
  pre : c'.pre = c.pre
  rest : c'.rest = c.rest
  li : LI c → LI c'
  macc : LI c → MarkAcc c → MarkAcc c'
  mf : MFrame c.metrics c'.metrics
  total : c'.metrics.totalGcs = c.metrics.totalGcs
  freed : c'.metrics.freed = c.metrics.freed

theorem MarkPrim.refl (c : Ctx) : MarkPrim c c :=
  ⟨rfl, rfl, rfl, id, fun _ h => h, MFrame.refl _, rfl, rfl⟩

theorem MarkPrim.trans {a b c : Ctx} (h1 : MarkPrim a b) (h2 : MarkPrim b c) : MarkPrim a c :=
  ⟨h2.phase.trans h1.phase, h2.pre.trans h1.pre, h2.rest.trans h1.rest, fun l => h2.li (h1.li l),
   fun l h => h2.macc (h1.li l) (h1.macc l h), h1.mf.trans h2.mf, h2.total.trans h1.total,
   h2.freed.trans h1.freed⟩

theorem Silent.markPrim {c c' : Ctx} (s : Silent c c') : MarkPrim c c' :=
  ⟨s.phase, s.pre, s.rest, s.li, fun _ h => s.accSame.mark h, by rw [s.metrics]; exact MFrame.refl _,
   by rw [s.metrics], by rw [s.metrics]⟩

theorem MarkPrim.ofRecol {c c' : Ctx} {t : Nat} {o o' : Obj} (r : AccRecol c c' t o o')
    (phase : c'.phase = c.phase) (pre : c'.pre = c.pre) (rest : c'.rest = c.rest)
    (met : ∃ mk tr, c'.metrics = { c.metrics with marked := mk, traced := tr })
    (hm : (c'.metrics.marked = c.metrics.marked ∧ (o.color ≠ .white → o'.color ≠ .white)) ∨
          (c'.metrics.marked = c.metrics.marked + 1 ∧ o.color = .white ∧ o'.color ≠ .white))
    (ht : (c'.metrics.traced = c.metrics.traced ∧ (o.color = .black → o'.color = .black)) ∨
          (c'.metrics.traced = c.metrics.traced + 1 ∧ o.color ≠ .black ∧ o'.color = .black) ∨
          (c'.metrics.traced = c.metrics.traced - 1)) : MarkPrim c c' := by
  obtain ⟨mk, tr, e⟩ := met
  have e3 : c'.metrics.remembered = c.metrics.remembered := by rw [e]
  have e4 : c'.metrics.dropped = c.metrics.dropped := by rw [e]
  have e5 : c'.metrics.freed = c.metrics.freed := by rw [e]
  exact ⟨phase, pre, rest, fun l => l.recol r pre rest,
    fun l h => h.recol l r pre rest e3 e4 e5 hm ht, by rw [e]; exact ⟨rfl, rfl, rfl, rfl⟩, by rw [e], e5⟩

theorem silent_assert (c : Ctx) (b : Prop) [Decidable b] (f : Fault) :
    Silent c (if b then c else c.fail f) := by
  split
  · exact Silent.refl c
  · exact silent_fail c f

/-- One call of `trace`, `trace_weak`, `resurrect` (`fwd = true`) or `make_gray_again`
    (`fwd = false`), as far as the accounting can see it. -/
inductive Prim1 (c c' : Ctx) : Bool → Prop
  /-- nothing but `err` and the queues changed -/
  | silent {fwd} (s : Silent c c') : Prim1 c c' fwd
  /-- a white or weakly marked object got a colour other than white, counted by `mark_gc_marked` if
      it was white -/
  | marks {t o col} (r : AccRecol c c' t o { o with color := col })
      (hfrom : o.color = .white ∨ o.color = .whiteWeak) (hto : col ≠ .white)
      (met : c'.metrics = if o.color = .white then c.metrics.markGcMarked else c.metrics) :
      Prim1 c c' true
  /-- an object was coloured gray again and one `traced` taken back (`mark_gc_untraced`) -/
  | regray {t o} (r : AccRecol c c' t o { o with color := .gray })
      (met : c'.metrics = c.metrics.markGcUntraced) : Prim1 c c' false

/-- The common tail of `trace`, `trace_weak` and `resurrect`: from a state `c1` the accounting
    cannot tell from `c`, colour `t` and count it if it was white. -/
theorem Prim1.ofMark {c c1 X : Ctx} {t : Nat} {o : Obj} (col : Color) (s : Silent c c1)
    (ho : c.heap.get t = some o) (hfrom : o.color = .white ∨ o.color = .whiteWeak) (hto : col ≠ .white)
    (hX : X.heap = c1.heap.set t (some { o with color := col })) (hXm : X.metrics = c1.metrics) :
    Prim1 c (if o.color = .white then X.withMetrics Metrics.markGcMarked else X) true := by
  refine .marks (col := col) ⟨ho, fun j => ?_⟩ hfrom hto ?_
  · split <;> simp [hX, Heap.get_set, s.heap]
  · split <;> simp [hXm, s.metrics]

theorem trace_prim1 (c : Ctx) (t : Nat) : Prim1 c (c.trace t) true := by
  unfold Ctx.trace
  split
  · exact .silent (silent_fail _ _)
  · rename_i o ho
    split
    · exact .silent (Silent.refl _)
    · exact .silent (Silent.refl _)
    · have hfrom : o.color = .white ∨ o.color = .whiteWeak := by
        cases hc : o.color <;> simp_all
      by_cases hnt : o.needsTrace = true
      · rw [if_pos hnt]
        exact .ofMark .gray (silent_assert c (o.live = true) .debugAssert) ho hfrom (by simp) rfl rfl
      · rw [if_neg hnt]
        exact .ofMark .black (Silent.refl c) ho hfrom (by simp) rfl rfl

theorem traceWeak_prim1 (c : Ctx) (t : Nat) : Prim1 c (c.traceWeak t) true := by
  unfold Ctx.traceWeak
  split
  · exact .silent (silent_fail _ _)
  · rename_i o ho
    split
    · rename_i hw
      have := Prim1.ofMark (X := c.setObj t { o with color := .whiteWeak }) .whiteWeak (Silent.refl c)
        ho (.inl hw) (by simp) rfl rfl
      rwa [if_pos hw] at this
    · exact .silent (Silent.refl _)

theorem resurrect_prim1 (c : Ctx) (t : Nat) : Prim1 c (c.resurrect t) true := by
  unfold Ctx.resurrect
  split
  · exact .silent (silent_fail _ _)
  · rename_i o ho
    have s2 := (silent_assert c (c.phase = .mark) .debugAssert).trans
      (silent_assert _ (o.live = true) .debugAssert)
    dsimp only
    by_cases hw : (o.color = .white || o.color = .whiteWeak) = true
    · rw [if_pos hw]
      exact .ofMark .gray s2 ho (by simpa using hw) (by simp) rfl rfl
    · rw [if_neg hw]; exact .silent s2

theorem makeGrayAgain_prim1 (c : Ctx) (t : Nat) : Prim1 c (c.makeGrayAgain t) false := by
  unfold Ctx.makeGrayAgain
  split
  · exact .silent (silent_fail _ _)
  · rename_i o ho
    have s := silent_assert c (o.color = .black) .debugAssert
    refine .regray ⟨ho, fun j => ?_⟩ ?_
    · simp [s.heap]
    · simp [s.metrics]

def BarrierOp.isFwd : BarrierOp → Bool
  | .fb .. | .fbw .. => true
  | _ => false

/-- The four barriers make at most one such call. -/
theorem barrier_prim1 (c : Ctx) (b : BarrierOp) : Prim1 c (b.apply c) b.isFwd := by
  cases b with
  | bb p ch =>
    show Prim1 c (c.backwardBarrier p ch) false
    unfold Ctx.backwardBarrier
    repeat' split
    all_goals first | exact .silent (Silent.refl _) | exact .silent (silent_fail _ _) | exact makeGrayAgain_prim1 _ _
  | bbw p ch =>
    show Prim1 c (c.backwardBarrierWeak p ch) false
    unfold Ctx.backwardBarrierWeak
    repeat' split
    all_goals first | exact .silent (Silent.refl _) | exact .silent (silent_fail _ _) | exact makeGrayAgain_prim1 _ _
  | fb p ch =>
    show Prim1 c (c.forwardBarrier p ch) true
    unfold Ctx.forwardBarrier
    repeat' split
    all_goals first | exact .silent (Silent.refl _) | exact .silent (silent_fail _ _) | exact trace_prim1 _ _
  | fbw p ch =>
    show Prim1 c (c.forwardBarrierWeak p ch) true
    unfold Ctx.forwardBarrierWeak
    repeat' split
    all_goals first | exact .silent (Silent.refl _) | exact .silent (silent_fail _ _) | exact traceWeak_prim1 _ _

theorem Prim1.markPrim {T} {c c' : Ctx} {b : Bool} (p : Prim1 c c' b) (t : Touch T c c') :
    MarkPrim c c' := by
  cases p with
  | silent s => exact s.markPrim
  | @marks _ o col r hfrom hto met =>
    refine MarkPrim.ofRecol r t.phase t.pre t.rest ⟨c'.metrics.marked, c'.metrics.traced, by rw [met]; split <;> rfl⟩ ?_ ?_
    · by_cases hw : o.color = .white
      · right; rw [met, if_pos hw]; exact ⟨rfl, hw, hto⟩
      · left; rw [met, if_neg hw]; exact ⟨rfl, fun _ => hto⟩
    · left
      refine ⟨by rw [met]; split <;> rfl, fun hb => ?_⟩
      rcases hfrom with h | h <;> rw [h] at hb <;> cases hb
  | regray r met =>
    refine MarkPrim.ofRecol r t.phase t.pre t.rest ⟨c'.metrics.marked, c'.metrics.traced, by rw [met]; rfl⟩ ?_ ?_
    · left; exact ⟨by rw [met]; rfl, fun _ => by simp⟩
    · right; right; rw [met]; rfl

theorem trace_markPrim (c : Ctx) (t : Nat) : MarkPrim c (c.trace t) :=
  (trace_prim1 c t).markPrim (touch_trace (T := fun _ => True) c t trivial)

theorem traceWeak_markPrim (c : Ctx) (t : Nat) : MarkPrim c (c.traceWeak t) :=
  (traceWeak_prim1 c t).markPrim (touch_traceWeak (T := fun _ => True) c t trivial)

theorem makeGrayAgain_markPrim (c : Ctx) (t : Nat) : MarkPrim c (c.makeGrayAgain t) :=
  (makeGrayAgain_prim1 c t).markPrim (touch_makeGrayAgain (T := fun _ => True) c t trivial)

theorem resurrect_markPrim (c : Ctx) (t : Nat) : MarkPrim c (c.resurrect t) :=
  (resurrect_prim1 c t).markPrim (touch_resurrect (T := fun _ => True) c t trivial)

theorem barrier_markPrim (c : Ctx) (b : BarrierOp) : MarkPrim c (b.apply c) :=
  (barrier_prim1 c b).markPrim (touch_barrier (T := fun _ => True) c b trivial)

theorem traceSlots_markPrim (ss : List Slot) (c : Ctx) : MarkPrim c (c.traceSlots ss) :=
  traceSlots_induct (P := MarkPrim c) ss
    (fun {x} p _ h => match p with
      | .strong t => h.trans (trace_markPrim x t)
      | .weak t => h.trans (traceWeak_markPrim x t))
    (MarkPrim.refl c)

/-- The popped-object arm of `mark_one`: `traced += 1` together with gray → black, then a
    sequence of primitives.  `i` must be live and not yet black (it is gray: `CInvH.qGray`). -/
theorem markObj_markPrim {c : Ctx} {i : Nat} {o : Obj} (ho : c.heap.get i = some o) (hl : o.live = true)
    (hnb : o.color ≠ .black) (f : Option Nat) : MarkPrim c (c.markObj i f).1 := by
  have hb : MarkPrim c ((c.withMetrics Metrics.markGcTraced).setObj i { o with color := .black }) := by
    refine MarkPrim.ofRecol (t := i) (o := o) (o' := { o with color := .black })
      ⟨ho, fun j => by simp⟩ rfl rfl rfl ⟨_, _, rfl⟩ ?_ ?_
    · left; exact ⟨rfl, fun _ => by simp⟩
    · right; left; exact ⟨rfl, hnb, rfl⟩
  rw [markObj_eq ho hl]
  cases f with
  | none => exact hb.trans (traceSlots_markPrim _ _)
  | some j => exact (hb.trans (traceSlots_markPrim _ _)).trans (makeGrayAgain_markPrim _ _)

theorem markOne_markPrim {c : Ctx} {root temps} (h : CInv c root temps) (f : Option Nat) :
    MarkPrim c (c.markOne root f).1 := by
  rcases markOne_cases c root f with ⟨i, g, ga, hi, _, e⟩ | ⟨_, e⟩ | ⟨_, e⟩ <;> rw [e]
  · obtain ⟨o, ho, hg⟩ := h.qGray i hi
    have s : Silent c (({ c with gray := g, grayAgain := ga } : Ctx).step 'g') :=
      ⟨rfl, rfl, rfl, fun _ => rfl, rfl⟩
    exact s.markPrim.trans (markObj_markPrim (c := ({ c with gray := g, grayAgain := ga } : Ctx).step 'g') ho
      (h.markedLive i o ho (.inl hg)) (by rw [hg]; simp) f)
  · cases f with
    | none =>
      exact ((silent_step c 'r').markPrim.trans (traceSlots_markPrim root _)).trans
        (Silent.markPrim ⟨rfl, rfl, rfl, fun _ => rfl, rfl⟩)
    | some j => exact (silent_step c 'r').markPrim.trans (traceSlots_markPrim _ _)
  · exact (silent_step c 'b').markPrim

/-- The arithmetic of one sweep step.  `b`, `k` (0 or 1): the swept object is black / marked;
    `nb`, `nm`: the black / marked objects behind it; primed: the counters after the step.  The
    three cases are those of `SweepAcc.advance`; the witnesses say which of `rb`, `rw`, `dw`, `dfr`
    the step moves. -/
theorem sweep_arith {rem drp frd tr mk nb nm b k pl rem' drp' frd' pl' : Nat} (hbk : b ≤ k) (hk : k ≤ 1)
    (h : ∃ rb rw dw dfr : Nat, rem = rb + rw ∧ drp = dw + dfr ∧ dw ≤ rw ∧ dfr ≤ frd ∧ rb + rw ≤ pl ∧
      tr ≤ nb + b + rb ∧ mk ≤ nm + k + rb + rw)
    (hcase : (k = 0 ∧ pl' = pl ∧ rem' = rem ∧ frd' = frd + 1 ∧ drp ≤ drp' ∧ drp' ≤ drp + 1) ∨
      (pl' = pl + 1 ∧ rem' = rem + 1 ∧ frd' = frd ∧ drp' = drp) ∨
      (b = 0 ∧ pl' = pl + 1 ∧ rem' = rem + 1 ∧ frd' = frd ∧ drp ≤ drp' ∧ drp' ≤ drp + 1)) :
    ∃ rb rw dw dfr : Nat, rem' = rb + rw ∧ drp' = dw + dfr ∧ dw ≤ rw ∧ dfr ≤ frd' ∧ rb + rw ≤ pl' ∧
      tr ≤ nb + rb ∧ mk ≤ nm + rb + rw := by
  obtain ⟨rb, rw, dw, dfr, rfl, rfl, h3, h4, h5, h6, h7⟩ := h
  rcases hcase with ⟨rfl, rfl, rfl, rfl, p4, p5⟩ | ⟨rfl, rfl, rfl, rfl⟩ | ⟨rfl, rfl, rfl, rfl, p4, p5⟩
  · obtain ⟨d, rfl⟩ := Nat.le.dest p4
    have hd : d ≤ 1 := Nat.le_of_add_le_add_left p5
    have hb0 : b = 0 := Nat.le_zero.mp hbk
    subst hb0
    exact ⟨rb, rw, dw, dfr + d, rfl, Nat.add_assoc .., h3, Nat.add_le_add h4 hd, h5, h6, h7⟩
  · exact ⟨rb + 1, rw, dw, dfr, Nat.add_right_comm .., rfl, h3, h4, by omega, by omega, by omega⟩
  · obtain ⟨d, rfl⟩ := Nat.le.dest p4
    have hd : d ≤ 1 := Nat.le_of_add_le_add_left p5
    exact ⟨rb, rw + 1, dw + d, dfr, rfl, Nat.add_right_comm .., Nat.add_le_add h3 hd, h4,
      Nat.succ_le_succ h5, h6, by omega⟩

/-- The cursor passes the object `i`. -/
theorem SweepAcc.advance {c c' : Ctx} {i : Nat} {rest' : List Nat} (h : SweepAcc c)
    (hr : c.rest = i :: rest') (hr' : c'.rest = rest')
    (hcol : ∀ j, j ∈ rest' → colOf c' j = colOf c j)
    (e1 : c'.metrics.marked = c.metrics.marked) (e2 : c'.metrics.traced = c.metrics.traced)
    (hcase :
      -- white: released (destructed first if still live)
      (isMk c i = false ∧ c'.pre = c.pre ∧ c'.metrics.remembered = c.metrics.remembered ∧
        c'.metrics.freed = c.metrics.freed + 1 ∧ c.metrics.dropped ≤ c'.metrics.dropped ∧
        c'.metrics.dropped ≤ c.metrics.dropped + 1) ∨
      -- black: remembered
      (c'.pre.length = c.pre.length + 1 ∧ c'.metrics.remembered = c.metrics.remembered + 1 ∧
        c'.metrics.freed = c.metrics.freed ∧ c'.metrics.dropped = c.metrics.dropped) ∨
      -- white-weak: remembered as a shell (destructed if still live)
      (isBlk c i = false ∧ c'.pre.length = c.pre.length + 1 ∧
        c'.metrics.remembered = c.metrics.remembered + 1 ∧ c'.metrics.freed = c.metrics.freed ∧
        c.metrics.dropped ≤ c'.metrics.dropped ∧ c'.metrics.dropped ≤ c.metrics.dropped + 1)) :
    SweepAcc c' := by
  have hb : nB c' c'.rest = nB c rest' := by rw [hr']; exact nB_congr _ hcol
  have hm : nM c' c'.rest = nM c rest' := by rw [hr']; exact nM_congr _ hcol
  have hM1 : (if isMk c i = true then 1 else 0) ≤ 1 := by split <;> omega
  have hBM : (if isBlk c i = true then 1 else 0) ≤ (if isMk c i = true then 1 else 0) := by
    have := nB_le_nM c [i]
    simpa [nB, nM, List.countP_cons] using this
  unfold SweepAcc at h ⊢
  rw [hr, nB_cons, nM_cons] at h
  rw [hb, hm, e1, e2]
  refine sweep_arith hBM hM1 h ?_
  rcases hcase with ⟨hw, p1, r⟩ | h2 | ⟨hnb, r⟩
  · exact .inl ⟨by rw [hw]; rfl, by rw [p1], r⟩
  · exact .inr (.inl h2)
  · exact .inr (.inr ⟨by rw [hnb]; rfl, r⟩)

/-- The counters `sweep_one` moves for the object `o` it found under the cursor. -/
def sweptMetrics (o : Obj) (m : Metrics) : Metrics :=
  match o.color with
  | .white => (if o.live then m.markGcDropped else m).markGcFreed
  | .whiteWeak => (if o.live then m.markGcDropped else m).markGcRemembered
  | .black => m.markGcRemembered
  | .gray => m

theorem sweepOne_metrics {c : Ctx} {i : Nat} {r : List Nat} {o : Obj} (hr : c.rest = i :: r)
    (ho : c.heap.get i = some o) : c.sweepOne.1.metrics = sweptMetrics o c.metrics := by
  unfold Ctx.sweepOne sweptMetrics
  simp only [hr, Ctx.step_heap, ho]
  cases o.color <;> cases o.live <;>
    simp only [Ctx.withMetrics_metrics, Ctx.emit_metrics, Ctx.setObj_metrics, Ctx.step_metrics,
      Ctx.fail_metrics, if_true, Bool.false_eq_true, if_false]

theorem sweptMetrics_mframe (o : Obj) (m : Metrics) : MFrame m (sweptMetrics o m) := by
  unfold sweptMetrics
  cases o.color <;> cases o.live <;> exact ⟨rfl, rfl, rfl, rfl⟩

theorem sweepOne_mframe (c : Ctx) : MFrame c.metrics c.sweepOne.1.metrics := by
  cases hr : c.rest with
  | nil => rw [sweepOne_end hr]; exact MFrame.refl _
  | cons i r =>
    cases ho : c.heap.get i with
    | none => rw [sweepOne_none hr ho, Ctx.fail_metrics]; exact MFrame.refl _
    | some o => rw [sweepOne_metrics hr ho]; exact sweptMetrics_mframe o _

theorem sweepOne_sacc {c : Ctx} {root temps} (h : CInv c root temps) (hp : c.phase = .sweep)
    (ha : SweepAcc c) : SweepAcc c.sweepOne.1 := by
  cases hr : c.rest with
  | nil => rw [sweepOne_end hr]; exact (silent_step c 'e').accSame.sweep ha
  | cons i r =>
    have hnd := h.nodup
    rw [hr] at hnd
    have hi_nr : i ∉ r := (List.nodup_cons.mp (List.nodup_append.mp hnd).2.1).1
    obtain ⟨o, ho⟩ := (h.memAll i).mp (by rw [hr]; simp)
    have hng : o.color ≠ .gray := by
      intro hg
      have := h.grayQ i o ho hg
      have hq := h.qMark (by rw [hp]; simp)
      rw [hq.1, hq.2] at this; simp at this
    obtain ⟨_, hget, _, hrest, hpre, _⟩ := sweepOne_at hr ho
    have hci : colOf c i = some o.color := by unfold colOf; rw [ho]; rfl
    refine ha.advance hr hrest (fun j hj => ?_) ?_ ?_ ?_
    · unfold colOf; rw [hget, if_neg (fun he : j = i => hi_nr (he ▸ hj))]
    · rw [sweepOne_metrics hr ho]; unfold sweptMetrics
      cases o.color <;> cases o.live <;> rfl
    · rw [sweepOne_metrics hr ho]; unfold sweptMetrics
      cases o.color <;> cases o.live <;> rfl
    · -- which counters move is decided by the colour of the swept object
      rw [sweepOne_metrics hr ho, hpre]
      unfold sweptMetrics isMk isBlk
      rw [hci]
      cases hcol : o.color with
      | gray => exact absurd hcol hng
      | white =>
        left
        cases o.live <;> simp [Metrics.markGcFreed, Metrics.markGcDropped]
      | whiteWeak =>
        right; right
        cases o.live <;> simp [Metrics.markGcRemembered, Metrics.markGcDropped]
      | black => right; left; simp [Metrics.markGcRemembered]

theorem MarkPrim.acc {c c' : Ctx} (p : MarkPrim c c') (hm : c.phase = .mark) (li : LI c) (ha : Acc c) :
    Acc c' := by
  have hp : c'.phase = .mark := by rw [p.phase]; exact hm
  refine ⟨fun h => ?_, fun _ => p.macc li (ha.2.1 hm), fun h => ?_⟩
  · rw [hp] at h; cases h
  · rw [hp] at h; cases h

theorem wake_acc {c : Ctx} (hp : c.phase = .sleep) (ha : Acc c) : Acc (c.switch .mark) := by
  obtain ⟨e1, e2, e3, e4, e5⟩ := ha.1 hp
  have hph : (c.switch .mark).phase = .mark := rfl
  refine ⟨fun h => ?_, fun _ => ?_, fun h => ?_⟩
  · rw [hph] at h; cases h
  · refine ⟨e3, e4, e5, ?_, ?_⟩
    · show c.metrics.marked ≤ _; omega
    · show c.metrics.traced ≤ _; omega
  · rw [hph] at h; cases h

theorem enterSweep_acc {c : Ctx} (hp : c.phase = .mark) (ha : Acc c) : Acc c.enterSweep := by
  have hm := ha.2.1 hp
  have hph : c.enterSweep.phase = .sweep := rfl
  refine ⟨fun h => ?_, fun h => ?_, fun _ => ?_⟩
  · rw [hph] at h; cases h
  · rw [hph] at h; cases h
  · refine ⟨0, 0, 0, 0, hm.rem, hm.drp, Nat.le_refl _, Nat.zero_le _, Nat.zero_le _, ?_, ?_⟩
    · have : nB c.enterSweep c.enterSweep.rest = nB c (c.pre ++ c.rest) :=
        nB_congr _ (fun _ _ => rfl)
      rw [this]; exact hm.trd
    · have : nM c.enterSweep c.enterSweep.rest = nM c (c.pre ++ c.rest) :=
        nM_congr _ (fun _ _ => rfl)
      rw [this]; exact hm.mkd

theorem enterSleep_acc (c : Ctx) (hs : Bool) : Acc (c.enterSleep hs) := by
  have hph : (c.enterSleep hs).phase = .sleep := rfl
  refine ⟨fun _ => ⟨rfl, rfl, rfl, rfl, rfl⟩, fun h => ?_, fun h => ?_⟩
  · rw [hph] at h; cases h
  · rw [hph] at h; cases h

theorem sweepOne_acc {c : Ctx} {root temps} (h : CInv c root temps) (hp : c.phase = .sweep)
    (ha : Acc c) : Acc c.sweepOne.1 := by
  have hph := (sweepOne_spec h hp).2
  refine ⟨fun hq => ?_, fun hq => ?_, fun _ => sweepOne_sacc h hp (ha.2.2 hp)⟩
  · rw [hph] at hq; cases hq
  · rw [hph] at hq; cases hq

theorem MicroStep.acc {c c' : Ctx} {root} {m : Micro} (h : CInv c root []) (st : MicroStep root c m c')
    (ha : Acc c) : Acc c' := by
  cases st with
  | wake hp => exact wake_acc hp ha
  | markStep f hp hg => exact (markOne_markPrim h f).acc hp h.li ha
  | markBreak hp hg => exact (silent_step c 'b').acc ha
  | toSweep hp hg => exact enterSweep_acc hp ha
  | sweepStep hp hr => exact sweepOne_acc h hp ha
  | sweepEnd hp hr => exact (silent_step c 'e').acc ha
  | toSleep b hp hr => exact enterSleep_acc c b

theorem Reaches.acc {c c' : Ctx} {root} (r : Reaches c root c') (h : CInv c root []) (ha : Acc c) :
    Acc c' := by
  obtain ⟨ms, hs⟩ := r
  exact micros_lift (R := fun c c' => Acc c → Acc c') (fun _ h => h) (fun h1 h2 h => h2 (h1 h))
    MicroStep.acc ms h hs ha

end GcArena
