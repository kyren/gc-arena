import GcArena.Proofs.LogInv
/-!
  The log invariant over whole histories: `linv_run` (every state of every run, including after
  the arena was dropped), what `DropAll` leaves behind, and that the log only grows.
-/
namespace GcArena

theorem MarkFrame.quiet {c c' : Ctx} (f : MarkFrame c c') (hs : c'.heap.size = c.heap.size) : Quiet c c' :=
  Quiet.ofSame f.log f.phase
    (fun i o ho => by
      obtain ⟨o', ho'⟩ := (f.alloc i).mpr ⟨o, ho⟩
      exact ⟨o', ho', (f.live i o o' ho ho').1⟩) hs
    (fun i o' ho' => (f.alloc i).mp ⟨o', ho'⟩)

theorem MicroStep.linv {c c' : Ctx} {root} {m : Micro} (h : CInv c root []) (st : MicroStep root c m c')
    (hl : LInv c) : LInv c' := by
  rcases st.kind with ⟨hh, hlog⟩ | ⟨hp, f, rfl⟩ | ⟨_, rfl⟩
  · exact hl.sameHeap hh hlog
  · exact hl.quiet ((markOne_spec h hp f).2.quiet (Ctx.markOne_size _ _ _))
  · exact hl.sweepOne h

/-- `DropAll` on one allocated object: destruct iff live, release, count down. -/
theorem dropOne_at {c : Ctx} {i : Nat} {o : Obj} (ho : c.heap.get i = some o) :
    (c.dropOne i).log = Event.freed i :: ((if o.live then [Event.dropped i] else []) ++ c.log) ∧
    (∀ j, (c.dropOne i).heap.get j = if j = i then none else c.heap.get j) ∧
    (c.dropOne i).heap.size = c.heap.size ∧
    (c.dropOne i).metrics.totalGcs = c.metrics.totalGcs - 1 ∧
    (c.dropOne i).metrics.underflow = (c.metrics.underflow || (c.metrics.totalGcs == 0)) := by
  unfold Ctx.dropOne
  simp only [ho]
  cases o.live <;>
    simp [Heap.get_set, Heap.size_set_of_get ho, Metrics.markGcFreed, Metrics.markGcDropped]

theorem dropList_spec (l : List Nat) : ∀ (c : Ctx), LInv c → l.Nodup → (∀ i, i ∈ l → ∃ o, c.heap.get i = some o) →
    l.length ≤ c.metrics.totalGcs → c.metrics.underflow = false →
    let c' := l.foldl Ctx.dropOne c
    LInv c' ∧ (∀ j, c'.heap.get j = if j ∈ l then none else c.heap.get j) ∧ c'.heap.size = c.heap.size ∧
    c'.metrics.totalGcs = c.metrics.totalGcs - l.length ∧ c'.metrics.underflow = false := by
  induction l with
  | nil => intro c hl _ _ _ hu; exact ⟨hl, fun _ => by simp, rfl, by simp, hu⟩
  | cons i l ih =>
    intro c hl hnd hall hlen hu
    obtain ⟨hil, hnd'⟩ := List.nodup_cons.mp hnd
    obtain ⟨o, ho⟩ := hall i (by simp)
    obtain ⟨hlog, hget, hsz, htot, hund⟩ := dropOne_at ho
    simp only [List.length_cons] at hlen
    simp only [List.foldl_cons]
    -- the rest of the list is still allocated, and the count has not reached zero
    obtain ⟨r1, r2, r3, r4, r5⟩ := ih (c.dropOne i) (hl.release ho hlog hget hsz) hnd'
      (fun j hj => by
        rw [hget, if_neg (fun he : j = i => hil (he ▸ hj))]; exact hall j (List.mem_cons_of_mem _ hj))
      (by rw [htot]; exact Nat.le_sub_one_of_lt hlen)
      (by rw [hund, hu, Bool.false_or, beq_eq_false_iff_ne]; exact Nat.ne_zero_of_lt hlen)
    refine ⟨r1, fun j => ?_, r3.trans hsz,
      by rw [r4, htot, List.length_cons, Nat.sub_sub, Nat.add_comm], r5⟩
    rw [r2 j, hget]
    by_cases hj : j = i <;> simp [hj]

theorem dropAll_spec {c : Ctx} {root temps} (h : CInv c root temps) (hl : LInv c) :
    LInv c.dropAll ∧ (∀ j, c.dropAll.heap.get j = none) ∧ c.dropAll.metrics.totalGcs = 0 ∧
    c.dropAll.metrics.underflow = false ∧ c.dropAll.heap.size = c.heap.size := by
  have hall : ∀ i, i ∈ c.all → ∃ o, c.heap.get i = some o := fun i hi => (h.memAll i).mp hi
  have hlen : c.all.length ≤ c.metrics.totalGcs := by rw [h.count]; exact Nat.le_refl _
  have hl0 : LInv { c with phase := .drop } := hl.sameHeap rfl rfl
  obtain ⟨r1, r2, r3, r4, r5⟩ := dropList_spec c.all { c with phase := .drop } hl0 h.nodup hall hlen h.noUnderflow
  have hd : c.dropAll = { (c.all.foldl Ctx.dropOne { c with phase := .drop }) with pre := [], rest := [] } := rfl
  rw [hd]
  refine ⟨r1.sameHeap rfl rfl, ?_, ?_, r5, r3⟩
  · intro j
    show (c.all.foldl Ctx.dropOne { c with phase := .drop }).heap.get j = none
    rw [r2 j]
    by_cases hj : j ∈ c.all
    · simp [hj]
    · simp only [hj, if_false]
      cases hg : c.heap.get j with
      | none => rfl
      | some o => exact absurd ((h.memAll j).mpr ⟨o, hg⟩) hj
  · show (c.all.foldl Ctx.dropOne { c with phase := .drop }).metrics.totalGcs = 0
    rw [r4]
    show c.metrics.totalGcs - c.all.length = 0
    rw [h.count]; simp [Ctx.all]

theorem linv_step {a : Arena} (h : Inv a) (hl : LInv a.ctx) (op : Op) : LInv (a.step op).1.ctx := by
  by_cases hop : op.isMutator = true
  · exact hl.quiet (step_quiet h _ hop)
  cases op with
  | collect m k f o =>
    exact (step_collect_rel h m k f o).lift (R := fun c c' => LInv c → LInv c') h (fun _ hl => hl)
      (fun h1 h2 hl => h2 (h1 hl)) MicroStep.linv hl
  | dropArena =>
    rcases step_dropArena h.alive with ⟨_, e⟩ | ⟨_, e⟩ <;> rw [e]
    · exact hl
    · exact (dropAll_spec h.cinv hl).1
  | _ => exact absurd rfl hop

/-- In every state of every history — the arena alive or already dropped. -/
theorem linv_run (n : Nat) (ops : List Op) : LInv ((Arena.new n).run ops).ctx :=
  run_total (P := fun a => LInv a.ctx) (ok := fun _ => True) (fun _ h hl => linv_step h hl _) ops
    (fun _ _ => trivial) (fun _ => inv_init n) linv_new

/-- The log is a monotone history: every operation only appends to it. -/
def LogExtends (c c' : Ctx) : Prop := ∃ evs, NewEvents c c' evs

theorem LogExtends.refl (c : Ctx) : LogExtends c c := ⟨[], rfl⟩

theorem LogExtends.trans {a b c : Ctx} (h1 : LogExtends a b) (h2 : LogExtends b c) : LogExtends a c := by
  obtain ⟨e1, h1⟩ := h1; obtain ⟨e2, h2⟩ := h2
  exact ⟨e2 ++ e1, h1.trans h2⟩

theorem dropOne_extends (c : Ctx) (i : Nat) : LogExtends c (c.dropOne i) := by
  cases ho : c.heap.get i with
  | none => exact ⟨[], by simp [NewEvents, Ctx.dropOne, ho]⟩
  | some o => exact ⟨.freed i :: (if o.live then [.dropped i] else []), (dropOne_at ho).1⟩

theorem dropList_extends (l : List Nat) : ∀ c : Ctx, LogExtends c (l.foldl Ctx.dropOne c) := by
  induction l with
  | nil => intro c; exact LogExtends.refl c
  | cons i l ih => intro c; exact (dropOne_extends c i).trans (ih _)

theorem step_log_extends {a : Arena} (h : Inv a) (op : Op) : LogExtends a.ctx (a.step op).1.ctx := by
  by_cases hop : op.isMutator = true
  · exact ⟨[], (step_quiet h _ hop).log⟩
  cases op with
  | collect m k f o =>
    refine (step_collect_rel h m k f o).lift h LogExtends.refl LogExtends.trans (fun hc st => ?_)
    obtain ⟨evs, hn, _⟩ := micro_events hc _ (micro_iff.mpr st)
    exact ⟨evs, hn⟩
  | dropArena =>
    rcases step_dropArena h.alive with ⟨_, e⟩ | ⟨_, e⟩ <;> rw [e]
    · exact LogExtends.refl _
    · exact dropList_extends a.ctx.all { a.ctx with phase := .drop }
  | _ => exact absurd rfl hop

theorem run_log_extends (ops : List Op) (a : Arena) (hi : a.alive = true → Inv a) :
    LogExtends a.ctx (a.run ops).ctx :=
  run_total (P := fun x => LogExtends a.ctx x.ctx) (ok := fun _ => True)
    (fun _ h he => he.trans (step_log_extends h _)) ops (fun _ _ => trivial) hi (LogExtends.refl _)

end GcArena
