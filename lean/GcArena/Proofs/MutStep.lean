import GcArena.Proofs.Basic
/-!
  `Arena.stepBody` in rule form.  `MutStep a fin op a' out` has one rule per accepted case of a
  mutator operation, carrying what the guards of that case established, the state it leaves and the
  answer it gives (`stepBody_mutStep`); `CollectStep` does the same for the `.collect` arm
  (`stepBody_collectStep`).  A statement of the form "an operation does / does not …" is a case
  analysis over these rules.  The rules are sound, not complete: they say what an accepted
  operation looks like, not when one is accepted.
-/
namespace GcArena

/-- Every operation other than a collection call and dropping the arena. -/
def Op.isMutator : Op → Bool
  | .collect .. => false
  | .dropArena => false
  | _ => true

def Op.isKnob : Op → Bool
  | .setPacing _ => true
  | .adjustDebt _ => true
  | _ => false

/-- `readRoot`, `read`, `downgrade`: the callback obtains one more pointer and nothing else happens. -/
def Op.isRead : Op → Bool
  | .readRoot _ | .read _ _ | .downgrade _ => true
  | _ => false

/-- The operations that read the header of a weakly held object and fault if its block is gone. -/
def Op.readsHeader : Op → Bool
  | .isDropped _ | .isDead _ | .resurrect _ => true
  | _ => false

/-- The running callback holds a pointer (of either kind) to `j`. -/
def Held (a : Arena) (j : Nat) : Prop := ∃ p, p ∈ a.temps ∧ p.target = j

/-- Where a pointer newly held by the callback can come from: it was held already, a pointer of
    the other kind to the same object was held (downgrade / upgrade / resurrect), it was read from
    the root or from a held object, or it is the fresh allocation. -/
def TempOK (a : Arena) (p : Ptr) : Prop :=
  p ∈ a.temps ∨ Held a p.target ∨ some p ∈ a.root ∨
    (∃ j o, Ptr.strong j ∈ a.temps ∧ a.ctx.heap.get j = some o ∧ some p ∈ o.slots) ∨
    p.target = a.ctx.heap.size

/-- Where `readRoot`, `read` and `downgrade` get the pointer they hand to the callback. -/
inductive Src (a : Arena) : Ptr → Prop
  | root {p : Ptr} : some p ∈ a.root → Src a p
  | slot {j : Nat} {o : Obj} {p : Ptr} :
      Ptr.strong j ∈ a.temps → a.ctx.heap.get j = some o → some p ∈ o.slots → Src a p
  | downgrade {t : Nat} : Ptr.strong t ∈ a.temps → Src a (.weak t)

theorem Src.tempOK {a : Arena} {p : Ptr} : Src a p → TempOK a p
  | .root h => .inr (.inr (.inl h))
  | .slot hj ho hp => .inr (.inr (.inr (.inl ⟨_, _, hj, ho, hp⟩)))
  | .downgrade ht => .inr (.inl ⟨_, ht, rfl⟩)

theorem holds_iff (a : Arena) (p : Ptr) : a.holds p = true ↔ p ∈ a.temps := by
  simp [Arena.holds]

theorem held_of_mem {a : Arena} {p : Ptr} (h : p ∈ a.temps) : Held a p.target := ⟨p, h, rfl⟩

def BarrierOp.apply (c : Ctx) : BarrierOp → Ctx
  | .bb p ch => c.backwardBarrier p ch
  | .bbw p ch => c.backwardBarrierWeak p ch
  | .fb p ch => c.forwardBarrier p ch
  | .fbw p ch => c.forwardBarrierWeak p ch

/-- The licence an explicit barrier call leaves in the ghost cover. -/
def BarrierOp.cover : BarrierOp → Cover
  | .bb p none => .parent p
  | .bb p (some ch) => .pair p ch
  | .bbw p ch => .weakPair p ch
  | .fb none ch => .child ch
  | .fb (some p) ch => .pair p ch
  | .fbw none ch => .weakChild ch
  | .fbw (some p) ch => .weakPair p ch

/-- The pointer to the one object a barrier call may recolour. -/
def BarrierOp.target : BarrierOp → Ptr
  | .bb p _ => .strong p
  | .bbw p _ => .strong p
  | .fb _ ch => .strong ch
  | .fbw _ ch => .weak ch

def BarrierOp.operands : BarrierOp → List Ptr
  | .bb p ch => .strong p :: (ch.map Ptr.strong).toList
  | .bbw p ch => [.strong p, .weak ch]
  | .fb p ch => .strong ch :: (p.map Ptr.strong).toList
  | .fbw p ch => .weak ch :: (p.map Ptr.strong).toList

def StorePath.apply (c : Ctx) (p i : Nat) (v : Slot) : StorePath → Ctx
  | .write => Arena.setSlot (c.backwardBarrier p none) p i v
  | .raw => Arena.setSlot c p i v
  | .storeThenBarrier => (Arena.setSlot c p i v).backwardBarrier p none

def StorePath.cover (p : Nat) (cover : List Cover) : StorePath → List Cover
  | .raw => cover
  | _ => .parent p :: cover

def Op.holdOut : Op → Ptr → String
  | .downgrade _, _ => "ok"
  | _, p => Arena.showPtr p

inductive MutStep (a : Arena) (fin : Bool) : Op → Arena → String → Prop
  /-- Nothing changes: the operation is rejected (`"bad-op"`), or it is a read that found an empty
      slot or a query that only answers. -/
  | same (op : Op) (out : String)
      (hout : out = "bad-op" ∨ op.isRead = true ∨ op.readsHeader = true) : MutStep a fin op a out
  /-- `Metrics` is a cloneable handle, usable while a `MarkedArena` is held: `marked` is kept. -/
  | setPacing (p : Pacing) :
      MutStep a fin (.setPacing p) { a with ctx := a.ctx.withMetrics (·.setPacing p), marked := fin } "ok"
  | adjustDebt (x : Rat) :
      MutStep a fin (.adjustDebt x) { a with ctx := a.ctx.withMetrics (·.adjustDebt x), marked := fin } "ok"
  | enter (k : CbKind) (hcb : a.cb = none) (hk : k ≠ .mutateRoot) (hfin : k = .finalize → fin = true) :
      MutStep a fin (.enter k) { a with cb := some k } "ok"
  | enterRoot (hcb : a.cb = none) :
      MutStep a fin (.enter .mutateRoot) { a with cb := some .mutateRoot, ctx := a.ctx.rootBarrier } "ok"
  | leave (hcb : a.cb ≠ none) : MutStep a fin .leave { a with cb := none, temps := [] } "ok"
  | alloc (nt : Bool) (slots : List Slot) (hcb : a.cb ≠ none)
      (hs : ∀ p, some p ∈ slots → p ∈ a.temps) (hnt : nt = false → ∀ s, s ∈ slots → s = none) :
      MutStep a fin (.alloc nt slots)
        (({ a with ctx := (a.ctx.link { color := .white, needsTrace := nt, live := true, slots := slots }).1 }
          : Arena).push (.strong a.ctx.heap.fresh)) s!"{a.ctx.heap.fresh}"
  | hold (op : Op) (p : Ptr) (hcb : a.cb ≠ none) (hp : Src a p) (hop : op.isRead = true) :
      MutStep a fin op (a.push p) (op.holdOut p)
  | upgradeSome (w : Nat) (hcb : a.cb ≠ none) (hw : .weak w ∈ a.temps) (hu : (a.ctx.upgrade w).2 = true) :
      MutStep a fin (.upgrade w) (({ a with ctx := (a.ctx.upgrade w).1 } : Arena).push (.strong w)) "some"
  | upgradeNone (w : Nat) (hcb : a.cb ≠ none) (hw : .weak w ∈ a.temps) (hu : (a.ctx.upgrade w).2 = false) :
      MutStep a fin (.upgrade w) { a with ctx := (a.ctx.upgrade w).1 } "none"
  /-- `isDropped` / `isDead` / `resurrect` of a held pointer whose block is gone. -/
  | dangling (op : Op) (p : Ptr) (hcb : a.cb ≠ none) (hp : p ∈ a.temps)
      (hg : a.ctx.heap.get p.target = none) (hop : op.readsHeader = true) :
      MutStep a fin op { a with ctx := a.ctx.fail .dangling } "dangling"
  | resurrect (p : Ptr) (hcb : a.cb = some .finalize) (hp : p ∈ a.temps)
      (hl : ∀ t, p = .weak t → ∃ o, a.ctx.heap.get t = some o ∧ o.live = true) :
      MutStep a fin (.resurrect p)
        (({ a with ctx := a.ctx.resurrect p.target } : Arena).push (.strong p.target))
        (match p with | .strong _ => "ok" | .weak _ => "some")
  | barrier (b : BarrierOp) (hcb : a.cb ≠ none) (hb : ∀ p, p ∈ b.operands → p ∈ a.temps) :
      MutStep a fin (.barrier b) { a with ctx := b.apply a.ctx, cover := b.cover :: a.cover } "ok"
  | store (path : StorePath) (p i : Nat) (v : Slot) (hcb : a.cb ≠ none) (hp : .strong p ∈ a.temps)
      (hv : ∀ q, v = some q → q ∈ a.temps) (hs : (Arena.slotOf a.ctx p i).isSome = true)
      (ht : v.isSome = true → Arena.isTracing a.ctx p = true)
      (hraw : path = .raw → a.coverOK p v = true) :
      MutStep a fin (.store path p i v)
        { a with ctx := path.apply a.ctx p i v, cover := path.cover p a.cover } "ok"
  | rootStore (i : Nat) (v : Slot) (hcb : a.cb = some .mutateRoot)
      (hv : ∀ q, v = some q → q ∈ a.temps) (hi : i < a.root.length) :
      MutStep a fin (.rootStore i v) { a with root := a.root.set i v } "ok"

namespace Arena
variable (a : Arena) (p : Ptr)
@[simp] theorem push_ctx : (a.push p).ctx = a.ctx := by unfold push; split <;> rfl
@[simp] theorem push_root : (a.push p).root = a.root := by unfold push; split <;> rfl
@[simp] theorem push_cb : (a.push p).cb = a.cb := by unfold push; split <;> rfl
@[simp] theorem push_cover : (a.push p).cover = a.cover := by unfold push; split <;> rfl
@[simp] theorem push_marked : (a.push p).marked = a.marked := by unfold push; split <;> rfl
@[simp] theorem push_alive : (a.push p).alive = a.alive := by unfold push; split <;> rfl
theorem mem_push {q : Ptr} : q ∈ (a.push p).temps ↔ q = p ∨ q ∈ a.temps := by
  unfold push
  split
  · rename_i h
    exact ⟨.inr, fun hq => hq.elim (fun e => e ▸ (holds_iff a p).mp h) id⟩
  · exact List.mem_cons
end Arena

theorem Arena.push_of_mem {a : Arena} {p : Ptr} (h : p ∈ a.temps) : a.push p = a := by
  simp [Arena.push, (holds_iff a p).mpr h]

theorem stepBody_mutStep (a : Arena) (fin : Bool) (op : Op) (hop : op.isMutator = true) :
    MutStep a fin op (a.stepBody fin op).1 (a.stepBody fin op).2 := by
  have hold : ∀ {p : Ptr}, a.holds p = true → p ∈ a.temps := fun h => (holds_iff a _).mp h
  have cbne : ¬ a.cb.isNone = true → a.cb ≠ none := fun h hn => h (by rw [hn]; rfl)
  cases op with
  | collect m k f o => cases hop
  | dropArena => cases hop
  | setPacing p => exact .setPacing p
  | adjustDebt x => exact .adjustDebt x
  | enter k =>
    simp only [Arena.stepBody, Arena.bad]
    split
    · exact .same _ _ (.inl rfl)
    · rename_i hcb
      have hcb : a.cb = none := by simpa using hcb
      cases k with
      | mutate => exact .enter _ hcb (by simp) (by simp)
      | mutateRoot => exact .enterRoot hcb
      | finalize =>
        simp only
        split
        · rename_i hf; exact .enter _ hcb (by simp) (fun _ => hf)
        · exact .same _ _ (.inl rfl)
  | leave =>
    simp only [Arena.stepBody, Arena.bad]
    split
    · exact .same _ _ (.inl rfl)
    · rename_i hcb; exact .leave (cbne hcb)
  | alloc nt slots =>
    simp only [Arena.stepBody, Arena.bad]
    split
    · exact .same _ _ (.inl rfl)
    · rename_i hcb
      split
      · exact .same _ _ (.inl rfl)
      · rename_i hs
        split
        · exact .same _ _ (.inl rfl)
        · rename_i hnt
          simp only [Bool.not_eq_true', Bool.not_eq_false, List.all_eq_true] at hs
          refine .alloc nt slots (cbne hcb) (fun p hp => hold (hs _ hp)) (fun hn s hs' => ?_)
          simp only [hn, Bool.not_false, Bool.true_and, Bool.not_eq_true', Bool.not_eq_false,
            List.all_eq_true, beq_iff_eq] at hnt
          exact hnt s hs'
  | readRoot i =>
    simp only [Arena.stepBody, Arena.bad]
    split
    · exact .same _ _ (.inl rfl)
    · rename_i hcb
      split
      · exact .same _ _ (.inl rfl)
      · exact .same _ _ (.inr (.inl rfl))
      · rename_i p hp
        exact .hold _ p (cbne hcb) (.root (List.mem_of_getElem? hp)) rfl
  | read p i =>
    simp only [Arena.stepBody, Arena.bad]
    split
    · exact .same _ _ (.inl rfl)
    · rename_i hg
      simp only [Bool.or_eq_true, Bool.not_eq_true', not_or, Bool.not_eq_false] at hg
      split
      · exact .same _ _ (.inl rfl)
      · exact .same _ _ (.inr (.inl rfl))
      · rename_i q hq
        unfold Arena.slotOf at hq
        split at hq
        · cases hq
        · rename_i o ho; exact .hold _ q (cbne hg.1) (.slot (hold hg.2) ho (List.mem_of_getElem? hq)) rfl
  | downgrade p =>
    simp only [Arena.stepBody, Arena.bad]
    split
    · exact .same _ _ (.inl rfl)
    · rename_i hg
      simp only [Bool.or_eq_true, Bool.not_eq_true', not_or, Bool.not_eq_false] at hg
      exact .hold _ _ (cbne hg.1) (.downgrade (hold hg.2)) rfl
  | upgrade w =>
    simp only [Arena.stepBody, Arena.bad]
    split
    · exact .same _ _ (.inl rfl)
    · rename_i hg
      simp only [Bool.or_eq_true, Bool.not_eq_true', not_or, Bool.not_eq_false] at hg
      split
      · rename_i hu; exact .upgradeSome w (cbne hg.1) (hold hg.2) hu
      · rename_i hu; exact .upgradeNone w (cbne hg.1) (hold hg.2) (by simpa using hu)
  | isDropped w =>
    simp only [Arena.stepBody, Arena.bad]
    split
    · exact .same _ _ (.inl rfl)
    · rename_i hg
      simp only [Bool.or_eq_true, Bool.not_eq_true', not_or, Bool.not_eq_false] at hg
      split
      · rename_i hn; exact .dangling _ (.weak w) (cbne hg.1) (hold hg.2) hn rfl
      · exact .same _ _ (.inr (.inr rfl))
  | isDead p =>
    simp only [Arena.stepBody, Arena.bad]
    split
    · exact .same _ _ (.inl rfl)
    · rename_i hg
      simp only [Bool.or_eq_true, Bool.not_eq_true', not_or, Bool.not_eq_false, decide_eq_true_eq,
        Decidable.not_not] at hg
      split
      · rename_i hn; exact .dangling _ p (by rw [hg.1]; simp) (hold hg.2) hn rfl
      · exact .same _ _ (.inr (.inr rfl))
  | resurrect p =>
    simp only [Arena.stepBody, Arena.bad]
    split
    · exact .same _ _ (.inl rfl)
    · rename_i hg
      simp only [Bool.or_eq_true, Bool.not_eq_true', not_or, Bool.not_eq_false, decide_eq_true_eq,
        Decidable.not_not] at hg
      have hp := hold hg.2
      cases p with
      | strong t =>
        have := MutStep.resurrect (fin := fin) (.strong t) hg.1 hp (fun _ h => by cases h)
        simp only [Ptr.target] at this
        rwa [Arena.push_of_mem (a := { a with ctx := a.ctx.resurrect t }) hp] at this
      | weak t =>
        simp only
        split
        · rename_i hn; exact .dangling _ (.weak t) (by rw [hg.1]; simp) hp hn rfl
        · rename_i o ho
          split
          · rename_i hl
            exact .resurrect (.weak t) hg.1 hp (fun t' h => by cases h; exact ⟨o, ho, hl⟩)
          · exact .same _ _ (.inr (.inr rfl))
  | barrier b =>
    simp only [Arena.stepBody, Arena.bad]
    split
    · exact .same _ _ (.inl rfl)
    · rename_i hcb
      have mk := MutStep.barrier (a := a) (fin := fin) b (cbne hcb)
      rcases b with ⟨p, _ | ch⟩ | ⟨p, ch⟩ | ⟨_ | p, ch⟩ | ⟨_ | p, ch⟩ <;> simp only <;> split <;>
        first
        | exact .same _ _ (.inl rfl)
        | (rename_i hg
           simp only [Bool.or_eq_true, Bool.not_eq_true', not_or, Bool.not_eq_false] at hg
           refine mk (fun q hq => ?_)
           simp only [BarrierOp.operands, Option.map, Option.toList, List.mem_cons, List.not_mem_nil,
             or_false] at hq
           rcases hq with rfl | rfl <;> first | exact hold hg | exact hold hg.1 | exact hold hg.2)
  | store path p i v =>
    simp only [Arena.stepBody, Arena.bad]
    split
    · exact .same _ _ (.inl rfl)
    · rename_i hg
      simp only [Bool.or_eq_true, Bool.not_eq_true', not_or, Bool.not_eq_false] at hg
      have hv : ∀ q, v = some q → q ∈ a.temps := fun q hq => by subst hq; exact hold hg.2
      split
      · exact .same _ _ (.inl rfl)
      · rename_i s hs
        split
        · exact .same _ _ (.inl rfl)
        · rename_i ht
          have ht : v.isSome = true → Arena.isTracing a.ctx p = true := fun h => by
            cases hi : Arena.isTracing a.ctx p <;> simp_all
          have mk := fun hraw => MutStep.store (a := a) (fin := fin) path p i v (cbne hg.1.1)
            (hold hg.1.2) hv (by rw [hs]; rfl) ht hraw
          cases path with
          | write => exact mk (fun h => by cases h)
          | storeThenBarrier => exact mk (fun h => by cases h)
          | raw =>
            simp only
            split
            · exact .same _ _ (.inl rfl)
            · rename_i hc; exact mk (fun _ => by simpa using hc)
  | rootStore i v =>
    simp only [Arena.stepBody, Arena.bad]
    split
    · exact .same _ _ (.inl rfl)
    · rename_i hg
      simp only [Bool.or_eq_true, Bool.not_eq_true', not_or, Bool.not_eq_false, decide_eq_true_eq,
        Decidable.not_not, Nat.not_le] at hg
      exact .rootStore i v hg.1.1 (fun q hq => by subst hq; exact hold hg.1.2) hg.2

theorem step_eq {a : Arena} (hal : a.alive = true) (op : Op) :
    a.step op = ({ a with marked := false } : Arena).stepBody a.marked op := by
  simp [Arena.step, hal]

/-- Dropping the arena is rejected inside a callback; otherwise `DropAll` runs. -/
theorem stepBody_dropArena (a : Arena) (fin : Bool) :
    (a.cb ≠ none ∧ (a.stepBody fin .dropArena).1 = a) ∨
    (a.cb = none ∧ (a.stepBody fin .dropArena).1 =
      { a with ctx := a.ctx.dropAll, alive := false, root := [], cover := [] }) := by
  simp only [Arena.stepBody, Arena.bad]
  cases hcb : a.cb with
  | none => exact .inr ⟨rfl, rfl⟩
  | some k => exact .inl ⟨nofun, rfl⟩

theorem step_mutStep {a : Arena} (hal : a.alive = true) {op : Op} (hop : op.isMutator = true) :
    MutStep { a with marked := false } a.marked op (a.step op).1 (a.step op).2 := by
  rw [step_eq hal]; exact stepBody_mutStep _ _ _ hop

theorem MutStep.alive {a a' : Arena} {fin : Bool} {op : Op} {out : String}
    (st : MutStep a fin op a' out) :
    a'.alive = a.alive := by
  cases st with
  | alloc | hold | upgradeSome | resurrect => exact Arena.push_alive _ _
  | _ => rfl

theorem MutStep.root {a a' : Arena} {fin : Bool} {op : Op} {out : String}
    (st : MutStep a fin op a' out) :
    a'.root = a.root ∨ ∃ i v, op = .rootStore i v ∧ a'.root = a.root.set i v := by
  cases st with
  | alloc | hold | upgradeSome | resurrect => exact .inl (Arena.push_root _ _)
  | rootStore i v => exact .inr ⟨i, v, rfl, rfl⟩
  | _ => exact .inl rfl

/-- The rules say what an accepted operation looks like; for a store this is the converse: when
    the guards hold, the store is accepted. -/
theorem stepBody_store_accepted (a : Arena) (fin : Bool) (path : StorePath) (p i : Nat) (v s : Slot)
    (hcb : a.cb.isSome = true) (hp : a.holds (.strong p) = true) (hv : a.holdsSlot v = true)
    (hs : Arena.slotOf a.ctx p i = some s) (ht : v.isSome = true → Arena.isTracing a.ctx p = true)
    (hraw : path = .raw → a.coverOK p v = true) :
    a.stepBody fin (.store path p i v) =
      ({ a with ctx := path.apply a.ctx p i v, cover := path.cover p a.cover }, "ok") := by
  have hn : a.cb.isNone = false := by cases hc : a.cb <;> simp_all
  have ht' : (v.isSome && !Arena.isTracing a.ctx p) = false := by
    cases hv' : v.isSome
    · rfl
    · simp [ht hv']
  simp only [Arena.stepBody, hn, hp, hv, hs, ht', Bool.not_true, Bool.or_self, Bool.false_eq_true,
    if_false]
  cases path with
  | raw => simp [hraw rfl, StorePath.apply, StorePath.cover]
  | write | storeThenBarrier => rfl

theorem BarrierOp.target_mem (b : BarrierOp) : b.target ∈ b.operands := by
  cases b <;> simp [BarrierOp.target, BarrierOp.operands]

/-- The `.collect` arm of `Arena.stepBody` in rule form.  `ran` covers every outcome that leaves no
    `MarkedArena` behind: a method that hands none out, one the client drops, a `trace` that
    unwound, a `start_sweeping` the model rejects. -/
inductive CollectStep (a : Arena) (m : Method) (k : Cont) (f : TraceFault) (o : Option (List Micro)) :
    Arena → Prop
  /-- Called inside a callback, or a logged micro-step is not enabled in the model. -/
  | rejected (h : a.cb ≠ none ∨
      a.runCollector (Arena.methodArgs m).1 (Arena.methodArgs m).2 f (Arena.splitOracle o k m).1 = none) :
      CollectStep a m k f o a
  | ran (c : Ctx) (ex : Exit) (hcb : a.cb = none)
      (hr : a.runCollector (Arena.methodArgs m).1 (Arena.methodArgs m).2 f (Arena.splitOracle o k m).1
        = some (c, ex)) :
      CollectStep a m k f o { a with ctx := c, cover := [] }
  | kept (c : Ctx) (hcb : a.cb = none)
      (hr : a.runCollector (Arena.methodArgs m).1 (Arena.methodArgs m).2 f (Arena.splitOracle o k m).1
        = some (c, .returned))
      (hm : m = .markDebt ∨ m = .finishMarking) (hmk : Arena.isMarked c = true) (hk : k = .finalize) :
      CollectStep a m k f o { a with ctx := c, cover := [], marked := true }
  | swept (c c2 : Ctx) (ex2 : Exit) (hcb : a.cb = none)
      (hr : a.runCollector (Arena.methodArgs m).1 (Arena.methodArgs m).2 f (Arena.splitOracle o k m).1
        = some (c, .returned))
      (hm : m = .markDebt ∨ m = .finishMarking) (hmk : Arena.isMarked c = true) (hk : k = .sweep)
      (hr2 : ({ a with ctx := c, cover := [] } : Arena).runCollector .stop .atSweep none
        (Arena.splitOracle o k m).2 = some (c2, ex2))
      (hp : c2.phase = .sweep) :
      CollectStep a m k f o { a with ctx := c2, cover := [] }

theorem stepBody_collect_eq (a : Arena) (fin : Bool) (m : Method) (k : Cont) (f : TraceFault)
    (o : Option (List Micro)) :
    a.stepBody fin (.collect m k f o) =
      if a.cb.isSome then a.bad else
      match a.runCollector (Arena.methodArgs m).1 (Arena.methodArgs m).2 f (Arena.splitOracle o k m).1 with
      | none => (a, "model-reject")
      | some (c, ex) =>
        if ex = .unwound then ({ a with ctx := c, cover := [] }, "panic") else
        if ex = .outOfFuel then ({ a with ctx := c, cover := [] }, "out-of-fuel") else
        match m with
        | .markDebt => ({ a with ctx := c, cover := [] } : Arena).marked? k (Arena.splitOracle o k m).2
        | .finishMarking => ({ a with ctx := c, cover := [] } : Arena).marked? k (Arena.splitOracle o k m).2
        | _ => ({ a with ctx := c, cover := [] }, "-") := rfl

theorem stepBody_collectStep (a : Arena) (fin : Bool) (m : Method) (k : Cont) (f : TraceFault)
    (o : Option (List Micro)) : CollectStep a m k f o (a.stepBody fin (.collect m k f o)).1 := by
  simp only [Arena.stepBody, Arena.bad]
  split
  · rename_i hcb; exact .rejected (.inl fun hn => by simp [hn] at hcb)
  · rename_i hcb
    have hcb : a.cb = none := by simpa using hcb
    cases hr : a.runCollector (Arena.methodArgs m).1 (Arena.methodArgs m).2 f (Arena.splitOracle o k m).1 with
    | none => exact .rejected (.inr hr)
    | some res =>
      obtain ⟨c, ex⟩ := res
      have ran := CollectStep.ran c ex hcb hr
      have mk : (m = .markDebt ∨ m = .finishMarking) → ex = .returned →
          CollectStep a m k f o
            (({ a with ctx := c, cover := [] } : Arena).marked? k (Arena.splitOracle o k m).2).1 := by
        intro hm hex
        subst hex
        unfold Arena.marked?
        split
        · rename_i hmk
          cases k with
          | drop => exact ran
          | finalize => exact .kept c hcb hr hm hmk rfl
          | sweep =>
            simp only
            split
            · exact ran
            · rename_i c2 hss
              unfold Arena.startSweeping at hss
              split at hss
              · cases hss
              · rename_i c2' ex2 hr2
                split at hss
                · rename_i hp; cases hss; exact .swept c c2 ex2 hcb hr hm hmk rfl hr2 hp
                · cases hss
        · exact ran
      simp only
      split
      · exact ran
      · split
        · exact ran
        · have hex : ex = .returned := by cases ex <;> simp_all
          cases m with
          | markDebt => exact mk (.inl rfl) hex
          | finishMarking => exact mk (.inr rfl) hex
          | collectDebt => exact ran
          | cycleDebt => exact ran
          | finishCycle => exact ran

end GcArena
