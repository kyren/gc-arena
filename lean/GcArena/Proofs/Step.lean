import GcArena.Proofs.Barrier
import GcArena.Proofs.Touch
import GcArena.Proofs.Collect
import GcArena.Proofs.Loop
/-!
  The arena invariant `Inv` holds initially (`inv_init`) and is preserved by every rule of the
  mutator operations (`MutStep.inv`) and of the collection calls (`CollectStep.inv`: every method
  with every `RunUntil` / `Stop` / debt outcome / oracle, every fault position).  Proofs/InvRun
  puts these together for `Arena.step` and for histories.
-/
namespace GcArena

theorem CoverOK.frame {c c' : Ctx} (hph : c'.phase = c.phase)
    (hg : ∀ j, (∃ o, c.heap.get j = some o) → c'.heap.get j = c.heap.get j)
    {cv : Cover} (h : CoverOK c cv) : CoverOK c' cv :=
  h.mono hph fun j o ho => ⟨o, by rw [hg j ⟨o, ho⟩]; exact ho, rfl, Nat.le_refl _, fun hb _ => hb⟩

theorem CoverOK.setSlots {c : Ctx} {p : Nat} {o : Obj} (ho : c.heap.get p = some o) (slots' : List Slot)
    {cv : Cover} (h : CoverOK c cv) : CoverOK (c.setObj p { o with slots := slots' }) cv := by
  refine CoverOK.mono (c := c) (c' := c.setObj p { o with slots := slots' }) rfl (fun j oj hoj => ?_) h
  by_cases hj : j = p
  · subst hj
    rw [ho] at hoj; cases hoj
    exact ⟨{ o with slots := slots' }, by simp, rfl, Nat.le_refl _, fun hb _ => hb⟩
  · exact ⟨oj, by simp [hj, hoj], rfl, Nat.le_refl _, fun hb _ => hb⟩

theorem inv_init (n : Nat) : Inv (Arena.new n) := by
  refine ⟨rfl, ?_, ?_, fun _ => rfl, ?_, ?_, ?_⟩
  · constructor <;> simp [Arena.new, Ctx.new, Metrics.new]
  · intro cv hcv; cases hcv
  · intro h; cases h
  · intro h; cases h
  · intro h; cases h


theorem Inv.unmark {a : Arena} (h : Inv a) : Inv { a with marked := false } :=
  ⟨h.alive, h.cinv, h.cover, h.cbTemps, h.finMark, h.rootCb, fun hm => by cases hm⟩

theorem Inv.update {a : Arena} (h : Inv a) {c : Ctx} {temps : List Ptr} {cover : List Cover}
    (hc : CInv c a.root temps) (hcov : ∀ cv, cv ∈ cover → CoverOK c cv)
    (hph : c.phase = a.ctx.phase) (hrnt : c.rootNeedsTrace = a.ctx.rootNeedsTrace)
    (hcb : a.cb = none → temps = []) :
    Inv { a with ctx := c, temps := temps, cover := cover, marked := false } :=
  ⟨h.alive, hc, hcov, hcb, fun hf => by rw [hph]; exact h.finMark hf,
   fun hr hm => by rw [hrnt]; exact h.rootCb hr (by rw [← hph]; exact hm), fun hm => by cases hm⟩

theorem Inv.push {a : Arena} (h : Inv a) {p : Ptr} (hp : PtrOK a.ctx p) (hcb : a.cb ≠ none) :
    Inv (a.push p) := by
  refine ⟨by simpa using h.alive, ?_, by simpa using h.cover, fun hn => absurd (by simpa using hn) hcb,
    by simpa using h.finMark, by simpa using h.rootCb, by simpa using h.markedMark⟩
  rw [Arena.push_ctx, Arena.push_root]
  refine h.cinv.withTemps fun q hq => ?_
  rcases (Arena.mem_push a p).mp hq with rfl | hq
  · exact hp
  · exact h.cinv.tempsOK q hq

theorem Inv.ptrOK_of_holds {a : Arena} (h : Inv a) {p : Ptr} (hp : a.holds p = true) : PtrOK a.ctx p :=
  h.cinv.tempsOK p ((holds_iff a p).mp hp)

theorem allocated_of_ptrOK {c : Ctx} {p : Ptr} (h : PtrOK c p) : ∃ o, c.heap.get p.target = some o := by
  cases p with
  | strong t => obtain ⟨o, ho, _⟩ := h; exact ⟨o, ho⟩
  | weak t => obtain ⟨o, ho, _⟩ := h; exact ⟨o, ho⟩


theorem Inv.update' {a : Arena} (h : Inv a) {c : Ctx} {temps : List Ptr} {cover : List Cover}
    (hm : a.marked = false)
    (hc : CInv c a.root temps) (hcov : ∀ cv, cv ∈ cover → CoverOK c cv)
    (hph : c.phase = a.ctx.phase) (hrnt : c.rootNeedsTrace = a.ctx.rootNeedsTrace)
    (hcb : a.cb = none → temps = []) :
    Inv { a with ctx := c, temps := temps, cover := cover } :=
  ⟨h.alive, hc, hcov, hcb, fun hf => by rw [hph]; exact h.finMark hf,
   fun hr hmk => by rw [hrnt]; exact h.rootCb hr (by rw [← hph]; exact hmk),
   fun hmk => by simp only at hmk; rw [hm] at hmk; cases hmk⟩

/-- The two knob operations (`set_pacing`, `adjust_debt` — through a cloned `Metrics` handle) keep
    the `marked` flag: a `MarkedArena` handed out by the previous operation stays usable. -/
theorem sb_knob {a : Arena} (h : Inv a) (fin : Bool)
    (hfin : fin = true → a.ctx.phase = .mark ∧ a.cb = none) (f : Metrics → Metrics)
    (h1 : ∀ m, (f m).underflow = m.underflow) (h2 : ∀ m, (f m).totalGcs = m.totalGcs) :
    Inv { a with ctx := a.ctx.withMetrics f, marked := fin } := by
  have sv : SameView a.ctx (a.ctx.withMetrics f) := sameView_withMetrics _ _ (h1 _) (h2 _)
  exact ⟨h.alive, h.cinv.sameView sv, fun cv hcv => (sv.coverOK cv).mpr (h.cover cv hcv), h.cbTemps,
    h.finMark, h.rootCb, hfin⟩

theorem rootBarrier_coverOK {c : Ctx} {cv : Cover} (h : CoverOK c cv) : CoverOK c.rootBarrier cv := by
  unfold Ctx.rootBarrier
  split
  · exact CoverOK.frame rfl (fun _ _ => rfl) h
  · exact h

theorem holds_of_and {a : Arena} {p : Ptr} {b : Bool} (h : ¬ (b || !a.holds p) = true) :
    a.holds p = true := by
  cases hh : a.holds p <;> simp_all

theorem backwardBarrier_none_eq {c : Ctx} {p : Nat} {o : Obj} (ho : c.heap.get p = some o) :
    c.backwardBarrier p none =
      if c.phase = .mark ∧ o.color = .black then
        { (c.setObj p { o with color := .gray }) with
            grayAgain := p :: c.grayAgain, metrics := c.metrics.markGcUntraced }
      else c := by
  unfold Ctx.backwardBarrier
  by_cases hm : c.phase = .mark
  · simp only [hm, if_true, ho, true_and]
    by_cases hb : o.color = .black
    · simp [hb, Ctx.makeGrayAgain, ho]
    · simp [hb]
  · simp [hm]

theorem setSlot_eq {c : Ctx} {p i : Nat} {v : Slot} {o : Obj} (ho : c.heap.get p = some o) :
    Arena.setSlot c p i v = c.setObj p { o with slots := o.slots.set i v } := by
  simp [Arena.setSlot, ho]

theorem ptrMarked_of_coverOK {a : Arena} (h : Inv a) {p : Nat} {q : Ptr} {o : Obj}
    (hcov : a.coverOK p (some q) = true) (ho : a.ctx.heap.get p = some o) (hnt : o.needsTrace = true)
    (hm : a.ctx.phase = .mark) (hb : o.color = .black) (hq : PtrOK a.ctx q) : PtrMarked a.ctx q := by
  obtain ⟨oq, hoq⟩ := allocated_of_ptrOK hq
  have use_parent : Cover.parent p ∈ a.cover → False := by
    intro hmem
    exact (h.cover _ hmem).2 hm o ho hnt hb
  have strong_of : ∀ c, q.target = c → (Cover.child c ∈ a.cover ∨ Cover.pair p c ∈ a.cover) →
      oq.color = .gray ∨ oq.color = .black := by
    intro c hc hmem
    subst hc
    rcases hmem with hmem | hmem
    · exact (h.cover _ hmem).2 hm oq hoq
    · exact (h.cover _ hmem).2.2 hm o ho hnt hb oq hoq
  cases q with
  | strong c =>
    simp only [Arena.coverOK, Bool.or_eq_true, List.contains_iff_mem] at hcov
    rcases hcov with (hcov | hcov) | hcov
    · exact (use_parent hcov).elim
    · exact ⟨oq, hoq, strong_of c rfl (Or.inl hcov)⟩
    · exact ⟨oq, hoq, strong_of c rfl (Or.inr hcov)⟩
  | weak c =>
    simp only [Arena.coverOK, Bool.or_eq_true, List.contains_iff_mem] at hcov
    rcases hcov with (((hcov | hcov) | hcov) | hcov) | hcov
    · exact (use_parent hcov).elim
    · have := strong_of c rfl (Or.inl hcov)
      exact ⟨oq, hoq, by rcases this with h | h <;> simp [h]⟩
    · have := strong_of c rfl (Or.inr hcov)
      exact ⟨oq, hoq, by rcases this with h | h <;> simp [h]⟩
    · exact ⟨oq, hoq, (h.cover _ hcov).2 hm oq hoq⟩
    · exact ⟨oq, hoq, (h.cover _ hcov).2.2 hm o ho hnt hb oq hoq⟩

/-- The barrier-then-store order (`Gc::write` … `borrow_mut`). -/
theorem store_write_inv {a : Arena} (h : Inv a) (hm : a.marked = false) {p i : Nat} {v : Slot}
    (hp : Ptr.strong p ∈ a.temps) (hv : ∀ q, v = some q → q ∈ a.temps)
    (hnt : v.isSome = true → Arena.isTracing a.ctx p = true) :
    Inv { a with ctx := Arena.setSlot (a.ctx.backwardBarrier p none) p i v,
                 cover := .parent p :: a.cover } := by
  obtain ⟨o, ho, hlive, _⟩ : Safe a.ctx p := h.cinv.tempsOK _ hp
  obtain ⟨h1, b1, c1⟩ := backwardBarrier_spec h.cinv ⟨o, ho⟩ none (fun _ hc => by cases hc)
  obtain ⟨o1, ho1, _, hs1, hl1, hn1⟩ := b1.mm.mono p o ho
  have hvq : ∀ q, v = some q → PtrOK (a.ctx.backwardBarrier p none) q := by
    intro q hq
    have := h.cinv.tempsOK q (hv q hq)
    by_cases hmk : a.ctx.phase = .mark
    · exact b1.mm.ptrOK hmk this
    · rwa [show a.ctx.backwardBarrier p none = a.ctx by simp [Ctx.backwardBarrier, hmk]]
  have hnt1 : ∀ q, v = some q → o1.needsTrace = true := by
    intro q hq
    have := hnt (by rw [hq]; rfl)
    simp only [Arena.isTracing, ho] at this
    rw [hn1]; exact this
  have h2 : CInv (Arena.setSlot (a.ctx.backwardBarrier p none) p i v) a.root a.temps := by
    apply setSlot_spec h1 ho1 (by rw [hl1]; exact hlive)
    intro q hq
    exact ⟨hvq q hq, fun hmk hb => absurd hb (c1.2 hmk o1 ho1 (hnt1 q hq)), hnt1 q hq⟩
  rw [setSlot_eq ho1] at h2 ⊢
  refine h.update' (temps := a.temps) hm h2 ?_ b1.mm.phase b1.mm.rnt h.cbTemps
  intro cv hcv
  apply CoverOK.setSlots ho1
  rcases List.mem_cons.mp hcv with he | hmem
  · subst he; exact c1
  · exact b1.coverOK (h.cover cv hmem)

/-- Every mutator rule preserves the invariant.  `fin`: the previous operation handed out a
    `MarkedArena` that the client kept (then the state is fully marked and no callback runs). -/
theorem MutStep.inv {a a' : Arena} {fin : Bool} {op : Op} {out : String}
    (st : MutStep a fin op a' out) (h : Inv a)
    (hm : a.marked = false) (hfin : fin = true → a.ctx.phase = .mark ∧ a.cb = none) : Inv a' := by
  have nomark : ∀ {b : Arena}, b.marked = a.marked → b.marked = true → b.ctx.phase = .mark ∧ b.cb = none :=
    fun e hmk => by rw [e, hm] at hmk; cases hmk
  have recol : ∀ {c : Ctx} {temps : List Ptr} {cover : List Cover}, CInv c a.root temps →
      BarrierMono a.ctx c → (∀ cv, cv ∈ cover → cv ∈ a.cover ∨ CoverOK c cv) →
      (a.cb = none → temps = []) → Inv { a with ctx := c, temps := temps, cover := cover } :=
    fun hc bm hcov hcb => h.update' hm hc
      (fun cv hcv => (hcov cv hcv).elim (fun hmem => bm.coverOK (h.cover cv hmem)) id)
      bm.mm.phase bm.mm.rnt hcb
  cases st with
  | same => exact h
  | setPacing p => exact sb_knob h fin hfin _ (fun _ => rfl) (fun _ => rfl)
  | adjustDebt x => exact sb_knob h fin hfin _ (fun _ => rfl) (fun _ => rfl)
  | enter k hcb hk hf =>
    refine Inv.mk h.alive h.cinv h.cover (fun hn => by cases hn) ?_ ?_ (nomark rfl)
    · intro hkf; cases hkf; exact (hfin (hf rfl)).1
    · intro hkr; cases hkr; exact absurd rfl hk
  | enterRoot hcb =>
    refine Inv.mk h.alive ?_ (fun cv hcv => rootBarrier_coverOK (h.cover cv hcv))
      (fun hn => by cases hn) (fun hf => by cases hf) ?_ (nomark rfl)
    · show CInv a.ctx.rootBarrier a.root a.temps
      unfold Ctx.rootBarrier
      split
      · rename_i hmark; exact h.cinv.setRnt hmark true (fun hb => by cases hb)
      · exact h.cinv
    · intro _ hmark
      have : a.ctx.phase = .mark := by
        have hmark' : a.ctx.rootBarrier.phase = .mark := hmark
        unfold Ctx.rootBarrier at hmark'; split at hmark' <;> assumption
      simp [Ctx.rootBarrier, this]
  | leave hcb =>
    exact Inv.mk h.alive h.cinv.clearTemps h.cover (fun _ => rfl) (fun hf => by cases hf)
      (fun hf => by cases hf) (nomark rfl)
  | alloc nt slots hcb hs hnt =>
    obtain ⟨hc, hframe, _⟩ := link_spec h.cinv nt slots (fun p hp => h.cinv.tempsOK p (hs p hp)) hnt
    have hi : Inv { a with ctx := (a.ctx.link { color := .white, needsTrace := nt, live := true, slots := slots }).1 } := by
      refine h.update' (temps := a.temps) (cover := a.cover) hm ?_ ?_ rfl rfl h.cbTemps
      · exact hc.withTemps (fun q hq => hc.tempsOK q (List.mem_cons_of_mem _ hq))
      · intro cv hcv
        refine CoverOK.frame (c := a.ctx)
          (c' := (a.ctx.link { color := .white, needsTrace := nt, live := true, slots := slots }).1)
          rfl (fun j hj => hframe j ?_) (h.cover cv hcv)
        intro he; obtain ⟨o, ho⟩ := hj; rw [he, Heap.get_fresh] at ho; cases ho
    exact hi.push (hc.tempsOK _ (List.mem_cons_self ..)) hcb
  | hold op p hcb hp =>
    refine h.push ?_ hcb
    cases hp with
    | root hp => exact h.cinv.rootOK p hp
    | slot hj ho hmem => exact h.cinv.closed _ _ ho (h.cinv.tempsOK _ hj) p hmem
    | downgrade ht => exact weakOK_of_safe (h.cinv.tempsOK _ ht)
  | upgradeSome w hcb hw hu =>
    have hwk : WeakOK a.ctx w := h.cinv.tempsOK _ hw
    rw [upgrade_ctx (by obtain ⟨o, ho, _⟩ := hwk; exact ⟨o, ho⟩)]
    exact h.push (p := .strong w) (safe_of_upgrade hwk hu) hcb
  | upgradeNone w hcb hw hu =>
    have hwk : WeakOK a.ctx w := h.cinv.tempsOK _ hw
    rw [upgrade_ctx (by obtain ⟨o, ho, _⟩ := hwk; exact ⟨o, ho⟩)]
    exact h
  | dangling op p hcb hp hg =>
    obtain ⟨o, ho⟩ := allocated_of_ptrOK (h.cinv.tempsOK p hp)
    rw [hg] at ho; cases ho
  | resurrect p hcb hp hl =>
    have hmark : a.ctx.phase = .mark := h.finMark hcb
    have hs : Safe a.ctx p.target := by
      cases p with
      | strong t => exact h.cinv.tempsOK _ hp
      | weak t =>
        obtain ⟨o, ho, hlive⟩ := hl t rfl
        exact ⟨o, ho, hlive, fun hp => by rw [hmark] at hp; cases hp⟩
    obtain ⟨h1, m1, _⟩ := resurrect_spec h.cinv hmark hs
    have bm := (touch_resurrect (T := fun _ => True) a.ctx p.target trivial).barrierMono
    exact (recol (temps := a.temps) (cover := a.cover) h1 bm (fun _ hcv => .inl hcv) h.cbTemps).push
      (m1.safe hmark hs) (by rw [hcb]; exact fun hn => by cases hn)
  | barrier b hcb hb =>
    have al : ∀ q, q ∈ b.operands → ∃ o, a.ctx.heap.get q.target = some o :=
      fun q hq => allocated_of_ptrOK (h.cinv.tempsOK q (hb q hq))
    have fin_ : ∀ {c : Ctx}, CInv c a.root a.temps ∧ BarrierMono a.ctx c ∧ CoverOK c b.cover →
        Inv { a with ctx := c, cover := b.cover :: a.cover } := fun ⟨hc, bm, hcv⟩ =>
      recol hc bm (fun cv hmem => (List.mem_cons.mp hmem).elim (fun e => .inr (e ▸ hcv)) .inl) h.cbTemps
    rcases b with ⟨p, _ | ch⟩ | ⟨p, ch⟩ | ⟨_ | p, ch⟩ | ⟨_ | p, ch⟩
    · exact fin_ (backwardBarrier_spec h.cinv (al (.strong p) (by simp [BarrierOp.operands])) none
        (fun _ hc => by cases hc))
    · exact fin_ (backwardBarrier_spec h.cinv (al (.strong p) (by simp [BarrierOp.operands])) (some ch)
        (fun _ hc => by cases hc; exact al (.strong ch) (by simp [BarrierOp.operands])))
    · exact fin_ (backwardBarrierWeak_spec h.cinv (al (.strong p) (by simp [BarrierOp.operands]))
        (al (.weak ch) (by simp [BarrierOp.operands])))
    · exact fin_ (forwardBarrier_spec h.cinv none (fun _ hp => by cases hp)
        (h.cinv.tempsOK (.strong ch) (hb _ (by simp [BarrierOp.operands]))))
    · exact fin_ (forwardBarrier_spec h.cinv (some p)
        (fun _ hq => by cases hq; exact al (.strong p) (by simp [BarrierOp.operands]))
        (h.cinv.tempsOK (.strong ch) (hb _ (by simp [BarrierOp.operands]))))
    · exact fin_ (forwardBarrierWeak_spec h.cinv none (fun _ hp => by cases hp)
        (al (.weak ch) (by simp [BarrierOp.operands])))
    · exact fin_ (forwardBarrierWeak_spec h.cinv (some p)
        (fun _ hq => by cases hq; exact al (.strong p) (by simp [BarrierOp.operands]))
        (al (.weak ch) (by simp [BarrierOp.operands])))
  | store path p i v hcb hp hv hs ht hraw =>
    obtain ⟨o, ho, hlive, _⟩ : Safe a.ctx p := h.cinv.tempsOK _ hp
    have hnt' : ∀ q, v = some q → o.needsTrace = true := fun q hq => by
      simpa [Arena.isTracing, ho] using ht (by rw [hq]; rfl)
    cases path with
    | write => exact store_write_inv h hm hp hv ht
    | raw =>
      have h2 : CInv (Arena.setSlot a.ctx p i v) a.root a.temps := by
        apply setSlot_spec h.cinv ho hlive
        intro q hq
        refine ⟨h.cinv.tempsOK q (hv q hq), fun hmk hb => ?_, hnt' q hq⟩
        subst hq
        exact ptrMarked_of_coverOK h (hraw rfl) ho (hnt' q rfl) hmk hb (h.cinv.tempsOK q (hv q rfl))
      show Inv { a with ctx := Arena.setSlot a.ctx p i v, cover := a.cover }
      rw [setSlot_eq ho] at h2 ⊢
      exact h.update' (temps := a.temps) (cover := a.cover) hm h2
        (fun cv hcv => CoverOK.setSlots ho _ (h.cover cv hcv)) rfl rfl h.cbTemps
    | storeThenBarrier =>
      -- the same final state, up to what the invariant reads, as barrier-then-store
      have hw := store_write_inv (i := i) h hm hp hv ht
      have ho' : (Arena.setSlot a.ctx p i v).heap.get p = some { o with slots := o.slots.set i v } := by
        rw [setSlot_eq ho]; simp
      have sv : SameView (Arena.setSlot (a.ctx.backwardBarrier p none) p i v)
          ((Arena.setSlot a.ctx p i v).backwardBarrier p none) := by
        rw [backwardBarrier_none_eq ho', backwardBarrier_none_eq ho]
        by_cases hc : a.ctx.phase = .mark ∧ o.color = .black
        · have hc' : (Arena.setSlot a.ctx p i v).phase = .mark ∧
              ({ o with slots := o.slots.set i v } : Obj).color = .black := by
            rw [setSlot_eq ho]; exact hc
          rw [if_pos hc, if_pos hc']
          rw [setSlot_eq (c := { (a.ctx.setObj p { o with color := .gray }) with
              grayAgain := p :: a.ctx.grayAgain, metrics := a.ctx.metrics.markGcUntraced })
              (o := { o with color := .gray }) (by simp)]
          rw [setSlot_eq ho]
          constructor <;> first | rfl | (intro j; simp; split <;> rfl)
        · have hc' : ¬ ((Arena.setSlot a.ctx p i v).phase = .mark ∧
              ({ o with slots := o.slots.set i v } : Obj).color = .black) := by
            rw [setSlot_eq ho]; exact hc
          rw [if_neg hc, if_neg hc']
          exact SameView.refl _
      show Inv { a with ctx := (Arena.setSlot a.ctx p i v).backwardBarrier p none, cover := .parent p :: a.cover }
      exact Inv.mk h.alive (hw.cinv.sameView sv) (fun cv hcv => (sv.coverOK cv).mpr (hw.cover cv hcv))
        h.cbTemps (fun hf => by rw [sv.phase]; exact hw.finMark hf)
        (fun hr hmk => by rw [sv.rnt]; exact hw.rootCb hr (by rw [← sv.phase]; exact hmk)) (nomark rfl)
  | rootStore i v hcb hv hi =>
    refine Inv.mk h.alive ?_ h.cover h.cbTemps h.finMark h.rootCb (nomark rfl)
    apply setRoot_spec h.cinv
    · intro q hq
      rcases mem_set_slot hq with hq | hq
      · exact .inl hq
      · exact .inr (h.cinv.tempsOK q (hv q hq))
    · exact h.rootCb hcb

/-- A store through any write path, accepted or not, keeps the invariant. -/
theorem sb_store {a : Arena} (h : Inv a) (hm : a.marked = false) (fin : Bool) (path : StorePath)
    (p i : Nat) (v : Slot) : Inv (a.stepBody fin (.store path p i v)).1 :=
  (stepBody_mutStep a false (.store path p i v) rfl).inv h hm (fun hf => by cases hf)


/-- Every run of the driver loop is a sequence of enabled micro-steps. -/
theorem collectLoop_reaches {root ru stop fault} (fuel : Nat) :
    ∀ (c : Ctx) (hs : Bool) (k : Nat), CInv c root [] →
      Reaches c root (Ctx.collectLoop root ru stop fault fuel c hs k).1 := by
  intro c hs k h
  refine collectLoop_induct (I := fun _ c' _ _ => CInv c' root [] ∧ Reaches c root c')
    (Q := fun c' _ => Reaches c root c') (fun _ _ _ hi => hi.2)
    (fun _ _ _ _ _ _ _ _ hi a => hi.2.trans (a.reaches hi.1.notDrop))
    (fun _ _ _ _ _ _ _ hi a => ⟨a.inv hi.1, hi.2.trans (a.reaches hi.1.notDrop)⟩)
    fuel c hs k ⟨h, .refl c root⟩

theorem doCollection_reaches {c : Ctx} {root ru stop fault} (h : CInv c root []) :
    Reaches c root (c.doCollection root ru stop fault).1 := by
  unfold Ctx.doCollection
  split
  · exact Reaches.refl c root
  · exact collectLoop_reaches _ c false 0 h

theorem Inv.cinv0 {a : Arena} (h : Inv a) (hcb : a.cb = none) : CInv a.ctx a.root [] := by
  have := h.cinv; rw [h.cbTemps hcb] at this; exact this

/-- The self-driven collector runs `do_collection`; the oracle-driven one replays logged steps. -/
theorem runCollector_cases {a : Arena} {ru stop fault oracle c ex}
    (hr : a.runCollector ru stop fault oracle = some (c, ex)) :
    (oracle = none ∧ a.ctx.doCollection a.root ru stop fault = (c, ex)) ∨
    (∃ ms, oracle = some ms ∧ a.ctx.micros a.root ms = some c) := by
  unfold Arena.runCollector at hr
  cases oracle with
  | none => exact .inl ⟨rfl, Option.some.inj hr⟩
  | some ms =>
    right
    simp only at hr
    split at hr
    · cases hr
    · rename_i c' hc'
      cases hr
      exact ⟨ms, rfl, hc'⟩

theorem runCollector_reaches {a : Arena} (h : Inv a) (hcb : a.cb = none) {ru stop fault oracle c ex}
    (hr : a.runCollector ru stop fault oracle = some (c, ex)) : Reaches a.ctx a.root c := by
  rcases runCollector_cases hr with ⟨_, hd⟩ | ⟨ms, _, hms⟩
  · have := doCollection_reaches (ru := ru) (stop := stop) (fault := fault) (h.cinv0 hcb)
    rwa [hd] at this
  · exact ⟨ms, hms⟩

theorem runCollector_inv {a : Arena} (h : Inv a) (hcb : a.cb = none) {ru stop fault oracle c ex}
    (hr : a.runCollector ru stop fault oracle = some (c, ex)) : CInv c a.root [] :=
  (runCollector_reaches h hcb hr).inv (h.cinv0 hcb)

theorem Inv.afterCollect {a : Arena} (h : Inv a) (hm : a.marked = false) (hcb : a.cb = none) {c : Ctx}
    (hc : CInv c a.root []) : Inv { a with ctx := c, cover := [] } := by
  refine Inv.mk h.alive ?_ ?_ h.cbTemps ?_ ?_ ?_
  · show CInv c a.root a.temps
    rw [h.cbTemps hcb]; exact hc
  · intro cv hcv; cases hcv
  · intro hf; simp only at hf; rw [hcb] at hf; cases hf
  · intro hf; simp only at hf; rw [hcb] at hf; cases hf
  · intro hmk; simp only at hmk; rw [hm] at hmk; cases hmk

theorem CollectStep.inv {a a' : Arena} {m k f o} (st : CollectStep a m k f o a') (h : Inv a)
    (hm : a.marked = false) : Inv a' := by
  cases st with
  | rejected => exact h
  | ran c ex hcb hr => exact h.afterCollect hm hcb (runCollector_inv h hcb hr)
  | kept c hcb hr _ hmk _ =>
    have ha := h.afterCollect hm hcb (runCollector_inv h hcb hr)
    refine Inv.mk ha.alive ha.cinv ha.cover ha.cbTemps ha.finMark ha.rootCb (fun _ => ?_)
    exact ⟨(isMarked_iff.mp hmk).1, hcb⟩
  | swept c c2 ex2 hcb hr _ _ _ hr2 _ =>
    have ha := h.afterCollect hm hcb (runCollector_inv h hcb hr)
    exact ha.afterCollect hm hcb (runCollector_inv ha hcb hr2)

end GcArena
