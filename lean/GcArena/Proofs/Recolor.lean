import GcArena.Spec.Inv
import GcArena.Proofs.Basic
/-!
  How the invariant survives a change of one heap cell (`CInvH.ofCell`), and the instance every
  mark-phase colour change uses (`trace`, `trace_weak`, `make_gray_again`, `resurrect`, the
  blackening in `mark_one`): changing the colour of one allocated object `t` to a colour of the same
  or a higher "marking class" preserves the invariant, provided the queues are kept in step
  (`CInvH.recolor`).  `CoverOK.mono`: which steps keep a barrier's guarantee.  `SameView`: states
  that agree on everything the invariant reads satisfy it together.
-/
namespace GcArena

/-- Marking class of a colour: white < white-weak < {gray, black}. -/
def cls : Color → Nat
  | .white => 0 | .whiteWeak => 1 | .gray => 2 | .black => 2

theorem cls_marked {col : Color} : 2 ≤ cls col ↔ col = .gray ∨ col = .black := by
  cases col <;> simp [cls]

theorem cls_le_gray (col : Color) : cls col ≤ cls .gray := by cases col <;> simp [cls]

theorem cls_nonwhite {col : Color} : 1 ≤ cls col ↔ col ≠ .white := by cases col <;> simp [cls]

theorem PtrMarked.mono {c c' : Ctx} {p : Ptr}
    (hm : ∀ i o, c.heap.get i = some o → ∃ o', c'.heap.get i = some o' ∧ cls o.color ≤ cls o'.color)
    (h : PtrMarked c p) : PtrMarked c' p := by
  cases p with
  | strong t =>
    obtain ⟨o, ho, hc⟩ := h
    obtain ⟨o', ho', hle⟩ := hm t o ho
    exact ⟨o', ho', cls_marked.mp (Nat.le_trans (cls_marked.mpr hc) hle)⟩
  | weak t =>
    obtain ⟨o, ho, hc⟩ := h
    obtain ⟨o', ho', hle⟩ := hm t o ho
    exact ⟨o', ho', cls_nonwhite.mp (Nat.le_trans (cls_nonwhite.mpr hc) hle)⟩

/-- A barrier's guarantee survives every step that keeps the phase and every allocation, keeps
    `needs_trace`, moves colours only upward and turns no tracing object black. -/
theorem CoverOK.mono {c c' : Ctx} (hph : c'.phase = c.phase)
    (hk : ∀ j o, c.heap.get j = some o → ∃ o', c'.heap.get j = some o' ∧
      o'.needsTrace = o.needsTrace ∧ cls o.color ≤ cls o'.color ∧
      (o'.color = .black → o.needsTrace = true → o.color = .black))
    {cv : Cover} (h : CoverOK c cv) : CoverOK c' cv := by
  have alloc : ∀ j, (∃ o, c.heap.get j = some o) → ∃ o', c'.heap.get j = some o' :=
    fun j ⟨o, ho⟩ => let ⟨o', ho', _⟩ := hk j o ho; ⟨o', ho'⟩
  -- the object `o'` found at `j` afterwards is the image of the one that was there before
  have back : ∀ j, (∃ o, c.heap.get j = some o) → ∀ o', c'.heap.get j = some o' →
      ∃ o, c.heap.get j = some o ∧ o'.needsTrace = o.needsTrace ∧ cls o.color ≤ cls o'.color ∧
        (o'.color = .black → o.needsTrace = true → o.color = .black) := by
    intro j ⟨o, ho⟩ o' ho'
    obtain ⟨o2, ho2, r⟩ := hk j o ho
    rw [ho'] at ho2; cases ho2; exact ⟨o, ho, r⟩
  have marked : ∀ {o o' : Obj}, cls o.color ≤ cls o'.color → o.color = .gray ∨ o.color = .black →
      o'.color = .gray ∨ o'.color = .black :=
    fun hle hc => cls_marked.mp (Nat.le_trans (cls_marked.mpr hc) hle)
  have nonwhite : ∀ {o o' : Obj}, cls o.color ≤ cls o'.color → o.color ≠ .white → o'.color ≠ .white :=
    fun hle hc => cls_nonwhite.mp (Nat.le_trans (cls_nonwhite.mpr hc) hle)
  have mk : c'.phase = .mark → c.phase = .mark := fun hm => hph.symm.trans hm
  cases cv with
  | parent p =>
    refine ⟨alloc p h.1, fun hm o' ho' hnt hb => ?_⟩
    obtain ⟨o, ho, hn, _, hnb⟩ := back p h.1 o' ho'
    exact h.2 (mk hm) o ho (hn ▸ hnt) (hnb hb (hn ▸ hnt))
  | child ch =>
    refine ⟨alloc ch h.1, fun hm o' ho' => ?_⟩
    obtain ⟨o, ho, _, hle, _⟩ := back ch h.1 o' ho'
    exact marked hle (h.2 (mk hm) o ho)
  | weakChild ch =>
    refine ⟨alloc ch h.1, fun hm o' ho' => ?_⟩
    obtain ⟨o, ho, _, hle, _⟩ := back ch h.1 o' ho'
    exact nonwhite hle (h.2 (mk hm) o ho)
  | pair p ch =>
    refine ⟨alloc p h.1, alloc ch h.2.1, fun hm o' ho' hnt hb co' hco' => ?_⟩
    obtain ⟨o, ho, hn, _, hnb⟩ := back p h.1 o' ho'
    obtain ⟨co, hco, _, hle, _⟩ := back ch h.2.1 co' hco'
    exact marked hle (h.2.2 (mk hm) o ho (hn ▸ hnt) (hnb hb (hn ▸ hnt)) co hco)
  | weakPair p ch =>
    refine ⟨alloc p h.1, alloc ch h.2.1, fun hm o' ho' hnt hb co' hco' => ?_⟩
    obtain ⟨o, ho, hn, _, hnb⟩ := back p h.1 o' ho'
    obtain ⟨co, hco, _, hle, _⟩ := back ch h.2.1 co' hco'
    exact nonwhite hle (h.2.2 (mk hm) o ho (hn ▸ hnt) (hnb hb (hn ▸ hnt)) co hco)

/-- What an object `x` newly standing in cell `i` of `c'` owes the invariant (`c`: the state before). -/
structure CellOK (c c' : Ctx) (hole : Option Nat) (i : Nat) (x : Obj) : Prop where
  markedLive : (x.color = .gray ∨ x.color = .black) → x.live = true
  deadNoSlots : x.live = false → x.slots = []
  leafNoPtr : x.needsTrace = false → ∀ s, s ∈ x.slots → s = none
  sleepWhite : c.phase = .sleep → x.color = .white
  sweptWhite : c.phase = .sweep → i ∈ c'.pre → x.color = .white
  blackMarked : c.phase = .mark → x.color = .black → some i ≠ hole →
    ∀ p, some p ∈ x.slots → PtrMarked c' p
  safePtr : Safe c' i → ∀ p, some p ∈ x.slots → PtrOK c' p

/-- The invariant for a state `c'` that differs from `c` in one heap cell `i` (now `X`), in where
    the ids sit on the `all` list and on the gray queues, and in bookkeeping: what is left to show
    is what the new cell owes the invariant and that the pointers the old state vouched for are still
    good. -/
theorem CInvH.ofCell {c c' : Ctx} {root temps hole} (h : CInvH c root temps hole) {i : Nat}
    {X : Option Obj} (hget : ∀ j, c'.heap.get j = if j = i then X else c.heap.get j)
    (hphase : c'.phase = c.phase) (hrnt : c'.rootNeedsTrace = c.rootNeedsTrace)
    (herr : c'.err = c.err) (hunder : c'.metrics.underflow = false)
    (hnodup : (c'.pre ++ c'.rest).Nodup)
    (hall : ∀ j, j ∈ c'.pre ++ c'.rest ↔ if j = i then X.isSome = true else j ∈ c.pre ++ c.rest)
    (hrestNil : c.phase ≠ .sweep → c'.rest = [])
    (hcount : c'.metrics.totalGcs = (c'.pre ++ c'.rest).length)
    (hpre : ∀ j, j ∈ c'.pre → j ≠ i → j ∈ c.pre)
    (hq : ∀ j, j ≠ i → ((j ∈ c'.gray ∨ j ∈ c'.grayAgain) ↔ (j ∈ c.gray ∨ j ∈ c.grayAgain)))
    (hqi : (i ∈ c'.gray ∨ i ∈ c'.grayAgain) ↔ ∃ x, X = some x ∧ x.color = .gray)
    (hqnd : (c'.gray ++ c'.grayAgain).Nodup)
    (hqm : c.phase ≠ .mark → c'.gray = [] ∧ c'.grayAgain = [])
    (hx : ∀ x, X = some x → CellOK c c' hole i x)
    (hmk : c.phase = .mark → ∀ p, PtrMarked c p → PtrMarked c' p)
    (hptr : ∀ p, PtrOK c p → PtrOK c' p)
    (hback : ∀ j, j ≠ i → Safe c' j → Safe c j) : CInvH c' root temps hole := by
  -- a cell of `c'` is the new one or an old one
  have cell : ∀ {j oj}, c'.heap.get j = some oj →
      (j = i ∧ X = some oj) ∨ (j ≠ i ∧ c.heap.get j = some oj) := by
    intro j oj hoj
    rw [hget] at hoj
    by_cases hj : j = i
    · exact .inl ⟨hj, by simpa [hj] using hoj⟩
    · exact .inr ⟨hj, by simpa [hj] using hoj⟩
  constructor
  · rw [herr]; exact h.noErr
  · exact hunder
  · rw [hphase]; exact h.notDrop
  · exact hnodup
  · intro j
    rw [hall, hget]
    by_cases hj : j = i
    · simp only [hj, if_true, Option.isSome_iff_exists]
    · simp only [hj, if_false]; exact h.memAll j
  · rw [hphase]; exact hrestNil
  · exact hcount
  · intro j oj hoj hg
    rcases cell hoj with ⟨rfl, hX⟩ | ⟨hj, hoj⟩
    · exact hqi.mpr ⟨oj, hX, hg⟩
    · exact (hq j hj).mpr (h.grayQ j oj hoj hg)
  · intro j hj
    by_cases hji : j = i
    · subst hji
      obtain ⟨x, hX, hg⟩ := hqi.mp hj
      exact ⟨x, by rw [hget, if_pos rfl, hX], hg⟩
    · obtain ⟨oj, hoj, hg⟩ := h.qGray j ((hq j hji).mp hj)
      exact ⟨oj, by rw [hget, if_neg hji]; exact hoj, hg⟩
  · exact hqnd
  · rw [hphase]; exact hqm
  · rw [hphase]
    intro hs j oj hoj
    rcases cell hoj with ⟨rfl, hX⟩ | ⟨_, hoj⟩
    · exact (hx oj hX).sleepWhite hs
    · exact h.sleepWhite hs j oj hoj
  · rw [hphase, hrnt]; exact h.sleepRoot
  · rw [hphase, hrnt]; exact h.sweepRoot
  · rw [hphase]
    intro hs j hj oj hoj
    rcases cell hoj with ⟨rfl, hX⟩ | ⟨hji, hoj⟩
    · exact (hx oj hX).sweptWhite hs hj
    · exact h.preWhite hs j (hpre j hj hji) oj hoj
  · intro j oj hoj hc
    rcases cell hoj with ⟨rfl, hX⟩ | ⟨_, hoj⟩
    · exact (hx oj hX).markedLive hc
    · exact h.markedLive j oj hoj hc
  · intro j oj hoj hc
    rcases cell hoj with ⟨rfl, hX⟩ | ⟨_, hoj⟩
    · exact (hx oj hX).deadNoSlots hc
    · exact h.deadNoSlots j oj hoj hc
  · intro j oj hoj hc
    rcases cell hoj with ⟨rfl, hX⟩ | ⟨_, hoj⟩
    · exact (hx oj hX).leafNoPtr hc
    · exact h.leafNoPtr j oj hoj hc
  · rw [hphase]
    intro hm j oj hoj hb hh p hp
    rcases cell hoj with ⟨rfl, hX⟩ | ⟨_, hoj⟩
    · exact (hx oj hX).blackMarked hm hb hh p hp
    · exact hmk hm p (h.tri hm j oj hoj hb hh p hp)
  · rw [hphase, hrnt]
    intro hm hr p hp
    exact hmk hm p (h.triRoot hm hr p hp)
  · intro j oj hoj hs p hp
    rcases cell hoj with ⟨rfl, hX⟩ | ⟨hji, hoj⟩
    · exact (hx oj hX).safePtr hs p hp
    · exact hptr p (h.closed j oj hoj (hback j hji hs) p hp)
  · intro p hp; exact hptr p (h.rootOK p hp)
  · intro p hp; exact hptr p (h.tempsOK p hp)

/-- `c'` is `c` with object `t` recoloured to `col`, everything the invariant reads being
    otherwise the same except the queues. -/
structure Recolored (c c' : Ctx) (t : Nat) (o : Obj) (col : Color) : Prop where
  get_t : c.heap.get t = some o
  heap : ∀ j, c'.heap.get j = if j = t then some { o with color := col } else c.heap.get j
  phase : c'.phase = c.phase
  pre : c'.pre = c.pre
  rest : c'.rest = c.rest
  rnt : c'.rootNeedsTrace = c.rootNeedsTrace
  err : c'.err = c.err
  underflow : c'.metrics.underflow = c.metrics.underflow
  total : c'.metrics.totalGcs = c.metrics.totalGcs

theorem Recolored.safe_iff {c c' t o col} (r : Recolored c c' t o col) (hm : c.phase = .mark) (i : Nat) :
    Safe c' i ↔ Safe c i := by
  unfold Safe
  rw [r.heap, r.phase, r.rest]
  by_cases hi : i = t
  · subst hi; simp [r.get_t, hm]
  · simp [hi]

theorem Recolored.weakOK_iff {c c' t o col} (r : Recolored c c' t o col) (hm : c.phase = .mark) (i : Nat) :
    WeakOK c' i ↔ WeakOK c i := by
  unfold WeakOK
  rw [r.heap, r.phase, r.rest]
  by_cases hi : i = t
  · subst hi; simp [r.get_t, hm]
  · simp [hi]

theorem Recolored.ptrOK_iff {c c' t o col} (r : Recolored c c' t o col) (hm : c.phase = .mark) (p : Ptr) :
    PtrOK c' p ↔ PtrOK c p := by
  cases p with
  | strong i => exact r.safe_iff hm i
  | weak i => exact r.weakOK_iff hm i

theorem Recolored.marked_mono {c c' t o col} (r : Recolored c c' t o col) (hcls : cls o.color ≤ cls col)
    {p : Ptr} (h : PtrMarked c p) : PtrMarked c' p := by
  apply PtrMarked.mono _ h
  intro i oi hoi
  rw [r.heap]
  by_cases hi : i = t
  · subst hi
    rw [r.get_t] at hoi
    cases hoi
    exact ⟨{ o with color := col }, by simp, hcls⟩
  · exact ⟨oi, by simp [hi, hoi], Nat.le_refl _⟩

theorem CInvH.recolor {c c' : Ctx} {root temps hole} {t : Nat} {o : Obj} {col : Color}
    (h : CInvH c root temps hole) (hm : c.phase = .mark) (r : Recolored c c' t o col)
    (hcls : cls o.color ≤ cls col)
    (hlive : col = .gray ∨ col = .black → o.live = true)
    (hq : ∀ i, (i ∈ c'.gray ∨ i ∈ c'.grayAgain) ↔
        ((i ≠ t ∧ (i ∈ c.gray ∨ i ∈ c.grayAgain)) ∨ (i = t ∧ col = .gray)))
    (hnd : (c'.gray ++ c'.grayAgain).Nodup)
    (hblack : col = .black → some t ≠ hole → ∀ p, some p ∈ o.slots → PtrMarked c' p) :
    CInvH c' root temps hole := by
  have mark : ¬ c.phase = .mark → False := fun hn => hn hm
  refine h.ofCell (hget := r.heap) (hphase := r.phase) (hrnt := r.rnt) (herr := r.err)
    (hunder := r.underflow.trans h.noUnderflow) (hnodup := by rw [r.pre, r.rest]; exact h.nodup)
    (hall := fun i => ?_) (hrestNil := by rw [r.rest]; exact h.restNil)
    (hcount := by rw [r.total, r.pre, r.rest]; exact h.count) (hpre := fun _ hj _ => r.pre ▸ hj)
    (hq := fun i hi => by rw [hq]; simp [hi]) (hqi := ?_) (hqnd := hnd)
    (hqm := fun hn => (mark hn).elim) (hx := ?_) (hmk := fun _ _ hp => r.marked_mono hcls hp)
    (hptr := fun p hp => (r.ptrOK_iff hm p).mpr hp) (hback := fun j _ hs => (r.safe_iff hm j).mp hs)
  · rw [r.pre, r.rest]
    by_cases hi : i = t
    · simp only [hi, if_true, Option.isSome_some, iff_true]; exact (h.memAll t).mpr ⟨o, r.get_t⟩
    · simp only [hi, if_false]
  · rw [hq]; simp
  · intro x hx
    cases hx
    refine ⟨hlive, h.deadNoSlots t o r.get_t, h.leafNoPtr t o r.get_t, fun hs => ?_, fun hs => ?_,
      fun _ hb hh => hblack hb hh, fun hs p hp => (r.ptrOK_iff hm p).mpr ?_⟩
    · rw [hm] at hs; cases hs
    · rw [hm] at hs; cases hs
    · exact h.closed t o r.get_t ((r.safe_iff hm t).mp hs) p hp

/-! ### States that agree on everything the invariant reads

  Used for the bookkeeping-only updates (`steps`, `log`, metrics counters). -/


/-- `c'` agrees with `c` on everything the invariant reads. -/
structure SameView (c c' : Ctx) : Prop where
  phase : c'.phase = c.phase
  heap : ∀ j, c'.heap.get j = c.heap.get j
  pre : c'.pre = c.pre
  rest : c'.rest = c.rest
  rnt : c'.rootNeedsTrace = c.rootNeedsTrace
  gray : c'.gray = c.gray
  grayAgain : c'.grayAgain = c.grayAgain
  err : c'.err = c.err
  underflow : c'.metrics.underflow = c.metrics.underflow
  total : c'.metrics.totalGcs = c.metrics.totalGcs

theorem SameView.refl (c : Ctx) : SameView c c := ⟨rfl, fun _ => rfl, rfl, rfl, rfl, rfl, rfl, rfl, rfl, rfl⟩

theorem SameView.safe {c c'} (s : SameView c c') (i : Nat) : Safe c' i ↔ Safe c i := by
  unfold Safe; simp only [s.heap, s.phase, s.rest]

theorem SameView.weakOK {c c'} (s : SameView c c') (i : Nat) : WeakOK c' i ↔ WeakOK c i := by
  unfold WeakOK; simp only [s.heap, s.phase, s.rest]

theorem SameView.ptrOK {c c'} (s : SameView c c') (p : Ptr) : PtrOK c' p ↔ PtrOK c p := by
  cases p with
  | strong i => exact s.safe i
  | weak i => exact s.weakOK i

theorem SameView.ptrMarked {c c'} (s : SameView c c') (p : Ptr) : PtrMarked c' p ↔ PtrMarked c p := by
  cases p <;> simp [PtrMarked, s.heap]

theorem SameView.coverOK {c c'} (s : SameView c c') (cv : Cover) : CoverOK c' cv ↔ CoverOK c cv :=
  ⟨CoverOK.mono s.phase.symm fun j o ho => ⟨o, (s.heap j).symm.trans ho, rfl, Nat.le_refl _, fun h _ => h⟩,
   CoverOK.mono s.phase fun j o ho => ⟨o, (s.heap j).trans ho, rfl, Nat.le_refl _, fun h _ => h⟩⟩

theorem CInvH.sameView {c c' : Ctx} {root temps hole} (h : CInvH c root temps hole)
    (s : SameView c c') : CInvH c' root temps hole := by
  constructor
  · rw [s.err]; exact h.noErr
  · rw [s.underflow]; exact h.noUnderflow
  · rw [s.phase]; exact h.notDrop
  · rw [s.pre, s.rest]; exact h.nodup
  · simp only [s.pre, s.rest, s.heap]; exact h.memAll
  · rw [s.phase, s.rest]; exact h.restNil
  · rw [s.total, s.pre, s.rest]; exact h.count
  · simp only [s.heap, s.gray, s.grayAgain]; exact h.grayQ
  · simp only [s.heap, s.gray, s.grayAgain]; exact h.qGray
  · rw [s.gray, s.grayAgain]; exact h.qNodup
  · rw [s.phase, s.gray, s.grayAgain]; exact h.qMark
  · simp only [s.phase, s.heap]; exact h.sleepWhite
  · rw [s.phase, s.rnt]; exact h.sleepRoot
  · rw [s.phase, s.rnt]; exact h.sweepRoot
  · simp only [s.phase, s.pre, s.heap]; exact h.preWhite
  · simp only [s.heap]; exact h.markedLive
  · simp only [s.heap]; exact h.deadNoSlots
  · simp only [s.heap]; exact h.leafNoPtr
  · simp only [s.phase, s.heap]
    intro hm i o ho hb hh p hp
    rw [s.ptrMarked]; exact h.tri hm i o ho hb hh p hp
  · rw [s.phase, s.rnt]
    intro hm hr p hp
    rw [s.ptrMarked]; exact h.triRoot hm hr p hp
  · simp only [s.heap]
    intro i o ho hs p hp
    rw [s.ptrOK]; rw [s.safe] at hs; exact h.closed i o ho hs p hp
  · intro p hp; rw [s.ptrOK]; exact h.rootOK p hp
  · intro p hp; rw [s.ptrOK]; exact h.tempsOK p hp

@[simp] theorem sameView_step (c : Ctx) (ch : Char) : SameView c (c.step ch) := by
  constructor <;> first | rfl | (intro _; rfl)

@[simp] theorem sameView_emit (c : Ctx) (e : Event) : SameView c (c.emit e) := by
  constructor <;> first | rfl | (intro _; rfl)

theorem sameView_withMetrics (c : Ctx) (f : Metrics → Metrics)
    (h1 : (f c.metrics).underflow = c.metrics.underflow)
    (h2 : (f c.metrics).totalGcs = c.metrics.totalGcs) : SameView c (c.withMetrics f) := by
  constructor <;> first | rfl | exact h1 | exact h2 | (intro _; rfl)

theorem SameView.trans {a b c : Ctx} (h1 : SameView a b) (h2 : SameView b c) : SameView a c :=
  ⟨h2.phase.trans h1.phase, fun j => (h2.heap j).trans (h1.heap j), h2.pre.trans h1.pre, h2.rest.trans h1.rest,
   h2.rnt.trans h1.rnt, h2.gray.trans h1.gray, h2.grayAgain.trans h1.grayAgain, h2.err.trans h1.err,
   h2.underflow.trans h1.underflow, h2.total.trans h1.total⟩

end GcArena
