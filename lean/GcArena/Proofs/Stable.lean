import GcArena.Proofs.Events
/-!
  Collector steps never change what the client can reach: across every enabled micro-step of
  `do_collection` (hence across every collection call) the strong-reachability relation and the
  "weakly held by something reachable" relation are the same before and after, in *both*
  directions.  Forward is `Persist` (Proofs/Events); backward is `Shrink`: no object gains a slot
  and nothing is allocated.
-/
namespace GcArena

/-- `is_dead` colours are not marked colours. -/
theorem Color.dead_not_marked {col : Color} (hd : col = .white ∨ col = .whiteWeak)
    (hm : col = .gray ∨ col = .black) : False := by
  cases col <;> simp at hd hm

def Shrink (c c' : Ctx) : Prop :=
  ∀ i o', c'.heap.get i = some o' → ∃ o, c.heap.get i = some o ∧ ∀ s, s ∈ o'.slots → s ∈ o.slots

theorem Shrink.refl (c : Ctx) : Shrink c c := fun _ o' h => ⟨o', h, fun _ hs => hs⟩

theorem Shrink.ofHeap {c c' : Ctx} (h : ∀ j, c'.heap.get j = c.heap.get j) : Shrink c c' :=
  fun i o' ho' => ⟨o', by rw [← h]; exact ho', fun _ hs => hs⟩

theorem AccessibleC.closed {c : Ctx} {root temps} {S : Nat → Prop}
    (hr : ∀ t, some (Ptr.strong t) ∈ root → S t) (ht : ∀ t, Ptr.strong t ∈ temps → S t)
    (he : ∀ i o t, S i → c.heap.get i = some o → some (Ptr.strong t) ∈ o.slots → S t) {j : Nat}
    (h : AccessibleC c root temps j) : S j := by
  induction h with
  | root t h => exact hr t h
  | temp t h => exact ht t h
  | edge i t _ e ih => obtain ⟨o, ho, hs⟩ := e; exact he i o t ih ho hs

theorem Shrink.accessible_back {c c' : Ctx} {root temps} (hs : Shrink c c') {i : Nat}
    (ha : AccessibleC c' root temps i) : AccessibleC c root temps i :=
  ha.closed .root .temp fun i o' t hi ho' hs' =>
    let ⟨o, ho, hsub⟩ := hs i o' ho'
    .edge i t hi ⟨o, ho, hsub _ hs'⟩

theorem MarkFrame.shrink {c c' : Ctx} (f : MarkFrame c c') : Shrink c c' := by
  intro i o' ho'
  obtain ⟨o, ho⟩ := (f.alloc i).mp ⟨o', ho'⟩
  exact ⟨o, ho, fun s hs => by rw [← (f.live i o o' ho ho').2.1]; exact hs⟩

theorem sweepOne_cases {c : Ctx} {i : Nat} {rest' : List Nat} {o : Obj} (hr : c.rest = i :: rest')
    (ho : c.heap.get i = some o) :
    (∀ j, j ≠ i → c.sweepOne.1.heap.get j = c.heap.get j) ∧
    ((o.color = .white ∧ c.sweepOne.1.heap.get i = none ∧ c.sweepOne.1.pre = c.pre) ∨
     (o.color = .whiteWeak ∧ c.sweepOne.1.pre = c.pre ++ [i] ∧
        ∃ o', c.sweepOne.1.heap.get i = some o' ∧ o'.color = .white ∧ o'.live = false ∧
          ∀ s, s ∈ o'.slots → s ∈ o.slots) ∨
     (o.color = .black ∧ c.sweepOne.1.pre = c.pre ++ [i] ∧
        c.sweepOne.1.heap.get i = some { o with color := .white }) ∨
     (o.color = .gray ∧ c.sweepOne.1.pre = c.pre ∧ c.sweepOne.1.heap.get i = some o)) := by
  obtain ⟨_, hheap, _, _, hpre, _⟩ := sweepOne_at hr ho
  have hi := hheap i
  rw [if_pos rfl] at hi
  refine ⟨fun j hj => by rw [hheap j, if_neg hj], ?_⟩
  cases hcol : o.color with
  | white => exact .inl ⟨rfl, by rw [hi, sweptCell, hcol], by rw [hpre, if_pos (.inl hcol)]⟩
  | whiteWeak =>
    refine .inr (.inl ⟨rfl, by rw [hpre, hcol]; simp, _, by rw [hi, sweptCell, hcol], ?_⟩)
    cases o.live
    · exact ⟨rfl, rfl, fun _ hs => hs⟩
    · exact ⟨rfl, rfl, fun _ hs => nomatch hs⟩
  | black => exact .inr (.inr (.inl ⟨rfl, by rw [hpre, hcol]; simp, by rw [hi, sweptCell, hcol]⟩))
  | gray => exact .inr (.inr (.inr ⟨rfl, by rw [hpre, if_pos (.inr hcol)], by rw [hi, sweptCell, hcol]⟩))

theorem sweepOne_shrink (c : Ctx) : Shrink c c.sweepOne.1 := by
  cases hr : c.rest with
  | nil => rw [sweepOne_end hr]; exact Shrink.ofHeap (fun _ => rfl)
  | cons i rest' =>
    cases ho : c.heap.get i with
    | none =>
      rw [sweepOne_none hr ho]
      exact Shrink.ofHeap (fun _ => by rw [Ctx.fail_heap]; rfl)
    | some o =>
      obtain ⟨hframe, hcases⟩ := sweepOne_cases hr ho
      intro j oj' hoj'
      by_cases hj : j = i
      · subst hj
        rcases hcases with ⟨_, hn, _⟩ | ⟨_, _, o', ho', _, _, hsub⟩ | ⟨_, _, hb⟩ | ⟨_, _, hg⟩
        · rw [hn] at hoj'; cases hoj'
        · rw [ho'] at hoj'; cases hoj'; exact ⟨o, ho, hsub⟩
        · rw [hb] at hoj'; cases hoj'; exact ⟨o, ho, fun _ hs => hs⟩
        · rw [hg] at hoj'; cases hoj'; exact ⟨o, ho, fun _ hs => hs⟩
      · rw [hframe j hj] at hoj'
        exact ⟨oj', hoj', fun _ hs => hs⟩

theorem micro_shrink {c c' : Ctx} {root} {m : Micro} (h : CInv c root []) (st : MicroStep root c m c') :
    Shrink c c' := by
  cases st with
  | wake | markBreak | toSweep | sweepEnd | toSleep => exact Shrink.ofHeap (fun _ => rfl)
  | markStep f hp => exact (markOne_spec h hp f).2.shrink
  | sweepStep => exact sweepOne_shrink c

/-- A `GcWeak` to `i` is stored in the root or in a strongly reachable object. -/
def WeakHeld (c : Ctx) (root : List Slot) (i : Nat) : Prop :=
  some (Ptr.weak i) ∈ root ∨
    ∃ j oj, StrongReachC c root j ∧ c.heap.get j = some oj ∧ some (Ptr.weak i) ∈ oj.slots

structure SameReach (c c' : Ctx) (root : List Slot) : Prop where
  reach : ∀ i, StrongReachC c' root i ↔ StrongReachC c root i
  weak : ∀ i, WeakHeld c' root i ↔ WeakHeld c root i

theorem SameReach.refl (c : Ctx) (root : List Slot) : SameReach c c root :=
  ⟨fun _ => Iff.rfl, fun _ => Iff.rfl⟩

theorem SameReach.trans {a b c : Ctx} {root} (h1 : SameReach a b root) (h2 : SameReach b c root) :
    SameReach a c root :=
  ⟨fun i => (h2.reach i).trans (h1.reach i), fun i => (h2.weak i).trans (h1.weak i)⟩

theorem WeakHeld.back {a b : Ctx} {root} (hs : Shrink a b)
    (hr : ∀ j, StrongReachC b root j → StrongReachC a root j) {i : Nat} (h : WeakHeld b root i) :
    WeakHeld a root i := by
  rcases h with hw | ⟨j, oj', hj, hoj', hw⟩
  · exact Or.inl hw
  · obtain ⟨oj, hoj, hsub⟩ := hs j oj' hoj'
    exact Or.inr ⟨j, oj, hr j hj, hoj, hsub _ hw⟩

theorem sameReach_of {c c' : Ctx} {root} (h : CInv c root []) (hp : Persist c c') (hs : Shrink c c') :
    SameReach c c' root := by
  have hr : ∀ i, StrongReachC c' root i ↔ StrongReachC c root i :=
    fun i => ⟨fun ha => hs.accessible_back ha, fun ha => hp.accessible h ha⟩
  refine ⟨hr, fun i => ⟨WeakHeld.back hs (fun j => (hr j).mp), ?_⟩⟩
  rintro (hw | ⟨j, oj, hj, hoj, hw⟩)
  · exact Or.inl hw
  · obtain ⟨oj', hoj', hsl⟩ := hp j oj hoj (h.safe_of_accessible hj)
    exact Or.inr ⟨j, oj', (hr j).mpr hj, hoj', by rw [hsl]; exact hw⟩

/-- Neither side has a slot the other lacks: no invariant is needed. -/
theorem sameReach_of_shrink {c c' : Ctx} {root} (h1 : Shrink c c') (h2 : Shrink c' c) :
    SameReach c c' root :=
  have hr : ∀ i, StrongReachC c' root i ↔ StrongReachC c root i :=
    fun _ => ⟨h1.accessible_back, h2.accessible_back⟩
  ⟨hr, fun _ => ⟨WeakHeld.back h1 (fun j => (hr j).mp), WeakHeld.back h2 (fun j => (hr j).mpr)⟩⟩

theorem Reaches.sameReach {c c' : Ctx} {root} (r : Reaches c root c') (h : CInv c root []) :
    SameReach c c' root := by
  obtain ⟨ms, hs⟩ := r
  exact micros_lift (R := (SameReach · · root)) (SameReach.refl · root) SameReach.trans
    (fun h st => sameReach_of h (micro_persist h _ (micro_iff.mpr st)) (micro_shrink h st)) ms h hs

end GcArena
