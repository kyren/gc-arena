import GcArena.Proofs.PtrRefine
import GcArena.Proofs.ProtRun
/-!
  The pointer-level `all` list (Model/PtrList) run alongside whole histories.

  `PList.micro` / `PList.micros`: the pointer statements of each collector micro-step.  The
  statement `sweep_prev = None` of the `sweep_one` call that finds the end of the list is taken
  together with the `Sweep → Sleep` switch that follows it in the same loop iteration of
  `do_collection` (nothing can run between the two), i.e. at `toSleep`.

  `PStep a op p p'`: `p'` is a pointer-level state after `op` was applied to the arena `a` coupled
  with `p` — `Context::link` for an allocation, nothing for other mutator operations, the pointer
  statements of *any* micro-step sequence that takes the context to its new value for a collection
  call.  `PRunFrom` threads it through a history.

  `rep_run_from`: along every history, every coupled pointer-level state represents the lists of
  the model (`Rep`) and is in the sweep mode iff the model is in the sweep phase.

  Two remarks on fidelity.
  * Placing `sweep_prev := None` at `toSleep` hides nothing for the driver loop itself:
    `doCollection_never_stops_at_e` / `selfdriven_run_never_stops_at_e` show that a self-driven
    `do_collection` never returns with `'e'` (the end-of-list `sweep_one`) as the newest step — the
    `'Z'` follows in the same iteration — so between the two statements no other pointer statement
    can run.  Only an oracle that cuts a logged call between `'e'` and `'Z'` could separate them, and
    the harness logs whole calls.
  * `PList.sweepOne` (Model/PtrList.lean) keeps an object — sets `sweep_prev := Some(sweep)` — in
    every arm where `remove` is false; `Context::sweep_one` has a `Gray` arm (`debug_assert!(false)`)
    that does not touch `sweep_prev`.  That arm is unreachable in every state satisfying the
    invariant (no gray object exists outside the mark phase: `CInv.grayQ` + `qMark`, used in
    `sweepOne_refines`), so the two agree on all reachable states.
-/
namespace GcArena

/-- The pointer statements of one collector micro-step taken in context `c`. -/
def PList.micro (p : PList) (c : Ctx) : Micro → PList
  | .toSweep => p.enterSweep
  | .sweepStep => (p.sweepOne c.isWhite).1
  | .toSleep _ => (p.sweepOne c.isWhite).1.endSweep
  | _ => p

def PList.micros (root : List Slot) : PList → Ctx → List Micro → PList
  | p, _, [] => p
  | p, c, m :: ms =>
    match c.micro root m with
    | some c' => PList.micros root (p.micro c m) c' ms
    | none => p

/-- `p` represents the lists of `c`, in the matching mode. -/
structure RepC (p : PList) (c : Ctx) : Prop where
  rep : Rep p c.pre c.rest
  mode : p.sweeping = true ↔ c.phase = .sweep

theorem PList.sweepOne_sweeping (q : PList) (rm : Nat → Bool) : (q.sweepOne rm).1.sweeping = q.sweeping := by
  unfold PList.sweepOne
  split
  · rfl
  · simp only
    split
    · split <;> rfl
    · rfl

theorem micro_repC {c c' : Ctx} {root} {p : PList} (h : CInv c root []) (m : Micro)
    (hs : c.micro root m = some c') (r : RepC p c) : RepC (p.micro c m) c' := by
  have same : c'.pre = c.pre → c'.rest = c.rest → c'.phase = c.phase → RepC p c' :=
    fun e1 e2 e3 => ⟨by rw [e1, e2]; exact r.rep, by rw [e3]; exact r.mode⟩
  cases micro_iff.mp hs with
  | wake hp =>
    refine ⟨r.rep, fun hsw => ?_, fun hsw => ?_⟩
    · have := r.mode.mp hsw; rw [hp] at this; cases this
    · simp [Ctx.switch] at hsw
  | markStep f hp =>
    have fr := (markOne_spec h hp f).2
    exact same fr.pre fr.rest fr.phase
  | markBreak | sweepEnd => exact same rfl rfl rfl
  | toSweep hp =>
    have hrn : c.rest = [] := h.restNil (by rw [hp]; simp)
    have hsw : p.sweeping = false := by
      cases hb : p.sweeping with
      | false => rfl
      | true => have := r.mode.mp hb; rw [hp] at this; cases this
    have hrep := r.rep
    rw [hrn] at hrep
    refine ⟨?_, ⟨fun _ => rfl, fun _ => rfl⟩⟩
    show Rep p.enterSweep c.enterSweep.pre c.enterSweep.rest
    have e2 : c.enterSweep.rest = c.pre := by simp [Ctx.enterSweep, Ctx.switch, hrn]
    rw [show c.enterSweep.pre = [] from rfl, e2]
    exact hrep.enterSweep hsw
  | sweepStep hp hr =>
    have hsw : p.sweeping = true := r.mode.mpr hp
    cases hr' : c.rest with
    | nil => exact absurd hr' hr
    | cons s rest' =>
      refine ⟨sweepOne_refines h hp hsw r.rep s rest' hr', fun _ => (sweepOne_spec h hp).2, fun _ => ?_⟩
      show (p.sweepOne c.isWhite).1.sweeping = true
      rw [PList.sweepOne_sweeping]; exact hsw
  | toSleep b hp hr =>
    have hrep := r.rep
    rw [hr] at hrep
    refine ⟨?_, fun hx => ?_, fun hx => ?_⟩
    · show Rep (p.sweepOne c.isWhite).1.endSweep (c.enterSleep b).pre (c.enterSleep b).rest
      rw [show (c.enterSleep b).pre = c.pre from rfl, show (c.enterSleep b).rest = [] from hr]
      exact (hrep.endSweep (r.mode.mpr hp) c.isWhite).2
    · simp [PList.micro, PList.endSweep] at hx
    · simp [Ctx.enterSleep, Ctx.switch] at hx

theorem micros_repC {root} (ms : List Micro) : ∀ {c c' : Ctx} {p : PList}, CInv c root [] →
    c.micros root ms = some c' → RepC p c → RepC (PList.micros root p c ms) c' := by
  induction ms with
  | nil => intro c c' p _ hs r; cases hs; exact r
  | cons m ms ih =>
    intro c c' p h hs r
    simp only [Ctx.micros] at hs
    split at hs
    · rename_i c1 hm
      simp only [PList.micros, hm]
      exact ih (micro_inv h m hm) hs (micro_repC h m hm r)
    · cases hs

/-- Every micro-step extends the step log, so a nonempty sequence of them cannot lead back to the
    state it started from. -/
theorem micros_steps_lt {root} {c c' : Ctx} {m : Micro} {ms : List Micro}
    (hs : c.micros root (m :: ms) = some c') : c.steps.length < c'.steps.length := by
  have grow : ∀ {c c' : Ctx} {m : Micro}, MicroStep root c m c' → c.steps.length < c'.steps.length := by
    intro c c' m st
    obtain ⟨ch, e, _⟩ := micro_steps m (micro_iff.mpr st)
    rw [e]; exact Nat.lt_succ_self _
  simp only [Ctx.micros] at hs
  split at hs
  · rename_i c1 hm
    exact Nat.lt_of_lt_of_le (grow (micro_iff.mp hm))
      (micros_rel (R := fun c c' => c.steps.length ≤ c'.steps.length) (fun _ => Nat.le_refl _)
        Nat.le_trans (fun st => Nat.le_of_lt (grow st)) ms hs)
  · cases hs

/-- One operation of the history, at pointer level. -/
inductive PStep (a : Arena) (op : Op) (p : PList) : PList → Prop
  /-- a mutator operation that allocates nothing: no pointer statement -/
  | quiet : op.isMutator = true → (a.step op).1.ctx.pre = a.ctx.pre → PStep a op p p
  /-- an allocation: `Context::link` of the fresh id -/
  | link : op.isMutator = true → (a.step op).1.ctx.pre = a.ctx.heap.size :: a.ctx.pre →
      PStep a op p (p.link a.ctx.heap.size)
  /-- a collection call (or any other op that moves the context by collector micro-steps): the
      pointer statements of those steps -/
  | collect (ms : List Micro) : op.isMutator = false → a.ctx.micros a.root ms = some (a.step op).1.ctx →
      PStep a op p (PList.micros a.root p a.ctx ms)

/-- A pointer-level run coupled with the history `ops` from the arena `a`. -/
inductive PRunFrom : Arena → PList → List Op → PList → Prop
  | nil (a p) : PRunFrom a p [] p
  | cons {a p op p1 ops p'} : PStep a op p p1 → PRunFrom (a.step op).1 p1 ops p' →
      PRunFrom a p (op :: ops) p'

theorem step_repC {a : Arena} (h : Inv a) (op : Op) (hal : (a.step op).1.alive = true) {p p' : PList}
    (hs : PStep a op p p') (r : RepC p a.ctx) : RepC p' (a.step op).1.ctx := by
  cases hs with
  | quiet hop hpre =>
    exact ⟨by rw [hpre, (step_mutFacts h op hop).rest]; exact r.rep,
      by rw [(step_quiet h op hop).phase]; exact r.mode⟩
  | link hop hpre =>
    have hfresh : a.ctx.heap.size ∉ a.ctx.pre ++ a.ctx.rest := by
      intro hm
      obtain ⟨o, ho⟩ := (h.cinv.memAll _).mp hm
      exact absurd (Heap.lt_size_of_get _ _ _ ho) (Nat.lt_irrefl _)
    exact ⟨by rw [hpre, (step_mutFacts h op hop).rest]; exact r.rep.link _ hfresh,
      by rw [(step_quiet h op hop).phase, PList.link_eq]; exact r.mode⟩
  | collect ms hop hms =>
    rcases step_kind h op hal with hk | rel
    · rw [hk] at hop; cases hop
    · by_cases hcb : a.cb = none
      · exact micros_repC ms (h.cinv0 hcb) hms r
      · -- inside a callback a collection call is rejected: the context does not move, so `ms = []`
        obtain ⟨ms', hms', hnil⟩ := rel.reach
        rw [hnil hcb] at hms'
        have e : a.ctx = (a.step op).1.ctx := Option.some.inj hms'
        rw [← e] at hms ⊢
        cases ms with
        | nil => exact r
        | cons m ms => exact absurd (micros_steps_lt hms) (Nat.lt_irrefl _)

theorem pstep_exists {a : Arena} (h : Inv a) (op : Op) (hal : (a.step op).1.alive = true) (p : PList) :
    ∃ p', PStep a op p p' := by
  cases hop : op.isMutator with
  | true =>
    rcases (step_mutFacts h op hop).pre with hpre | ⟨hpre, _⟩
    · exact ⟨p, .quiet hop hpre⟩
    · exact ⟨_, .link hop hpre⟩
  | false =>
    rcases step_kind h op hal with hk | rel
    · rw [hk] at hop; cases hop
    · obtain ⟨ms, hms, _⟩ := rel.reach
      exact ⟨_, .collect ms hop hms⟩

theorem rep_run_from {a : Arena} {p p' : PList} {ops : List Op} (hr : PRunFrom a p ops p') :
    Inv a → (a.run ops).alive = true → RepC p a.ctx → RepC p' (a.run ops).ctx := by
  induction hr with
  | nil => exact fun _ _ r => r
  | cons hs _ ih =>
    intro h hal r
    have hal1 := alive_of_run_alive hal
    exact ih (inv_step h _ hal1) hal (step_repC h _ hal1 hs r)

theorem prun_exists (ops : List Op) : ∀ (a : Arena) (p : PList), Inv a → (a.run ops).alive = true →
    ∃ p', PRunFrom a p ops p' := by
  induction ops with
  | nil => intro a p _ _; exact ⟨p, .nil a p⟩
  | cons op ops ih =>
    intro a p h hal
    simp only [Arena.run] at hal
    have hal1 := alive_of_run_alive hal
    obtain ⟨p1, hs⟩ := pstep_exists h op hal1 p
    obtain ⟨p', hr⟩ := ih _ p1 (inv_step h op hal1) hal
    exact ⟨p', .cons hs hr⟩

theorem repC_init (n : Nat) : RepC PList.empty (Arena.new n).ctx :=
  ⟨Rep.empty, ⟨fun h => (by cases h), fun h => (by cases h)⟩⟩

theorem sweepOne_head_x {c : Ctx} {i : Nat} {r : List Nat} (hr : c.rest = i :: r) :
    c.sweepOne.1.steps = 'x' :: c.steps := by
  cases ho : c.heap.get i with
  | none => rw [sweepOne_none hr ho, Ctx.fail_steps]; rfl
  | some o => exact (sweepOne_at hr ho).2.2.2.2.2

private theorem head_cons_ne {ch : Char} {l : List Char} (h : ch ≠ 'e') : (ch :: l).head? ≠ some 'e' := by
  simp [h]

/-- No iteration of the driver loop ends right after the `sweep_one` call that found the end of the
    list: the `Sweep → Sleep` switch is part of the same iteration. -/
theorem Arm.never_stops_at_e {root ru stop fault} {c c1 : Ctx} {hs hs1 : Bool} {k k1 : Nat}
    {e : Option Exit} (a : Arm root ru stop fault c hs k c1 hs1 k1 e)
    (h : c.steps.head? ≠ some 'e') : c1.steps.head? ≠ some 'e' := by
  cases a with
  | wake | marked | toSweep | toSleep => exact head_cons_ne (by decide)
  | mark | unwind =>
    obtain ⟨ch, _, hch, e⟩ := markOne_steps c root (faultAt fault k)
    rw [e]; exact head_cons_ne hch
  | atSweep => exact h
  | sweep _ _ hr =>
    cases hr' : c.rest with
    | nil => exact absurd hr' hr
    | cons i r => rw [sweepOne_head_x hr']; exact head_cons_ne (by decide)
  | drop => rw [Ctx.fail_steps]; exact h

theorem collectLoop_never_stops_at_e {root ru stop fault} (fuel : Nat) (c : Ctx) (hs : Bool) (k : Nat)
    (h : c.steps.head? ≠ some 'e') :
    (Ctx.collectLoop root ru stop fault fuel c hs k).1.steps.head? ≠ some 'e' :=
  collectLoop_induct (I := fun _ c _ _ => c.steps.head? ≠ some 'e')
    (Q := fun c _ => c.steps.head? ≠ some 'e') (fun _ _ _ h => h)
    (fun _ _ _ _ _ _ _ _ h a => a.never_stops_at_e h) (fun _ _ _ _ _ _ _ h a => a.never_stops_at_e h)
    fuel c hs k h

theorem doCollection_never_stops_at_e (c : Ctx) (root : List Slot) (ru : RunUntil) (stop : Stop)
    (fault : TraceFault) (h : c.steps.head? ≠ some 'e') :
    (c.doCollection root ru stop fault).1.steps.head? ≠ some 'e' := by
  unfold Ctx.doCollection
  split
  · exact h
  · exact collectLoop_never_stops_at_e _ _ _ _ h

theorem dropOne_steps (c : Ctx) (i : Nat) : (c.dropOne i).steps = c.steps := by
  unfold Ctx.dropOne
  split
  · simp
  · simp only; split <;> simp

theorem dropAll_steps (c : Ctx) : c.dropAll.steps = c.steps := by
  unfold Ctx.dropAll
  simp only
  have : ∀ (l : List Nat) (c0 : Ctx), (l.foldl Ctx.dropOne c0).steps = c0.steps := by
    intro l
    induction l with
    | nil => intro c0; rfl
    | cons i l ih => intro c0; simp only [List.foldl_cons]; rw [ih, dropOne_steps]
  rw [this]

theorem CollectStep.never_stops_at_e {a a' : Arena} {m k f} (st : CollectStep a m k f none a')
    (h : a.ctx.steps.head? ≠ some 'e') : a'.ctx.steps.head? ≠ some 'e' := by
  -- a self-driven collector run is one `do_collection` call
  have run : ∀ {b : Arena} {ru stop f c ex}, b.ctx.steps.head? ≠ some 'e' →
      b.runCollector ru stop f none = some (c, ex) → c.steps.head? ≠ some 'e' := by
    intro b ru stop f c ex hb hr
    have := doCollection_never_stops_at_e b.ctx b.root ru stop f hb
    rwa [Option.some.inj hr] at this
  cases st with
  | rejected => exact h
  | ran c ex _ hr => exact run h hr
  | kept c _ hr => exact run h hr
  | swept c c2 ex2 _ hr _ _ _ hr2 => exact run (b := { a with ctx := c, cover := [] }) (run h hr) hr2

theorem step_never_stops_at_e {a : Arena} (hi : Inv a) (op : Op)
    (hself : ∀ m k f o, op = .collect m k f o → o = none)
    (h : a.ctx.steps.head? ≠ some 'e') : (a.step op).1.ctx.steps.head? ≠ some 'e' := by
  by_cases hop : op.isMutator = true
  · rw [(step_mutFacts hi _ hop).steps]; exact h
  cases op with
  | collect m k f o =>
    cases hself m k f o rfl
    rw [step_eq hi.alive]
    exact (stepBody_collectStep _ _ m k f none).never_stops_at_e h
  | dropArena =>
    rcases step_dropArena hi.alive with ⟨_, e⟩ | ⟨_, e⟩ <;> rw [e]
    · exact h
    · exact dropAll_steps a.ctx ▸ h
  | _ => exact absurd rfl hop

/-- **In a history whose collection calls are all self-driven (`Context::do_collection` as written),
    no state at an operation boundary has the end-of-list `sweep_one` as its newest step**: the
    `Sweep → Sleep` switch always follows within the same call.  Hence no allocation, no callback and
    no other call can ever run between the pointer statement `sweep_prev = None` and that switch, and
    taking the two together (`PList.micro … (.toSleep _)`) loses nothing. -/
theorem selfdriven_run_never_stops_at_e (n : Nat) (ops : List Op)
    (hself : ∀ op, op ∈ ops → ∀ m k f o, op = .collect m k f o → o = none) :
    ((Arena.new n).run ops).ctx.steps.head? ≠ some 'e' :=
  run_total (P := fun a => a.ctx.steps.head? ≠ some 'e')
    (ok := fun op => ∀ m k f o, op = .collect m k f o → o = none)
    (fun hs hi h => step_never_stops_at_e hi _ hs h) ops hself (fun _ => inv_init n)
    (by simp [Arena.new, Ctx.new])

end GcArena
