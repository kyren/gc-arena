import GcArena.Proofs.CycleRun
/-!
  Self-driven collection calls never leave the collector *parked* — in `Phase::Sweep` with nothing
  left to sweep — and hence, inside one cycle, never with an empty arena: the only way to have an
  empty arena in a non-sleep phase of a cycle that woke with allocations is to be parked, and the
  loop's debt test refuses to stop there (repair of defect D5).  Only a *replayed* collection
  call (an oracle can cut a call anywhere) can stop there.
-/
namespace GcArena

def Parked (c : Ctx) : Prop := c.phase = .sweep ∧ c.rest = []

structure GoodA (c : Ctx) : Prop where
  awake : c.phase ≠ .sleep
  markNE : c.phase = .mark → c.metrics.totalGcs ≠ 0
  notParked : ¬ Parked c

theorem GoodA.nonempty {c : Ctx} {root temps} (g : GoodA c) (h : CInv c root temps) :
    c.metrics.totalGcs ≠ 0 := by
  cases hp : c.phase with
  | drop => exact absurd hp h.notDrop
  | sleep => exact absurd hp g.awake
  | mark => exact g.markNE hp
  | sweep =>
    have hr : c.rest ≠ [] := fun hr => g.notParked ⟨hp, hr⟩
    rw [h.count]
    intro h0
    have : c.pre ++ c.rest = [] := List.eq_nil_of_length_eq_zero h0
    exact hr (List.append_eq_nil_iff.mp this).2

/-- What holds at the head of every iteration of a self-driven loop that started awake in a good
    state, or asleep in debt, for as long as no `'Z'` is appended. -/
structure LoopGood (stop : Stop) (c : Ctx) : Prop where
  sleepDebt : c.phase = .sleep → c.metrics.hasDebt = true
  markNE : c.phase = .mark → c.metrics.totalGcs ≠ 0
  parked : Parked c → ¬ stop ≤ Stop.atSweep

/-- Only the `Sweep → Sleep` iteration appends a `'Z'`. -/
theorem Arm.noZ {root ru stop fault} {c c1 : Ctx} {hs hs1 : Bool} {k k1 : Nat} {e : Option Exit} {X : Prop}
    (a : Arm root ru stop fault c hs k c1 hs1 k1 e) (f : c1.steps ≠ 'Z' :: 'e' :: c.steps → X) :
    NoZ c c1 X := by
  rcases a.steps with ⟨chs, e1, hz⟩ | ⟨e1, _, _⟩
  · refine ⟨chs, e1, fun _ => f fun e2 => hz ?_⟩
    rw [List.append_cancel_right (e1.symm.trans e2 : chs ++ c.steps = ['Z', 'e'] ++ c.steps)]
    simp
  · exact ⟨['Z', 'e'], e1, fun hz => absurd (by simp) hz⟩

/-- One iteration of a self-driven loop other than the `Sweep → Sleep` one ends awake and not
    marking an empty arena, and parked only to go on sweeping — the debt test refuses to stop there. -/
theorem Arm.goodA {root ru stop fault} {c c1 : Ctx} {hs hs1 : Bool} {k k1 : Nat} {e : Option Exit}
    (a : Arm root ru stop fault c hs k c1 hs1 k1 e) (h : CInv c root [])
    (hz : c1.steps ≠ 'Z' :: 'e' :: c.steps) (g : LoopGood stop c) :
    LoopGood stop c1 ∧ (e ≠ none → GoodA c1) := by
  have mk : ∀ {c1 : Ctx}, c1.phase ≠ .sleep → (c1.phase = .mark → c1.metrics.totalGcs ≠ 0) →
      (Parked c1 → ¬ stop ≤ Stop.atSweep ∧ e = none) → LoopGood stop c1 ∧ (e ≠ none → GoodA c1) :=
    fun h1 h2 h3 => ⟨⟨fun hp => absurd hp h1, h2, fun hp => (h3 hp).1⟩,
      fun he => ⟨h1, h2, fun hp => he (h3 hp).2⟩⟩
  have marking : ∀ {c1 : Ctx}, c1.phase = .mark → c1.metrics.totalGcs ≠ 0 →
      LoopGood stop c1 ∧ (e ≠ none → GoodA c1) :=
    fun h1 h2 => mk (by rw [h1]; simp) (fun _ => h2) (fun hp => by rw [Parked, h1] at hp; cases hp.1)
  cases a with
  | wake hp => exact marking rfl (hasDebt_total (g.sleepDebt hp))
  | mark hp | unwind hp =>
    -- `mark_one` keeps the phase and the list
    have hsp := markOne_spec h hp (faultAt fault k) (root := root)
    refine marking (hsp.2.phase.trans hp) ?_
    rw [hsp.1.count, hsp.2.pre, hsp.2.rest, ← h.count]
    exact g.markNE hp
  | marked hp hg hst => exact marking hp (g.markNE hp)
  | toSweep hp hg hst =>
    refine mk (c1 := (c.step 'b').enterSweep) (fun hq => nomatch hq) (fun hq => nomatch hq) fun hq => ?_
    -- something is on the list, so something is left to sweep
    have hnil : c.pre ++ c.rest = [] := hq.2
    exact absurd (by rw [h.count, hnil]; rfl) (g.markNE hp)
  | atSweep hp hst =>
    exact mk (by rw [hp]; simp) (fun hq => by rw [hp] at hq; cases hq) fun hq => absurd hst (g.parked hq)
  | sweep hp hst hr =>
    have hp1 := (sweepOne_spec h hp).2
    refine mk (by rw [hp1]; simp) (fun hq => by rw [hp1] at hq; cases hq) fun hq => ⟨hst, ?_⟩
    cases hb : c.sweepOne.1.debtBreak ru with
    | false => exact debtExit_eq_none.mpr hb
    | true => exact absurd hq (debtBreak_iff.mp hb).2.2
  | toSleep => exact absurd rfl hz
  | drop hp => exact absurd hp h.notDrop

theorem collectLoop_goodA {root ru stop fault fuel} {c c' : Ctx} {hs : Bool} {k : Nat} {ex : Exit}
    (hinv : CInv c root []) (h : Ctx.collectLoop root ru stop fault fuel c hs k = (c', ex)) :
    NoZ c c' (LoopGood stop c → ex ≠ .outOfFuel → GoodA c') :=
  collectLoop_induct' (I := fun c0 _ _ => CInv c0 root [] ∧ NoZ c c0 (LoopGood stop c → LoopGood stop c0))
    (Q := fun c' ex => NoZ c c' (LoopGood stop c → ex ≠ .outOfFuel → GoodA c'))
    (fun _ _ _ hi => hi.2.mono fun _ _ hne => absurd rfl hne)
    (fun _ _ _ _ _ _ _ hi a => hi.2.trans (a.noZ (a.goodA hi.1)) fun f g p _ => (g (f p)).2 (by simp))
    (fun _ _ _ _ _ _ hi a => ⟨a.inv hi.1, hi.2.trans (a.noZ (a.goodA hi.1)) fun f g p => (g (f p)).1⟩)
    ⟨hinv, .same rfl id⟩ h

/-- A whole self-driven call: from an awake good state — or asleep in debt (whatever the method:
    a debt-driven one wakes because of the debt, `finish_marking` / `finish_cycle` anyway). -/
theorem doCollection_goodA {c c' : Ctx} {root ru stop fault ex} (hinv : CInv c root [])
    (hr : c.doCollection root ru stop fault = (c', ex)) :
    NoZ c c' (GoodA c ∨ (c.phase = .sleep ∧ c.metrics.hasDebt = true) → GoodA c') := by
  have hfuel : ex ≠ .outOfFuel := by
    have := doCollection_terminates hinv ru stop fault; rw [hr] at this; exact this
  rcases doCollection_cases c root ru stop fault with ⟨_, hnd, he⟩ | ⟨_, he⟩ <;> rw [he] at hr
  · cases hr
    refine .same rfl fun h0 => ?_
    rcases h0 with g | ⟨_, hd⟩
    · exact g
    · rw [hd] at hnd; cases hnd
  · refine (collectLoop_goodA hinv hr).mono fun f h0 => f ?_ hfuel
    rcases h0 with g | ⟨hs, hd⟩
    · exact ⟨fun hs => absurd hs g.awake, g.markNE, fun hp => absurd hp g.notParked⟩
    · refine ⟨fun _ => hd, fun hm => ?_, fun hq => ?_⟩
      · rw [hs] at hm; cases hm
      · rw [Parked, hs] at hq; cases hq.1

theorem doCollection_cycle_notParked {c c' : Ctx} {root fault}
    (hr : c.doCollection root .payDebt .finishCycle fault = (c', .returned)) (hns : c'.phase ≠ .sleep) :
    c' = c ∨ ¬ Parked c' := by
  rcases doCollection_exit hr with ⟨_, _, h⟩ | ⟨hst, _⟩ | ⟨hst, _⟩ | ⟨c1, b, he, _⟩ | ⟨hd, _⟩
  · exact h
  · exact absurd hst (by decide)
  · exact absurd hst (by decide)
  · exact absurd (by rw [he]; rfl) hns
  · exact .inr fun hq => by rw [Parked, hd] at hq; cases hq.1

structure ListFrame (c c' : Ctx) : Prop where
  phase : c'.phase = c.phase
  rest : c'.rest = c.rest
  pre : c.pre.length ≤ c'.pre.length

theorem Touch.listFrame {T} {c c' : Ctx} (t : Touch T c c') : ListFrame c c' :=
  ⟨t.phase, t.rest, by rw [t.pre]; exact Nat.le_refl _⟩

theorem stepBody_listFrame (a : Arena) (fin : Bool) (op : Op) (hop : op.isMutator = true) :
    ListFrame a.ctx (a.stepBody fin op).1.ctx := by
  refine (stepBody_mutStep a fin op hop).ctx_rel (fun c => ⟨rfl, rfl, Nat.le_refl _⟩)
    (fun h1 h2 => ⟨h2.phase.trans h1.phase, h2.rest.trans h1.rest, Nat.le_trans h1.pre h2.pre⟩)
    Touch.listFrame (fun _ => ⟨rfl, rfl, Nat.le_refl _⟩) ?_
    (fun o _ _ _ => ⟨rfl, rfl, Nat.le_succ _⟩) (fun c _ p i v _ _ => ?_)
  · unfold Ctx.rootBarrier
    split
    · exact ⟨rfl, rfl, Nat.le_refl _⟩
    · exact ⟨rfl, rfl, Nat.le_refl _⟩
  · unfold Arena.setSlot
    split
    · exact (touch_fail (T := fun _ => True) c .dangling).listFrame
    · exact ⟨rfl, rfl, Nat.le_refl _⟩

theorem mutator_goodA {a : Arena} (h : Inv a) (op : Op) (h1 : Inv (a.step op).1) (g : GoodA a.ctx)
    (hop : op.isMutator = true) : GoodA (a.step op).1.ctx := by
  have f : ListFrame a.ctx (a.step op).1.ctx := by
    rw [step_eq h.alive]; exact stepBody_listFrame { a with marked := false } a.marked op hop
  refine ⟨by rw [f.phase]; exact g.awake, fun hm => ?_, fun hp => ?_⟩
  · -- the list did not shrink
    have := g.markNE (f.phase ▸ hm)
    rw [h.cinv.count] at this
    rw [h1.cinv.count]
    simp only [List.length_append, f.rest] at this ⊢
    have := f.pre
    omega
  · exact g.notParked ⟨f.phase ▸ hp.1, f.rest ▸ hp.2⟩

/-- A self-driven collection operation, executed awake in a good state — or asleep in debt,
    outside callbacks. -/
theorem collect_goodA {a : Arena} (h : Inv a) (m : Method) (k : Cont) (fault : TraceFault) :
    NoZ a.ctx (a.step (.collect m k fault none)).1.ctx
      (GoodA a.ctx ∨ (a.cb = none ∧ a.ctx.phase = .sleep ∧ a.ctx.metrics.hasDebt = true) →
        GoodA (a.step (.collect m k fault none)).1.ctx) := by
  rw [step_eq h.alive]
  have st := stepBody_collectStep { a with marked := false } a.marked m k fault none
  generalize (({ a with marked := false } : Arena).stepBody a.marked (.collect m k fault none)).1 = a' at st ⊢
  -- without an oracle the collector runs `do_collection`
  have call : ∀ {b : Arena} {ru stop f c ex}, Inv b → b.cb = none →
      b.runCollector ru stop f none = some (c, ex) →
      NoZ b.ctx c (GoodA b.ctx ∨ (b.cb = none ∧ b.ctx.phase = .sleep ∧ b.ctx.metrics.hasDebt = true) →
        GoodA c) :=
    fun hb hcb hr => (doCollection_goodA (hb.cinv0 hcb) (Option.some.inj hr)).mono
      fun f h0 => f (h0.imp_right And.right)
  cases st with
  | rejected hrej =>
    rcases hrej with hcb | hr
    · exact .same rfl fun h0 => h0.elim id fun x => absurd x.1 hcb
    · cases hr
  | ran c ex hcb hr => exact (call h.unmark hcb hr :)
  | kept c hcb hr => exact (call h.unmark hcb hr :)
  | swept c c2 ex2 hcb hr _ _ _ hr2 =>
    have hi := h.unmark.afterCollect rfl hcb (runCollector_inv h.unmark hcb hr)
    exact ((call h.unmark hcb hr).trans (call hi hcb hr2) fun f g h0 => g (.inl (f h0)) :)

/-- Not a replayed collection call. -/
def Op.selfDriven : Op → Bool
  | .collect _ _ _ (some _) => false
  | _ => true

theorem run_goodA (ops : List Op) : ∀ (a : Arena), Inv a →
    (∀ op, op ∈ ops → op.selfDriven = true) → (a.run ops).alive = true →
    NoZ a.ctx (a.run ops).ctx (GoodA a.ctx → GoodA (a.run ops).ctx) := by
  induction ops with
  | nil => intro a _ _ _; exact .same rfl id
  | cons op ops ih =>
    intro a h hall hal
    have hal1 := alive_of_run_alive hal
    have h1 := inv_step h op hal1
    refine NoZ.trans (X := GoodA a.ctx → GoodA (a.step op).1.ctx) ?_
      (ih _ h1 (fun o ho => hall o (List.mem_cons_of_mem _ ho)) hal) fun f g p => g (f p)
    by_cases hmut : op.isMutator = true
    · exact .same (step_steps a op hmut) fun g => mutator_goodA h op h1 g hmut
    · cases op with
      | collect m k f o =>
        cases o with
        | none => exact (collect_goodA h m k f).mono fun f g => f (.inl g)
        | some ms => exact absurd (hall _ List.mem_cons_self) (by simp [Op.selfDriven])
      | dropArena =>
        -- the arena is still alive: the call was rejected
        rw [step_eq h.alive] at hal1 ⊢
        simp only [Arena.stepBody] at hal1 ⊢
        split
        · exact .same rfl id
        · rename_i hcb; rw [if_neg hcb] at hal1; cases hal1
      | _ => exact absurd rfl hmut

/-- **Inside one cycle, self-driven calls never leave an empty arena awake.**  `a0`: asleep with
    positive debt, outside callbacks; a self-driven collection call (of any method) wakes it; `post`: mutator
    operations and self-driven collection calls only; no `'Z'` appended.  Then a final
    `cycle_debt` that returns with the cycle unfinished returns with a non-empty arena. -/
theorem selfdriven_nonempty {a0 : Arena} (h0 : Inv a0) (hacc0 : Acc a0.ctx) (hcb0 : a0.cb = none)
    (hs : a0.ctx.phase = .sleep) (hd : 0 < a0.ctx.metrics.allocationDebt)
    (m : Method) (k : Cont) (wfault : TraceFault)
    (post : List Op) (hpost : ∀ op, op ∈ post → op.selfDriven = true)
    (hal : (a0.run (.collect m k wfault none :: post)).alive = true)
    (hcb : (a0.run (.collect m k wfault none :: post)).cb = none)
    (new : List Char)
    (hsteps : (a0.run (.collect m k wfault none :: post)).ctx.steps = new ++ a0.ctx.steps)
    (hz : 'Z' ∉ new) {fault : TraceFault} {c' : Ctx}
    (hr : (a0.run (.collect m k wfault none :: post)).ctx.doCollection
            (a0.run (.collect m k wfault none :: post)).root .payDebt .finishCycle fault = (c', .returned))
    (hns : c'.phase ≠ .sleep) : c'.metrics.totalGcs ≠ 0 := by
  have hhd : a0.ctx.metrics.hasDebt = true := by simpa [Metrics.hasDebt] using hd
  have hi2 := inv_run_from _ h0 hal
  have hc2 : CInv (a0.run (.collect m k wfault none :: post)).ctx
      (a0.run (.collect m k wfault none :: post)).root [] := by
    have := hi2.cinv; rw [hi2.cbTemps hcb] at this; exact this
  have hacc2 := ctx_run_from acc_step (.collect m k wfault none :: post) a0 (fun _ => h0) hacc0
  have g2 : GoodA (a0.run (.collect m k wfault none :: post)).ctx := by
    have hal1 := alive_of_run_alive hal
    obtain ⟨new', e', f'⟩ := (collect_goodA h0 m k wfault).trans
      (run_goodA post _ (inv_step h0 _ hal1) hpost hal) fun f g p => g (f p)
    have : new' = new := List.append_cancel_right (e'.symm.trans hsteps)
    exact f' (this ▸ hz) (.inr ⟨hcb0, hs, hhd⟩)
  have hreach := doCollection_reaches_eq hc2 hr
  have hc' := hreach.inv hc2
  have hacc' := hreach.acc hc2 hacc2
  obtain ⟨fr, _⟩ := doCollection_cycle_frame hc2 hr hns
  have g' : GoodA c' := by
    refine ⟨hns, fun hmk => ?_, ?_⟩
    · have hf := (hacc'.2.1 hmk).frd
      have hsum := fr.sum
      have := g2.nonempty hc2
      omega
    · rcases doCollection_cycle_notParked hr hns with e | np
      · rw [e]; exact g2.notParked
      · exact np
  exact g'.nonempty hc'

end GcArena
