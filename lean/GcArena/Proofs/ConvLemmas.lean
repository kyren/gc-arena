import GcArena.Model.Conv
/-!
  Lemmas about the conversion model (Model/Conv.lean): every step keeps the allocation and the
  address, preserves the shape invariant `WF`, and fails only when ill-typed or when a weak
  pointer to a destructed value is upgraded.
-/
namespace GcArena.Conv

theorem Target.hdrLen_of_isSized {t : Target} (h : t.isSized = true) : t.hdrLen = none := by
  cases t <;> first | rfl | cases h

theorem Target.pmeta_of_isSized {t : Target} (h : t.isSized = true) : t.pmeta = .unit := by
  cases t <;> first | rfl | cases h

theorem Target.visible_hdrLen {t : Target} {n : Nat} (h : t.hdrLen = some n) :
    t.visible n = t.elemCount := by
  cases t <;> cases h <;> rfl

/-- The result of a conversion that has one. -/
def convFn (t : Target) (s : Step) (p : PtrVal) : PtrVal := (conv ⟨0, t, true, false⟩ s p).getD p

theorem conv_eq (a : Alloc) (s : Step) (p : PtrVal) :
    conv a s p = if s = .upgrade → a.upgradable = true then some (convFn a.target s p) else none := by
  cases s
  case upgrade => cases hu : a.upgradable <;> simp [conv, hu] <;> rfl
  all_goals rfl

/-- A step looks at the allocation only through its target, except that `upgrade` also asks
    whether the value is still there; that is its one way to fail on a pointer it accepts. -/
theorem step_eq (a : Alloc) (s : Step) (p : PtrVal) :
    step a s p = if applicable a.target s p = true ∧ (s = .upgrade → a.upgradable = true)
      then some (convFn a.target s p) else none := by
  rw [step, conv_eq]
  by_cases ha : applicable a.target s p = true <;> simp [ha]

theorem step_eq_some_iff {a : Alloc} {s : Step} {p q : PtrVal} :
    step a s p = some q ↔ applicable a.target s p = true ∧
      (s = .upgrade → a.upgradable = true) ∧ q = convFn a.target s p := by
  rw [step_eq]
  constructor
  · intro h
    split at h
    next hc => exact ⟨hc.1, hc.2, (Option.some.inj h).symm⟩
    next => cases h
  · rintro ⟨ha, hu, rfl⟩
    exact if_pos ⟨ha, hu⟩

theorem step_of_applicable {a : Alloc} {s : Step} {p : PtrVal} (h : applicable a.target s p = true) :
    step a s p = conv a s p := by
  simp [step, h]

theorem applicable_of_step {a : Alloc} {s : Step} {p q : PtrVal} (h : step a s p = some q) :
    applicable a.target s p = true :=
  (step_eq_some_iff.1 h).1

theorem step_upgrade {a : Alloc} {q : PtrVal} (hw : q.weak = true) :
    step a .upgrade q = if a.upgradable then some { q with weak := false } else none := by
  simp [step, applicable, hw, conv]

theorem step_same {a : Alloc} {s : Step} {p q : PtrVal} (h : step a s p = some q) :
    q.obj = p.obj ∧ q.off = p.off := by
  rw [(step_eq_some_iff.1 h).2.2]
  cases s <;> exact ⟨rfl, rfl⟩

theorem step_weak {a : Alloc} {s : Step} {p q : PtrVal} (h : step a s p = some q) :
    q.weak = (match s with
      | .downgrade => true
      | .upgrade => false
      | _ => p.weak) := by
  obtain ⟨_, _, rfl⟩ := step_eq_some_iff.1 h
  cases s <;> rfl

/-- Liveness matters to `upgrade` only: elsewhere, and on a live value, a step does what it does
    on a live copy of the allocation. -/
theorem step_live {a : Alloc} {s : Step} {p : PtrVal} (x : Nat)
    (hl : a.upgradable = true ∨ s ≠ .upgrade) :
    step ⟨x, a.target, true, false⟩ s p = step a s p := by
  have : s = .upgrade → a.upgradable = true := fun hs => hl.elim id (absurd hs)
  simp [step_eq, eq_true this, show (Alloc.mk x a.target true false).upgradable = true from rfl]

theorem apply_cons_eq_some {a : Alloc} {s : Step} {ch : Chain} {p q : PtrVal} :
    apply a (s :: ch) p = some q ↔ ∃ r, step a s p = some r ∧ apply a ch r = some q := by
  simp only [apply]
  cases step a s p <;> simp

theorem apply_append (a : Alloc) : ∀ (c₁ c₂ : Chain) (p : PtrVal),
    apply a (c₁ ++ c₂) p = (apply a c₁ p).bind (apply a c₂)
  | [], _, _ => rfl
  | s :: c₁, c₂, p => by
    simp only [List.cons_append, apply]
    cases step a s p with
    | none => rfl
    | some r => exact apply_append a c₁ c₂ r

theorem apply_inv {a : Alloc} {P : PtrVal → Prop}
    (hP : ∀ {s p q}, P p → step a s p = some q → P q) :
    ∀ {ch : Chain} {p q : PtrVal}, P p → apply a ch p = some q → P q
  | [], _, _, hp, h => Option.some.inj h ▸ hp
  | _ :: _, _, _, hp, h =>
    have ⟨_, hs, hr⟩ := apply_cons_eq_some.1 h
    apply_inv hP (hP hp hs) hr

theorem apply_same {a : Alloc} {ch : Chain} {p q : PtrVal} (h : apply a ch p = some q) :
    q.obj = p.obj ∧ q.off = p.off :=
  apply_inv (P := fun r => r.obj = p.obj ∧ r.off = p.off)
    (fun hp hs => ⟨(step_same hs).1.trans hp.1, (step_same hs).2.trans hp.2⟩) ⟨rfl, rfl⟩ h

theorem initPtr_wf (a : Alloc) : WF a (initPtr a) := by
  unfold initPtr
  split
  next h =>
    -- `dyn`: the call returns the pointer already unsized, under the unit `P`
    exact ⟨rfl, rfl, nofun, fun _ => by rw [h]; rfl, .inl rfl, nofun, fun _ => ⟨by rw [h]; rfl, rfl, rfl⟩⟩
  next =>
    -- otherwise: a fat pointer of the allocated type under the allocation's own `P`
    exact ⟨rfl, rfl, nofun, fun _ => rfl, .inr ⟨rfl, rfl⟩, nofun, nofun⟩

theorem derefMeta_wf {a : Alloc} {p : PtrVal} (h : WF a p) :
    derefMeta a.target p = fatMeta a.target p.ty := by
  unfold derefMeta
  cases ht : p.thin
  · exact h.fat ht
  · have hk := h.thinKind ht
    unfold hasPtrMeta at hk
    cases hp : p.pmeta <;> rw [hp] at hk <;> simp only [Bool.and_eq_true, beq_iff_eq] at hk
    · -- `UnitPtrMeta`: the static type is sized, so there is no length to rebuild
      cases hty : p.ty <;> rw [hty] at hk
      · simp [fatMeta, Target.hdrLen_of_isSized hk]
      · rfl
      · cases hk
    -- `SlicePtrMeta` / `StrPtrMeta`: the static type is the allocated one, and both sides read
    -- the header's length
    · rw [hk.2]; rfl
    · rw [hk.2]; rfl

theorem WF.weak {a : Alloc} {p : PtrVal} (hw : WF a p) (w : Bool) : WF a { p with weak := w } :=
  ⟨hw.obj, hw.off, hw.thinMeta, hw.fat, hw.kind, hw.thinKind, hw.uns⟩

theorem step_wf {a : Alloc} {s : Step} {p q : PtrVal} (hw : WF a p) (h : step a s p = some q) :
    WF a q := by
  obtain ⟨ha, -, rfl⟩ := step_eq_some_iff.1 h
  have hd := derefMeta_wf hw
  cases s
  case copy | ptrKind | thinPtr | stash => exact hw
  case downgrade | upgrade => exact hw.weak _
  case erase => exact ⟨hw.obj, hw.off, nofun, fun _ => rfl, .inl rfl, nofun, nofun⟩
  case eraseKind =>
    simp only [applicable, Bool.and_eq_true, Bool.not_eq_true'] at ha
    exact ⟨hw.obj, hw.off, hw.thinMeta, hw.fat, .inl rfl, fun ht => (by cases ha.2.symm.trans ht),
      fun hu => ⟨(hw.uns hu).1, (hw.uns hu).2.1, rfl⟩⟩
  case cast =>
    simp only [applicable, Bool.and_eq_true, Bool.not_eq_true'] at ha
    refine ⟨hw.obj, hw.off, fun _ => rfl, fun _ => ?_, hw.kind.imp_right fun h1 => ⟨h1.1, rfl⟩,
      fun ht => (by cases ha.1.symm.trans ht), nofun⟩
    show Meta.none = fatMeta a.target .orig
    simp only [fatMeta, Target.hdrLen_of_isSized ha.2]
  case fromThin =>
    refine ⟨hw.obj, hw.off, fun _ => rfl, nofun, .inr ⟨rfl, rfl⟩, fun _ => ?_, nofun⟩
    -- the allocation's own `P` covers the allocated type
    cases a.target <;> rfl
  case asThin =>
    simp only [applicable, Bool.and_eq_true, Bool.not_eq_true'] at ha
    refine ⟨hw.obj, hw.off, fun _ => rfl, nofun, hw.kind, fun _ => ha.2, fun hu => ?_⟩
    -- an unsized pointer has the unit `P`, which does not cover `dyn` / `[E]`
    have hk := ha.2
    simp [hasPtrMeta, (hw.uns hu).2.2, show p.ty = .uns from hu, tySized] at hk
  case asFat =>
    exact ⟨hw.obj, hw.off, nofun, fun _ => hd, hw.kind, nofun,
      fun hu => ⟨(hw.uns hu).1, rfl, (hw.uns hu).2.2⟩⟩
  case ptr =>
    exact ⟨hw.obj, hw.off, nofun, fun _ => hd, .inl rfl, nofun, fun hu => ⟨(hw.uns hu).1, rfl, rfl⟩⟩
  case unsize =>
    simp only [applicable, Bool.and_eq_true, beq_iff_eq] at ha
    exact ⟨hw.obj, hw.off, nofun, fun _ => rfl, .inl rfl, nofun, fun _ => ⟨ha.2, rfl, rfl⟩⟩

theorem apply_wf {a : Alloc} {ch : Chain} {p q : PtrVal} (hw : WF a p) (h : apply a ch p = some q) :
    WF a q :=
  apply_inv step_wf hw h

theorem apply_isSome_iff_wellTyped {a : Alloc} (hl : a.upgradable = true) :
    ∀ {ch : Chain} {p : PtrVal}, (apply a ch p).isSome = wellTyped a.target ch p
  | [], p => by simp [apply, wellTyped]
  | s :: ch, p => by
    simp only [apply, wellTyped, step_live p.obj (Or.inl hl)]
    cases hs : step a s p with
    | none => simp
    | some q =>
      simp only [applicable_of_step hs, Bool.true_and]
      exact apply_isSome_iff_wellTyped hl

theorem apply_eq_none_iff {a : Alloc} {ch : Chain} {p : PtrVal}
    (hwt : wellTyped a.target ch p = true) :
    apply a ch p = none ↔ a.upgradable = false ∧ Step.upgrade ∈ ch := by
  cases hl : a.upgradable
  · -- the chain runs up to its first `upgrade`, which is refused
    induction ch generalizing p with
    | nil => simp [apply]
    | cons s ch ih =>
      simp only [wellTyped, Bool.and_eq_true] at hwt
      by_cases hs : s = .upgrade
      · subst hs; simp [apply, step_upgrade hwt.1, hl]
      · rw [step_live p.obj (.inr hs)] at hwt
        cases hq : step a s p with
        | none => rw [hq] at hwt; cases hwt.2
        | some q => rw [hq] at hwt; simp [apply, hq, ih hwt.2, Ne.symm hs]
  · -- the chain succeeds
    have h := (apply_isSome_iff_wellTyped hl).trans hwt
    exact ⟨fun hn => (by rw [hn] at h; cases h), fun hn => (by cases hn.1)⟩

/-- What the collector sees of the result of a chain: the original target, strong or weak. -/
theorem apply_toPtr {a : Alloc} {ch : Chain} {p q : PtrVal} (h : apply a ch p = some q) :
    q.toPtr = if q.weak then .weak p.obj else .strong p.obj := by
  simp [PtrVal.toPtr, (apply_same h).1]

end GcArena.Conv
