import GcArena.Model.PtrList
import GcArena.Proofs.Events
/-!
  The pointer surgery on the intrusive `all` list implements the list-level model.

  `Rep p pre rest`: following `next` from `all` yields exactly `pre ++ rest` (each object once)
  and then `None`; while sweeping, following it from `sweep` yields `rest` and `sweep_prev` is the
  last object of `pre` (or `None` when `pre` is empty); outside the sweep phase `sweep` and
  `sweep_prev` are `None`.
-/
namespace GcArena

inductive Chain (next : Nat → Option Nat) : Option Nat → List Nat → Prop
  | nil : Chain next none []
  | cons {i : Nat} {l : List Nat} : Chain next (next i) l → Chain next (some i) (i :: l)

theorem Chain.nil_iff {next a} : Chain next a [] ↔ a = none := by
  constructor
  · intro h; cases h; rfl
  · intro h; subst h; exact .nil

theorem Chain.cons_iff {next a i l} : Chain next a (i :: l) ↔ a = some i ∧ Chain next (next i) l := by
  constructor
  · intro h; cases h with | cons h => exact ⟨rfl, h⟩
  · rintro ⟨rfl, h⟩; exact .cons h

theorem Chain.congr {next next' : Nat → Option Nat} {a l} (h : Chain next a l)
    (hag : ∀ i, i ∈ l → next' i = next i) : Chain next' a l := by
  induction h with
  | nil => exact .nil
  | cons _ ih =>
    rename_i i l _
    refine .cons ?_
    rw [hag i (by simp)]
    exact ih (fun j hj => hag j (List.mem_cons_of_mem _ hj))

theorem Chain.start {next a l} (h : Chain next a l) : a = l.head? := by
  cases h <;> rfl

/-- The suffix of a chain is the chain from where the prefix ends. -/
theorem Chain.suffix {next} : ∀ {l1 : List Nat} {a l2}, Chain next a (l1 ++ l2) →
    ∃ b, Chain next b l2 ∧ (l1 = [] → b = a) ∧ (∀ q, l1.getLast? = some q → b = next q) := by
  intro l1
  induction l1 with
  | nil => exact fun h => ⟨_, h, fun _ => rfl, fun q hq => by simp at hq⟩
  | cons x l1 ih =>
    intro a l2 h
    obtain ⟨rfl, h'⟩ := Chain.cons_iff.mp h
    obtain ⟨b, hb, hnil, hl⟩ := ih h'
    refine ⟨b, hb, nofun, fun q hq => ?_⟩
    -- the last element of `x :: l1` is that of `l1`, or `x` if there is none
    cases l1 with
    | nil =>
      simp only [List.getLast?_singleton, Option.some.injEq] at hq
      subst hq; exact hnil rfl
    | cons y l1 => exact hl q (by simpa [List.getLast?_cons_cons] using hq)

/-- Unlinking `s`, which follows `q`, by `q.next := s.next`. -/
theorem Chain.splice {next : Nat → Option Nat} {q s : Nat} : ∀ {l1 : List Nat} {a l2},
    Chain next a (l1 ++ q :: s :: l2) → (l1 ++ q :: s :: l2).Nodup →
    Chain (fun j => if j = q then next s else next j) a (l1 ++ q :: l2) := by
  intro l1
  induction l1 with
  | nil =>
    intro a l2 h hnd
    obtain ⟨rfl, h1⟩ := Chain.cons_iff.mp h
    obtain ⟨_, h2⟩ := Chain.cons_iff.mp h1
    have hq : q ∉ l2 := fun hm => (List.nodup_cons.mp hnd).1 (List.mem_cons_of_mem _ hm)
    refine .cons ?_
    show Chain _ (if q = q then next s else next q) l2
    rw [if_pos rfl]
    exact h2.congr (fun i hi => if_neg (fun e : i = q => hq (e ▸ hi)))
  | cons x l1 ih =>
    intro a l2 h hnd
    obtain ⟨rfl, h1⟩ := Chain.cons_iff.mp h
    obtain ⟨hx, hnd'⟩ := List.nodup_cons.mp hnd
    have hxq : x ≠ q := fun e => hx (e ▸ List.mem_append_right _ List.mem_cons_self)
    refine .cons ?_
    show Chain _ (if x = q then next s else next x) _
    rw [if_neg hxq]
    exact ih h1 hnd'

/-- Every `next` pointer of a list member points to a list member (or is `None`): after an
    object has been unlinked, nothing on the list points at its (released) block. -/
theorem Chain.next_mem {next a l} (h : Chain next a l) : ∀ i, i ∈ l → ∀ t, next i = some t → t ∈ l := by
  induction h with
  | nil => intro i hi; cases hi
  | cons h ih =>
    intro i hi t ht
    rcases List.mem_cons.mp hi with rfl | hi
    · -- the successor of the head is the head of the tail
      exact List.mem_cons_of_mem _ (List.mem_of_mem_head? (ht ▸ h.start).symm)
    · exact List.mem_cons_of_mem _ (ih i hi t ht)

structure Rep (p : PList) (pre rest : List Nat) : Prop where
  chain : Chain p.next p.all (pre ++ rest)
  nodup : (pre ++ rest).Nodup
  sweeping : p.sweeping = true → Chain p.next p.sweep rest ∧ p.sweepPrev = pre.getLast?
  idle : p.sweeping = false → rest = [] ∧ p.sweep = none ∧ p.sweepPrev = none

theorem Rep.empty : Rep PList.empty [] [] :=
  ⟨.nil, by simp, (fun h => by cases h), fun _ => ⟨rfl, rfl, rfl⟩⟩

theorem PList.link_eq (p : PList) (i : Nat) : p.link i =
    { next := fun j => if j = i then p.all else p.next j, all := some i, sweep := p.sweep,
      sweepPrev := if p.sweeping && p.sweepPrev.isNone then some i else p.sweepPrev,
      sweeping := p.sweeping } := by
  simp only [PList.link, PList.setNext]
  split <;> rename_i h <;> simp [h]

/-- `Context::link` puts the new object at the head of the list, in front of the cursor, and
    keeps `sweep_prev` the last object in front of the cursor. -/
theorem Rep.link {p : PList} {pre rest : List Nat} (h : Rep p pre rest) (i : Nat)
    (hfresh : i ∉ pre ++ rest) : Rep (p.link i) (i :: pre) rest := by
  rw [PList.link_eq]
  have hag : ∀ j, j ∈ pre ++ rest → (if j = i then p.all else p.next j) = p.next j :=
    fun j hj => if_neg (fun e : j = i => hfresh (e ▸ hj))
  refine ⟨.cons ?_, List.nodup_cons.mpr ⟨hfresh, h.nodup⟩, fun hs => ?_, fun hs => ?_⟩
  · show Chain _ (if i = i then p.all else p.next i) _
    rw [if_pos rfl]; exact h.chain.congr hag
  · obtain ⟨hc, hp⟩ := h.sweeping hs
    refine ⟨hc.congr (fun j hj => hag j (List.mem_append_right _ hj)), ?_⟩
    -- `sweep_prev` was `None` exactly if nothing was in front of the cursor
    show (if p.sweeping && p.sweepPrev.isNone then some i else p.sweepPrev) = (i :: pre).getLast?
    rw [show p.sweeping = true from hs, hp, List.getLast?_cons]
    cases pre.getLast? <;> rfl
  · obtain ⟨hr, hsw, hpv⟩ := h.idle hs
    exact ⟨hr, hsw, by simpa [show p.sweeping = false from hs] using hpv⟩

/-- `Mark → Sweep`: the cursor starts at the head; everything is still to be swept. -/
theorem Rep.enterSweep {p : PList} {pre : List Nat} (h : Rep p pre []) (hs : p.sweeping = false) :
    Rep p.enterSweep [] pre := by
  obtain ⟨_, _, hp⟩ := h.idle hs
  have hc := h.chain
  simp only [List.append_nil] at hc
  refine ⟨by simpa [PList.enterSweep] using hc, by simpa using h.nodup, fun _ => ⟨hc, hp⟩, ?_⟩
  intro h'; simp [PList.enterSweep] at h'

theorem PList.sweepOne_keep {p : PList} {remove : Nat → Bool} {s : Nat} (hsw : p.sweep = some s)
    (hr : remove s = false) :
    p.sweepOne remove = ({ p with sweep := p.next s, sweepPrev := some s }, some s) := by
  simp [PList.sweepOne, hsw, hr]

theorem PList.sweepOne_remove_none {p : PList} {remove : Nat → Bool} {s : Nat} (hsw : p.sweep = some s)
    (hr : remove s = true) (hp : p.sweepPrev = none) :
    p.sweepOne remove = ({ p with sweep := p.next s, all := p.next s }, some s) := by
  simp [PList.sweepOne, hsw, hr, hp]

theorem PList.sweepOne_remove_some {p : PList} {remove : Nat → Bool} {s q : Nat} (hsw : p.sweep = some s)
    (hr : remove s = true) (hp : p.sweepPrev = some q) :
    p.sweepOne remove = (({ p with sweep := p.next s } : PList).setNext q (p.next s), some s) := by
  simp [PList.sweepOne, hsw, hr, hp]

theorem PList.sweepOne_end {p : PList} {remove : Nat → Bool} (hsw : p.sweep = none) :
    p.sweepOne remove = ({ p with sweepPrev := none }, none) := by
  simp [PList.sweepOne, hsw]

/-- One `sweep_one` with an object under the cursor. -/
theorem Rep.sweepOne {p : PList} {pre rest : List Nat} {s : Nat} (h : Rep p pre (s :: rest))
    (hs : p.sweeping = true) (remove : Nat → Bool) :
    (p.sweepOne remove).2 = some s ∧
    Rep (p.sweepOne remove).1 (if remove s then pre else pre ++ [s]) rest := by
  obtain ⟨hc, hp⟩ := h.sweeping hs
  obtain ⟨hsw, hc'⟩ := Chain.cons_iff.mp hc
  have notIdle : ∀ {P : Prop}, p.sweeping = false → P := fun h' => Bool.noConfusion (hs.symm.trans h')
  cases hr : remove s with
  | false =>
    simp only [Bool.false_eq_true, if_false]
    rw [PList.sweepOne_keep hsw hr]
    exact ⟨rfl, by rw [List.append_assoc]; exact h.chain, by rw [List.append_assoc]; exact h.nodup,
      fun _ => ⟨hc', List.getLast?_concat.symm⟩, notIdle⟩
  | true =>
    simp only [if_true]
    have hch := h.chain
    have hnd := h.nodup
    rcases List.eq_nil_or_concat pre with rfl | ⟨l1, q, rfl⟩
    · -- nothing in front of the cursor: `all` moves on
      rw [PList.sweepOne_remove_none hsw hr hp]
      exact ⟨rfl, hc', (List.nodup_cons.mp hnd).2, fun _ => ⟨hc', hp⟩, notIdle⟩
    · -- `q`, the last object in front of the cursor, is linked past `s`
      rw [List.concat_eq_append] at hp hch hnd ⊢
      rw [List.append_assoc] at hch hnd
      rw [PList.sweepOne_remove_some hsw hr (hp.trans List.getLast?_concat)]
      have hnd' : (l1 ++ q :: rest).Nodup :=
        hnd.sublist (((List.sublist_cons_self s rest).cons_cons q).append_left l1)
      have hq_rest : q ∉ rest := (List.nodup_cons.mp (List.nodup_append.mp hnd').2.1).1
      refine ⟨rfl, by rw [List.append_assoc]; exact Chain.splice hch hnd, by rw [List.append_assoc]; exact hnd',
        fun _ => ⟨?_, hp⟩, notIdle⟩
      exact hc'.congr (fun j hj => if_neg (fun e : j = q => hq_rest (e ▸ hj)))

/-- `sweep_one` at the end of the list resets `sweep_prev`; the driver then leaves the sweep
    phase. -/
theorem Rep.endSweep {p : PList} {pre : List Nat} (h : Rep p pre []) (hs : p.sweeping = true)
    (remove : Nat → Bool) :
    (p.sweepOne remove).2 = none ∧ Rep (p.sweepOne remove).1.endSweep pre [] := by
  obtain ⟨hc, _⟩ := h.sweeping hs
  have hsn : p.sweep = none := Chain.nil_iff.mp hc
  rw [PList.sweepOne_end hsn]
  refine ⟨rfl, h.chain, h.nodup, ?_, fun _ => ⟨rfl, hsn, rfl⟩⟩
  intro h'; simp [PList.endSweep] at h'

/-- `DropAll` visits exactly the objects on the list, each once, in list order. -/
theorem Chain.walk {next a l} (h : Chain next a l) : ∀ fuel, l.length ≤ fuel → PList.walk next (fuel + 1) a = l := by
  induction h with
  | nil => intro fuel _; rfl
  | cons h ih =>
    intro fuel hf
    cases fuel with
    | zero => simp at hf
    | succ fuel => simp only [PList.walk]; rw [ih fuel (by simpa using hf)]

theorem Rep.walk {p : PList} {pre rest : List Nat} (h : Rep p pre rest) :
    PList.walk p.next ((pre ++ rest).length + 1) p.all = pre ++ rest :=
  h.chain.walk _ (Nat.le_refl _)

/-- The colour test of `sweep_one`. -/
def Ctx.isWhite (c : Ctx) (i : Nat) : Bool :=
  match c.heap.get i with
  | some o => o.color == .white
  | none => false

/-- `Ctx.link` is `PList.link` on the lists. -/
theorem link_refines {p : PList} {c : Ctx} {root temps} (hinv : CInv c root temps)
    (h : Rep p c.pre c.rest) (o : Obj) :
    Rep (p.link (c.link o).2) (c.link o).1.pre (c.link o).1.rest := by
  have hfresh : c.heap.fresh ∉ c.pre ++ c.rest := by
    intro hm
    obtain ⟨o', ho'⟩ := (hinv.memAll _).mp hm
    have := Heap.get_fresh c.heap
    rw [this] at ho'; cases ho'
  exact h.link _ hfresh

/-- `Ctx.sweepOne` with an object under the cursor is `PList.sweepOne` on the lists: a white
    object leaves the list, any other is passed over and becomes `sweep_prev`. -/
theorem sweepOne_refines {p : PList} {c : Ctx} {root temps} (hinv : CInv c root temps)
    (hp : c.phase = .sweep) (hs : p.sweeping = true) (h : Rep p c.pre c.rest) (s : Nat) (r : List Nat)
    (hr : c.rest = s :: r) :
    Rep (p.sweepOne c.isWhite).1 c.sweepOne.1.pre c.sweepOne.1.rest := by
  rw [hr] at h
  obtain ⟨_, hrep⟩ := h.sweepOne hs c.isWhite
  obtain ⟨o, ho⟩ := (hinv.memAll s).mp (by rw [hr]; simp)
  have hnogray : o.color ≠ .gray := by
    intro hg
    have := hinv.grayQ s o ho hg
    have hq := hinv.qMark (by rw [hp]; simp)
    rw [hq.1, hq.2] at this; simp at this
  obtain ⟨_, _, _, hrest, hpre, _⟩ := sweepOne_at hr ho
  rw [hrest, hpre]
  have hw : c.isWhite s = (o.color == .white) := by simp [Ctx.isWhite, ho]
  rw [hw] at hrep
  cases hcol : o.color with
  | gray => exact absurd hcol hnogray
  | _ => simpa [hcol] using hrep

end GcArena
