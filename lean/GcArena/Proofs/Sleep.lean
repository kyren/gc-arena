import GcArena.Proofs.Pacing
import GcArena.Proofs.DebtMono
/-!
  Sleep is honoured over operation sequences (C09): a sleeping collector with no artificial debt
  stays asleep, makes no progress and reports zero debt for as long as the allocations made do
  not exceed the wake-up amount.
-/
namespace GcArena

theorem sleep_no_debt {c : Ctx} (hart : c.metrics.artificial = 0)
    (hle : (c.metrics.allocated : Rat) ≤ c.metrics.wakeup) : c.metrics.hasDebt = false :=
  Bool.eq_false_iff.mpr fun h => by
    have := hasDebt_debits h
    unfold Metrics.cycleDebits at this
    rw [hart] at this
    grind

/-- While asleep within the wake-up amount, the debt-driven methods (`collect_debt`, `mark_debt`,
    `cycle_debt`) leave the collector state untouched: no progress is made. -/
theorem sleep_collect_noop {a : Arena} (hs : a.ctx.phase = .sleep)
    (hart : a.ctx.metrics.artificial = 0) (hle : (a.ctx.metrics.allocated : Rat) ≤ a.ctx.metrics.wakeup)
    (m : Method) (hm : (Arena.methodArgs m).1 = .payDebt) (k : Cont) (fault : TraceFault) :
    (a.step (.collect m k fault none)).1.ctx = a.ctx := by
  have hnd := sleep_no_debt hart hle
  -- the first call returns at once, so no `MarkedArena` is handed out either
  have noop : ∀ {b a' : Arena}, b.ctx = a.ctx → CollectStep b m k fault none a' → a'.ctx = a.ctx := by
    intro b a' hb st
    have hcall : ∀ {c ex}, b.runCollector (Arena.methodArgs m).1 (Arena.methodArgs m).2 fault
        (Arena.splitOracle none k m).1 = some (c, ex) → c = a.ctx := by
      intro c ex hr
      have hd : b.ctx.doCollection b.root .payDebt (Arena.methodArgs m).2 fault = (c, ex) := by
        rw [← hm]; exact Option.some.inj hr
      rw [hb] at hd
      simp only [Ctx.doCollection, hnd, decide_true, Bool.not_false, Bool.and_self, if_true,
        Prod.mk.injEq] at hd
      exact hd.1.symm
    cases st with
    | rejected => exact hb
    | ran c ex _ hr => exact hcall hr
    | kept c _ hr => exact hcall hr
    | swept c c2 ex2 _ hr _ hmk => rw [hcall hr] at hmk; simp [Arena.isMarked, hs] at hmk
  unfold Arena.step
  split
  · rfl
  · exact noop (b := { a with marked := false }) rfl (stepBody_collectStep _ _ m k fault none)

/-- A self-driven debt-driven collection call (`collect_debt`, `mark_debt`, `cycle_debt`). -/
def Op.isDebtCall : Op → Bool
  | .collect m _ _ none => decide ((Arena.methodArgs m).1 = .payDebt)
  | _ => false

/-- What a client may do while the statement "the collector stays asleep" is claimed: anything
    except `set_pacing` / `adjust_debt`, the unconditional collection methods, and dropping the
    arena. -/
def Op.isSleepy (op : Op) : Bool := (op.isMutator && !op.isKnob) || op.isDebtCall

theorem sleepy_step {a : Arena} (h : Inv a) (hs : a.ctx.phase = .sleep)
    (hart : a.ctx.metrics.artificial = 0) (hle : (a.ctx.metrics.allocated : Rat) ≤ a.ctx.metrics.wakeup)
    (op : Op) (hop : op.isSleepy = true) :
    (a.step op).1.ctx.phase = .sleep ∧ (a.step op).1.ctx.log = a.ctx.log ∧
    (a.step op).1.ctx.metrics.wakeup = a.ctx.metrics.wakeup ∧
    (a.step op).1.ctx.metrics.artificial = 0 ∧
    (a.step op).1.ctx.metrics.allocated ≤ a.ctx.metrics.allocated + (if op.isAlloc then 1 else 0) := by
  by_cases hd : op.isDebtCall = true
  · cases op with
    | collect m k f o =>
      cases o with
      | some ms => simp [Op.isDebtCall] at hd
      | none =>
        have hm : (Arena.methodArgs m).1 = .payDebt := by simpa [Op.isDebtCall] using hd
        rw [sleep_collect_noop hs hart hle m hm k f]
        exact ⟨hs, rfl, rfl, hart, Nat.le_add_right _ _⟩
    | _ => simp [Op.isDebtCall] at hd
  · have hmk : op.isMutator = true ∧ op.isKnob = false := by
      simp only [Op.isSleepy, Bool.or_eq_true, Bool.and_eq_true, Bool.not_eq_true'] at hop
      rcases hop with hop | hop
      · exact hop
      · exact absurd hop hd
    have hq := step_quiet h op hmk.1
    have fr := (step_metStep a op hmk.1 hmk.2).frame
    exact ⟨by rw [hq.phase]; exact hs, hq.log, fr.wakeup, by rw [fr.artificial]; exact hart, fr.bound⟩

/-- **The collector stays asleep** (C09).  From a sleeping state with no artificial debt, over any
    sequence of mutator operations and debt-driven collection calls during which at most
    `wakeup - allocated` allocations are made: the phase is still `Sleep`, no destructor ran and
    no block was released (the event log is unchanged), the schedule is unchanged, and the
    reported debt is zero. -/
theorem stays_asleep (ops : List Op) : ∀ (a : Arena), Inv a → a.ctx.phase = .sleep →
    a.ctx.metrics.artificial = 0 → (∀ op, op ∈ ops → op.isSleepy = true) → (a.run ops).alive = true →
    ((a.ctx.metrics.allocated + ops.countP Op.isAlloc : Nat) : Rat) ≤ a.ctx.metrics.wakeup →
    (a.run ops).ctx.phase = .sleep ∧ (a.run ops).ctx.log = a.ctx.log ∧
    (a.run ops).ctx.metrics.wakeup = a.ctx.metrics.wakeup ∧
    (a.run ops).ctx.metrics.artificial = 0 ∧
    (a.run ops).ctx.metrics.allocated ≤ a.ctx.metrics.allocated + ops.countP Op.isAlloc ∧
    (a.run ops).ctx.metrics.allocationDebt = 0 := by
  induction ops with
  | nil =>
    intro a _ hs hart _ _ hb
    simp only [List.countP_nil, Nat.add_zero] at hb
    exact ⟨hs, rfl, rfl, hart, Nat.le_refl _, debt_zero_of_not_hasDebt _ (sleep_no_debt hart hb)⟩
  | cons op ops ih =>
    intro a h hs hart hall hal hb
    simp only [Arena.run] at hal ⊢
    have hal1 := alive_of_run_alive hal
    have hle : (a.ctx.metrics.allocated : Rat) ≤ a.ctx.metrics.wakeup := by
      refine Rat.le_trans (Rat.natCast_le_natCast.mpr ?_) hb
      exact Nat.le_add_right _ _
    obtain ⟨s1, s2, s3, s4, s5⟩ := sleepy_step h hs hart hle op (hall op (by simp))
    have hcount : (if op.isAlloc = true then 1 else 0) + ops.countP Op.isAlloc
        = (op :: ops).countP Op.isAlloc := by
      rw [List.countP_cons]; omega
    have hb1 : (((a.step op).1.ctx.metrics.allocated + ops.countP Op.isAlloc : Nat) : Rat)
        ≤ (a.step op).1.ctx.metrics.wakeup := by
      rw [s3]
      refine Rat.le_trans (Rat.natCast_le_natCast.mpr ?_) hb
      omega
    obtain ⟨r1, r2, r3, r4, r5, r6⟩ := ih (a.step op).1 (inv_step h op hal1) s1 s4
      (fun o ho => hall o (List.mem_cons_of_mem _ ho)) hal hb1
    exact ⟨r1, r2.trans s2, r3.trans s3, r4, by omega, r6⟩

end GcArena
