import GcArena.Proofs.DynCompose
import GcArena.Proofs.RunBridge
/-!
# DynReach — the DynamicRootSet slot table coupled with the collector, *general* system (C14)

Proofs/DynCompose.lean couples the two models using existing `GcArena.Op`s only, at the price of
restrictions (set pinned in a root slot, fixed capacity, `MarkedArena` window).  This file removes
them.  The set object may be referenced from anywhere (or nowhere); the slot list grows with the
table; a handle may be dropped in *any* arena state; a set is destroyed exactly when its object is
destructed; other arenas appear as an environment.

## The system (`GSys`, `GOp`, `GSys.step`, `GSys.run`)

`GSys` = an arena `a`, a slot-table state `d`, `loc : List (Option Nat)` (`loc[s] = some x`: set `s`
belongs to this arena and heap object `x` is its `Gc<Inner>`; `none`: set `s` belongs to another
arena), and the ghost list `dops` of DynRoots ops executed.

| `GOp`                 | slot-table side            | collector side                                                   |
|-----------------------|----------------------------|------------------------------------------------------------------|
| `newSet` (any callback) | `newSet`                 | `Op.alloc true []`; the pointer is held; the client stores it (or not) with ordinary ops |
| `stash s r` (callback holding the set pointer and `r`) | `stash s r` → index `i` | `Op.barrier (bb obj (some r))`; if `i` = current length: the slot list grows by one empty slot (`reslot`); `Op.store raw obj i (strong r)` |
| `clone h`             | `clone h`                  | —                                                                |
| `dropHandle h`, last handle of its slot | `dropHandle h` | slot `i` of the set object := `None` (`clearArena` = `Arena.setSlot`), in whatever state the arena is: any phase, inside or outside a callback, `MarkedArena` outstanding or not; `marked`, `cb`, temps, cover, colours, queues untouched |
| `dropHandle h`, other | `dropHandle h`             | —                                                                |
| `fetch s h` / `tryFetch` (callback holding the set pointer, own live handle) | same | `Op.read obj h.index` |
| `contains s h`        | `contains`                 | —                                                                |
| `gc op`               | `destroySet s` for every set `s` of this arena whose object `op` destructed (`sync`) | `op` — anything but a `store` into a set object (private field) — including `dropArena` |
| `envNewSet`, `envStash s r`, `envDestroy s` | the op, on a set of **another arena** | — |

Two transitions are not `Arena.step`s: growing the set object's slot list by an empty slot, and
clearing a slot.  Both are instances of `reslot` (replace the slot list of an undestructed object by
one holding no new pointer), and `inv_reslot` proves that this preserves the collector invariant
`Inv` in every state (from `setSlots_spec` / `CoverOK.setSlots` of the collector development).
`DynCompose.clear_net_outside` shows that in the pinned system the op-encoded drop has the effect
`clearArena` has on the context and, unlike `clearArena`, resets `marked` (as every `GcArena.Op`
but the pacing and debt knobs does: R6 there).  Consequently the arena of a `GSys` run is not `(Arena.new n).run ops`;
instead `Inv` is part of the relation and is proved preserved (`inv_step` for ops, `inv_reslot`).

## The coupling relation (`GCoupled`) and its preservation (`GCoupled.step`, `GCoupled.run`)

For every set of this arena that is alive in `d`: the arena exists, the set object is allocated,
undestructed, traced, and its slot list is exactly `table.map img` (`GCore.sets`); conversely a set
of this arena whose object is allocated and undestructed is alive in `d` (`GCoupled.live`, with
`bound` / `Mono`: ids are never reused, a destructed object never comes back) — together
`GCoupled.alive_iff`; hence a set object the client can reach belongs to an alive set
(`GCoupled.alive_of_accessible`), which is what lets the property theorems dispense with any
hypothesis about the slot-table state.  A set whose object is
destructed by a collection (or by the arena drop) is destroyed by `sync` in the same step, so the
relation never speaks about a destructed object.  The key frame fact is `step_rigid`: every op but a
store into `x` leaves the slot list of `x` alone for as long as `x` is allocated and undestructed —
reachable or not, whatever its colour (`LiveFrame`: backwards along collector micro-steps).

## What remains outside (stated, not hidden)

* One arena is modelled in detail; other arenas are environment ops on their own sets
  (`envNewSet`/`envStash`/`envDestroy`, and `clone`/`dropHandle` of their handles).  The theorems
  hold for the modelled arena whatever the environment does, hence for each arena in turn.
* Handle operations are atomic and happen between collector-model ops.  A handle dropped *during*
  a collection call (by the destructor of an object `i0` the sweep destructs) is represented by the
  history with the call split after that sweep step into two oracle-driven `collect` ops; that the
  clearing, which really happens in the middle of the sweep step, commutes with the step is
  `clear_commutes_sweepOne` (proved, for `i0` ≠ the set object; if the set object itself is being
  destructed the set is gone and nothing is cleared).  Not covered: the debt arithmetic of the
  split call (oracle-driven ops take no debt decisions) — irrelevant to the theorems here.
* **No dynamic tie of its own.**  `dynmodel` / `harness_dynroots` run the DynRoots model only, and
  the collector correspondence runs `GcArena.Op`s only; `GSys` is not executed against the crate.
  Its faithfulness to `src/dynamic_roots.rs` rests on reading (the table above, line by line against
  `stash` / `Drop` / `Clone` / `fetch` / `Collect for Inner`) plus the two component ties: the
  slot-table differential (C14) and the collector correspondence (C01–C11).
* Trusted as before: `ref_count` does not overflow; `Weak::as_ptr` of a dropped `Rc` never equals
  `Rc::as_ptr` of a live one (set ids are never reused).

The file ends with the two histories that the examples of Props/C14s.lean and Props/C01s.lean run
(`C14s.gdemo` for this system, `C14s.demo` for the pinned one) and the facts evaluated about them.
-/
namespace GcArena.DynReach
open GcArena GcArena.DynCompose
open GcArena.DynRoots (Handle RootSet Slots State containsB)

/-- Every op that leaves the arena alive, except a `store` into `x`: `x`, if it is still allocated and
undestructed afterwards, was so before and has the slot list and `needs_trace` flag it had —
reachable or not, whatever its colour. -/
theorem step_rigid {a : Arena} (h : Inv a) (op : Op) (hal : (a.step op).1.alive = true) (x : Nat)
    (hst : ∀ path i v, op ≠ .store path x i v) {o o' : Obj} (ho : a.ctx.heap.get x = some o)
    (ho' : (a.step op).1.ctx.heap.get x = some o') (hl : o'.live = true) :
    o.live = true ∧ o'.slots = o.slots ∧ o'.needsTrace = o.needsTrace := by
  rcases step_kind h op hal with hop | rel
  · obtain ⟨o1, ho1, s, n, l⟩ :=
      mutStep_keepAt (a := { a with marked := false }) (step_mutStep h.alive hop) hst o ho
    rw [ho'] at ho1; cases ho1
    exact ⟨by rw [← l]; exact hl, s, n⟩
  · obtain ⟨o0, ho0, hl0, s, n⟩ := (rel.liveFrame h).back x o' ho' hl
    rw [ho] at ho0; cases ho0
    exact ⟨hl0, s, n⟩

/-! The one primitive that is not an `Arena.step`: replacing a slot list by one that holds no new
pointer -/

/-- Replace the slot list of object `x`.  Used only with a list that holds no pointer the old one
did not hold (`inv_reslot`): growing the list by an empty slot (`Vec::push` reallocating the slot
table inside the set object) and clearing a slot (`DynamicRoot::drop`). -/
def reslot (a : Arena) (x : Nat) (ss : List Slot) : Arena :=
  match a.ctx.heap.get x with
  | some o => { a with ctx := a.ctx.setObj x { o with slots := ss } }
  | none => a

theorem reslot_eq {a : Arena} {x : Nat} {o : Obj} (ho : a.ctx.heap.get x = some o) (ss : List Slot) :
    reslot a x ss = { a with ctx := a.ctx.setObj x { o with slots := ss } } := by
  simp [reslot, ho]

/-- Replacing the slot list of an undestructed object by one that holds no new pointer preserves the
collector invariant — in every phase, inside or outside callbacks, with or without a `MarkedArena`
outstanding; no barrier is needed. -/
theorem inv_reslot {a : Arena} (h : Inv a) {x : Nat} {o : Obj} (ho : a.ctx.heap.get x = some o)
    (hl : o.live = true) {ss : List Slot} (hsub : ∀ q, some q ∈ ss → some q ∈ o.slots) :
    Inv (reslot a x ss) := by
  rw [reslot_eq ho]
  have hc : CInv (a.ctx.setObj x { o with slots := ss }) a.root a.temps :=
    setSlots_spec h.cinv ho ss (fun q hq => .inl (hsub q hq)) (fun hd => by rw [hl] at hd; cases hd)
  exact ⟨h.alive, hc, fun cv hcv => CoverOK.setSlots ho ss (h.cover cv hcv), h.cbTemps,
    h.finMark, h.rootCb, h.markedMark⟩


/-! No resurrection: an id below the heap size never (re)gains an undestructed object -/

/-- The heap does not shrink, and an object that is allocated and undestructed afterwards at an id
that existed before was allocated and undestructed before. -/
def Mono (c c' : Ctx) : Prop :=
  c.heap.size ≤ c'.heap.size ∧
  ∀ x o', x < c.heap.size → c'.heap.get x = some o' → o'.live = true →
    ∃ o, c.heap.get x = some o ∧ o.live = true

theorem Mono.refl (c : Ctx) : Mono c c := ⟨Nat.le_refl _, fun _ o' _ h hl => ⟨o', h, hl⟩⟩

theorem Mono.trans {a b c : Ctx} (h1 : Mono a b) (h2 : Mono b c) : Mono a c := by
  refine ⟨Nat.le_trans h1.1 h2.1, fun x o2 hx ho2 hl2 => ?_⟩
  obtain ⟨o1, ho1, hl1⟩ := h2.2 x o2 (Nat.lt_of_lt_of_le hx h1.1) ho2 hl2
  exact h1.2 x o1 hx ho1 hl1

theorem mono_of_quiet {c c' : Ctx} (q : Quiet c c') : Mono c c' := by
  refine ⟨q.sizeLe, fun x o' hx ho' hl => ?_⟩
  rcases q.noNew x o' ho' with ⟨o, ho⟩ | ⟨hge, _⟩
  · obtain ⟨o2, ho2, hl2⟩ := q.keep x o ho
    rw [ho'] at ho2; cases ho2
    exact ⟨o, ho, by rw [← hl2]; exact hl⟩
  · omega

theorem mono_of_liveFrame {c c' : Ctx} (h : LiveFrame c c') : Mono c c' :=
  ⟨Nat.le_of_eq h.size.symm, fun x o' _ ho' hl => by
    obtain ⟨o, ho, hl0, _⟩ := h.back x o' ho' hl
    exact ⟨o, ho, hl0⟩⟩

theorem step_mono {a : Arena} (h : Inv a) (op : Op) (hal : (a.step op).1.alive = true) :
    Mono a.ctx (a.step op).1.ctx := by
  rcases step_kind h op hal with hop | rel
  · exact mono_of_quiet (step_quiet h op hop)
  · exact mono_of_liveFrame (rel.liveFrame h)

/-- What `Collect for Slot` reports, as a slot of the collector model. -/
def img : DynRoots.Slot → Slot
  | .occupied r _ => some (.strong r)
  | .vacant _ => none

/-- `x` is allocated and its value has not been destructed (and the arena exists). -/
def objLive (a : Arena) (x : Nat) : Bool :=
  a.alive && (match a.ctx.heap.get x with | some o => o.live | none => false)

structure GSys where
  a : Arena
  d : State
  /-- `loc[s] = some x`: set `s` belongs to this arena and `x` is its set object (`Gc<Inner>`);
  `loc[s] = none`: set `s` belongs to some other arena (environment) -/
  loc : List (Option Nat)
  /-- ghost: the DynRoots-model ops executed so far -/
  dops : List DynRoots.Op
  deriving Repr

def GSys.init (n : Nat) : GSys := ⟨Arena.new n, State.init, [], []⟩

def GSys.doD (S : GSys) (op : DynRoots.Op) : GSys :=
  { S with d := DynRoots.next S.d op, dops := S.dops ++ [op] }

def GSys.doDs (S : GSys) (ops : List DynRoots.Op) : GSys := ops.foldl GSys.doD S

def GSys.ids (S : GSys) : List Nat := S.loc.filterMap id

/-- Collector-model ops a client can interleave: everything except a `store` into a set object
(`Inner.slots` is private to `dynamic_roots.rs`). -/
def GSys.allowed (S : GSys) : Op → Bool
  | .store _ p _ _ => !S.ids.contains p
  | _ => true

/-- Set `s` belongs to this arena and its set object has been destructed (swept, or the arena
dropped): `Inner::drop` has dropped the `Rc<RefCell<Slots>>`. -/
def GSys.gone (S : GSys) (s : Nat) : Bool :=
  match S.loc[s]? with
  | some (some x) => !objLive S.a x
  | _ => false

/-- `destroySet` for every set of this arena whose set object has been destructed. -/
def GSys.sync (S : GSys) : GSys :=
  S.doDs (((List.range S.loc.length).filter S.gone).map .destroySet)

/-- `stash`, collector side: `backward_barrier(set, Some(r))`; if `Slots::add` pushes (index = current
length) the set object's slot list grows by one empty slot; then the slot store, licensed by the
barrier's cover. -/
def stashArena (a : Arena) (x r idx : Nat) : Arena :=
  let a1 := (a.step (.barrier (.bb x (some r)))).1
  let a2 := match a1.ctx.heap.get x with
    | some o => if idx < o.slots.length then a1 else reslot a1 x (o.slots ++ [none])
    | none => a1
  (a2.step (.store .raw x idx (some (.strong r)))).1

/-- `DynamicRoot::drop` of the last handle of a slot, collector side: slot `i` of the set object :=
`None`.  No callback, no barrier, `marked` untouched. -/
def clearArena (a : Arena) (x i : Nat) : Arena := { a with ctx := Arena.setSlot a.ctx x i none }

inductive GOp where
  /-- `DynamicRootSet::new(mc)` inside any callback; the new set pointer is held by the callback,
  which may store it anywhere (or nowhere) with ordinary ops -/
  | newSet
  | stash (s r : Nat)
  | clone (h : Handle)
  | dropHandle (h : Handle)
  | fetch (s : Nat) (h : Handle)
  | tryFetch (s : Nat) (h : Handle)
  | contains (s : Nat) (h : Handle)
  /-- any collector-model op, followed by `destroySet` for every set whose object it destructed -/
  | gc (op : Op)
  /-- environment: a set is created in another arena -/
  | envNewSet
  /-- environment: another arena stashes (its own object `r`) into its own set `s` -/
  | envStash (s r : Nat)
  /-- environment: another arena's set `s` is destructed -/
  | envDestroy (s : Nat)
  deriving Repr, Inhabited

def GSys.fetchLike (S : GSys) (s : Nat) (h : Handle) (dop : DynRoots.Op) : GSys :=
  match S.loc[s]? with
  | some (some x) =>
    if S.a.alive && S.a.cb.isSome && S.a.holds (.strong x) && decide (h ∈ S.d.handles)
        && (S.d.liveSet s).isSome && containsB s h then
      ({ S with a := (S.a.step (.read x h.index)).1 } : GSys).doD dop
    else S.doD dop
  | _ => S.doD dop

def GSys.step (S : GSys) : GOp → GSys
  | .newSet =>
    if S.a.alive && S.a.cb.isSome then
      ({ S with a := (S.a.step (.alloc true [])).1,
                loc := S.loc ++ [some S.a.ctx.heap.fresh] } : GSys).doD .newSet
    else S
  | .stash s r =>
    match S.loc[s]?, S.d.liveSet s with
    | some (some x), some rs =>
      match rs.slots.add r with
      | .ok (_, idx) =>
        if S.a.alive && S.a.cb.isSome && S.a.holds (.strong x) && S.a.holds (.strong r) then
          ({ S with a := stashArena S.a x r idx } : GSys).doD (.stash s r)
        else S
      | .error _ => S
    | _, _ => S
  | .clone h => S.doD (.clone h)
  | .dropHandle h =>
    if h ∈ S.d.handles then
      match S.loc[h.set]?, S.d.liveSet h.set with
      | some (some x), some rs =>
        match rs.slots.slots[h.index]? with
        | some (.occupied _ 0) =>
          ({ S with a := clearArena S.a x h.index } : GSys).doD (.dropHandle h)
        | _ => S.doD (.dropHandle h)
      | _, _ => S.doD (.dropHandle h)
    else S
  | .fetch s h => S.fetchLike s h (.fetch s h)
  | .tryFetch s h => S.fetchLike s h (.tryFetch s h)
  | .contains s h => S.doD (.contains s h)
  | .gc op => if S.allowed op then ({ S with a := (S.a.step op).1 } : GSys).sync else S
  | .envNewSet => ({ S with loc := S.loc ++ [none] } : GSys).doD .newSet
  | .envStash s r => if S.loc[s]? = some none then S.doD (.stash s r) else S
  | .envDestroy s => if S.loc[s]? = some none then S.doD (.destroySet s) else S

def GSys.run (S : GSys) : List GOp → GSys
  | [] => S
  | op :: ops => GSys.run (S.step op) ops


/-- `x` is allocated, undestructed, traced, and has exactly the slot list `ss`. -/
def IsSetObj (a : Arena) (x : Nat) (ss : List Slot) : Prop :=
  ∃ o, a.ctx.heap.get x = some o ∧ o.live = true ∧ o.needsTrace = true ∧ o.slots = ss

/-- **The coupling relation (general system).**  The slot-table side is a run of the DynRoots model;
the arena satisfies the collector invariant while it exists; and **for every set of this arena
that is alive in the DynRoots state** the arena exists and the set object is allocated,
undestructed, traced, and its slot list is *exactly* the image of the slot table: slot `i` is
`some (strong r)` if table slot `i` is `Occupied { root = r, .. }`, `none` if it is `Vacant` — same
length, no capacity.  Nothing is said about where the set object is referenced from. -/
structure GCore (S : GSys) : Prop where
  dyn : S.d = DynRoots.run State.init S.dops
  inv : S.a.alive = true → Inv S.a
  len : S.loc.length = S.d.sets.length
  sets : ∀ (s x : Nat) (rs : RootSet), S.loc[s]? = some (some x) → S.d.liveSet s = some rs →
    S.a.alive = true ∧ IsSetObj S.a x (rs.slots.slots.map img)
  distinct : ∀ (s s' x : Nat) (rs rs' : RootSet), S.loc[s]? = some (some x) →
    S.loc[s']? = some (some x) → S.d.liveSet s = some rs → S.d.liveSet s' = some rs' → s = s'

theorem GCore.init (n : Nat) : GCore (GSys.init n) :=
  ⟨rfl, fun _ => inv_init n, rfl, fun _ _ _ h => (nomatch h), fun _ _ _ _ _ h => (nomatch h)⟩

theorem objLive_iff {a : Arena} {x : Nat} :
    objLive a x = true ↔ a.alive = true ∧ ∃ o, a.ctx.heap.get x = some o ∧ o.live = true := by
  unfold objLive
  cases h : a.ctx.heap.get x <;> simp

/-- A set object without spare capacity: the pinned system's `mirror` at the table's own length. -/
theorem mirror_self (l : List DynRoots.Slot) : mirror l.length l = l.map img := by
  apply List.ext_getElem?
  intro i
  rw [mirror_getElem?, List.getElem?_map]
  by_cases hi : i < l.length
  · rw [if_pos hi, List.getElem?_eq_getElem hi]
    cases l[i] <;> rfl
  · rw [if_neg hi, List.getElem?_eq_none (Nat.le_of_not_lt hi)]; rfl

theorem mem_map_img {sl : Slots} {p : Nat} :
    some (Ptr.strong p) ∈ sl.slots.map img ↔ p ∈ sl.traced := by
  rw [← mirror_self]; exact mem_mirror (Nat.le_refl _)

theorem GSys.doDs_spec (ops : List DynRoots.Op) : ∀ S : GSys,
    (S.doDs ops).a = S.a ∧ (S.doDs ops).loc = S.loc ∧
    (S.doDs ops).d = DynRoots.run S.d ops ∧ (S.doDs ops).dops = S.dops ++ ops := by
  induction ops with
  | nil => intro S; simp [GSys.doDs, DynRoots.run]
  | cons op ops ih =>
    intro S
    obtain ⟨h1, h2, h4, h5⟩ := ih (S.doD op)
    refine ⟨h1, h2, h4, ?_⟩
    show ((S.doD op).doDs ops).dops = _
    rw [h5]; simp [GSys.doD]

theorem GSys.sync_spec (S : GSys) :
    S.sync.a = S.a ∧ S.sync.loc = S.loc ∧ S.sync.d.sets.length = S.d.sets.length ∧
    (∃ ops, S.sync.d = DynRoots.run S.d ops ∧ S.sync.dops = S.dops ++ ops) ∧
    ∀ s, S.sync.d.liveSet s = if S.gone s = true then none else S.d.liveSet s := by
  obtain ⟨s1, s2, s3, s4⟩ := S.doDs_spec (((List.range S.loc.length).filter S.gone).map .destroySet)
  obtain ⟨r1, _, rl⟩ := run_destroy ((List.range S.loc.length).filter S.gone) S.d
  refine ⟨s1, s2, by unfold GSys.sync; rw [s3, r1], ⟨_, s3, s4⟩, fun s => ?_⟩
  unfold GSys.sync
  rw [s3, rl]
  -- a `gone` set has an entry in `loc`
  have : s ∈ (List.range S.loc.length).filter S.gone ↔ S.gone s = true := by
    rw [List.mem_filter, List.mem_range]
    refine ⟨fun h => h.2, fun h => ⟨?_, h⟩⟩
    unfold GSys.gone at h
    split at h
    · rename_i hl; exact DynRoots.lt_of_getElem?_some hl
    · cases h
  simp only [this]

theorem IsSetObj.rc {a : Arena} {x : Nat} {ss : List Slot} (h : IsSetObj a x ss) {c' : Ctx}
    (hk : KeepAt x a.ctx c') {a' : Arena} (hctx : a'.ctx = c') : IsSetObj a' x ss := by
  unfold IsSetObj; rw [hctx]; exact setObj_keep hk h

theorem reslot_fields (a : Arena) (x : Nat) (ss : List Slot) :
    (reslot a x ss).temps = a.temps ∧ (reslot a x ss).cb = a.cb ∧ (reslot a x ss).cover = a.cover := by
  unfold reslot; split <;> exact ⟨rfl, rfl, rfl⟩

theorem reslot_spec {a : Arena} (hinv : Inv a) {x : Nat} {ss ss' : List Slot} (hx : IsSetObj a x ss)
    (hsub : ∀ q, some q ∈ ss' → some q ∈ ss) :
    Inv (reslot a x ss') ∧ IsSetObj (reslot a x ss') x ss' ∧
    (∀ y, y ≠ x → KeepAt y a.ctx (reslot a x ss').ctx) ∧ Mono a.ctx (reslot a x ss').ctx := by
  obtain ⟨o, ho, hl, hn, rfl⟩ := hx
  refine ⟨inv_reslot hinv ho hl hsub, ?_, fun y hy => .ofGet ?_, ?_, fun y o' _ ho' hl' => ?_⟩ <;>
    rw [reslot_eq ho] at *
  · exact ⟨{ o with slots := ss' }, by simp, hl, hn, rfl⟩
  · simp [hy]
  · rw [Ctx.setObj_size ho]; exact Nat.le_refl _
  · rw [Ctx.setObj_get] at ho'
    by_cases hy : y = x
    · subst hy; simp at ho'; subst ho'; exact ⟨o, ho, hl'⟩
    · simp [hy] at ho'; exact ⟨o', ho', hl'⟩

theorem holds_congr {a b : Arena} (h : b.temps = a.temps) (p : Ptr) : b.holds p = a.holds p := by
  simp [Arena.holds, h]

/-- Net effect of the collector side of `stash`, and that its three parts are accepted: the
invariant is kept, the set object's slot list becomes `ss` (grown by one empty slot if the index is
its length) with slot `idx` := `r`, every other object keeps its slot list. -/
theorem stashArena_spec {a : Arena} (hinv : Inv a) (hcb : a.cb ≠ none) {x r idx : Nat}
    {ss : List Slot} (hx : IsSetObj a x ss) (hhx : a.holds (.strong x) = true)
    (hhr : a.holds (.strong r) = true) (hidx : idx ≤ ss.length) :
    Inv (stashArena a x r idx) ∧
    IsSetObj (stashArena a x r idx) x
      ((if idx < ss.length then ss else ss ++ [none]).set idx (some (.strong r))) ∧
    (∀ y, y ≠ x → KeepAt y a.ctx (stashArena a x r idx).ctx) ∧
    Mono a.ctx (stashArena a x r idx).ctx := by
  have halive := hinv.alive
  -- 1. the barrier
  have e1 := step_barrier_bb halive hcb hhx hhr
  have inv1 : Inv (a.step (.barrier (.bb x (some r)))).1 :=
    inv_step hinv _ (by rw [e1]; exact halive)
  have m1 : Mono a.ctx (a.step (.barrier (.bb x (some r)))).1.ctx := step_mono hinv _ (by rw [e1]; exact halive)
  unfold stashArena
  simp only
  generalize h1 : (a.step (.barrier (.bb x (some r)))).1 = a1 at e1 inv1 m1
  have c1 : a1.ctx = a.ctx.backwardBarrier x (some r) := by rw [e1]
  have t1 : a1.temps = a.temps := by rw [e1]
  have cb1 : a1.cb = a.cb := by rw [e1]
  have cov1 : a1.cover = .pair x r :: a.cover := by rw [e1]
  have k1 : ∀ y, KeepAt y a.ctx a1.ctx := fun y => by rw [c1]; exact keepAt_backwardBarrier _ _ _ y
  have x1 : IsSetObj a1 x ss := hx.rc (k1 x) rfl
  obtain ⟨o1, ho1, hl1, hn1, hs1⟩ := x1
  simp only [ho1]
  -- 2. growth
  have step2 : ∃ a2 : Arena, (if idx < o1.slots.length then a1 else reslot a1 x (o1.slots ++ [none])) = a2 ∧
      Inv a2 ∧ IsSetObj a2 x (if idx < ss.length then ss else ss ++ [none]) ∧
      (∀ y, y ≠ x → KeepAt y a1.ctx a2.ctx) ∧ a2.temps = a1.temps ∧
      a2.cb = a1.cb ∧ a2.cover = a1.cover ∧ Mono a1.ctx a2.ctx := by
    by_cases hlt : idx < ss.length
    · have hlt' : idx < o1.slots.length := by rw [hs1]; exact hlt
      refine ⟨a1, by simp [hlt'], inv1, ?_, fun y _ => KeepAt.refl y _, rfl, rfl, rfl, Mono.refl _⟩
      simp only [hlt, if_true]; exact ⟨o1, ho1, hl1, hn1, hs1⟩
    · have hlt' : ¬ idx < o1.slots.length := by rw [hs1]; exact hlt
      obtain ⟨f2, f3, f4⟩ := reslot_fields a1 x (o1.slots ++ [none])
      obtain ⟨i2, x2, k2, m2⟩ := reslot_spec inv1 ⟨o1, ho1, hl1, hn1, rfl⟩ (ss' := o1.slots ++ [none])
        (fun q hq => by simpa using hq)
      refine ⟨_, by simp [hlt'], i2, ?_, k2, f2, f3, f4, m2⟩
      simp only [hlt, if_false]; rw [← hs1]; exact x2
  obtain ⟨a2, ha2, inv2, x2, k2, t2, cb2, cov2, m2⟩ := step2
  rw [ha2]
  -- 3. the store
  obtain ⟨o2, ho2, hl2, hn2, hs2⟩ := x2
  have hlen : idx < (if idx < ss.length then ss else ss ++ [none]).length := by
    split
    · assumption
    · simp; omega
  have e3 := step_store_raw (a := a2) (x := x) (i := idx) (v := some (.strong r)) (o := o2)
    inv2.alive (by rw [cb2, cb1]; exact hcb)
    (by rw [holds_congr (t2.trans t1)]; exact hhx)
    (by show a2.holds (.strong r) = true; rw [holds_congr (t2.trans t1)]; exact hhr)
    ho2 (by rw [hs2]; exact hlen) hn2 (by simp [Arena.coverOK, cov2, cov1])
  have inv3 : Inv (a2.step (.store .raw x idx (some (.strong r)))).1 :=
    inv_step inv2 _ (by rw [e3]; exact inv2.alive)
  have m3 : Mono a2.ctx (a2.step (.store .raw x idx (some (.strong r)))).1.ctx :=
    step_mono inv2 _ (by rw [e3]; exact inv2.alive)
  refine ⟨inv3, ?_, ?_, (m1.trans m2).trans m3⟩
  · rw [e3]
    exact setObj_setSlot idx _ ⟨o2, ho2, hl2, hn2, hs2⟩
  · intro y hy
    rw [e3]
    exact ((k1 y).trans (k2 y hy)).trans (keepAt_setSlot _ _ _ _ hy)

theorem clearArena_spec {a : Arena} (hinv : Inv a) {x i : Nat} {ss : List Slot} (hx : IsSetObj a x ss) :
    Inv (clearArena a x i) ∧ IsSetObj (clearArena a x i) x (ss.set i none) ∧
    (∀ y, y ≠ x → KeepAt y a.ctx (clearArena a x i).ctx) ∧ Mono a.ctx (clearArena a x i).ctx := by
  have e : clearArena a x i = reslot a x (ss.set i none) := by
    obtain ⟨o, ho, _, _, rfl⟩ := hx
    rw [reslot_eq ho]; unfold clearArena; rw [setSlot_eq ho]
  rw [e]
  exact reslot_spec hinv hx (fun q hq => (mem_set_slot hq).resolve_right (fun h => by cases h))


theorem GCore.doD_run {S : GSys} (hc : GCore S) (op : DynRoots.Op) :
    DynRoots.next S.d op = DynRoots.run State.init (S.dops ++ [op]) := by
  rw [dyn_run_snoc, ← hc.dyn]

theorem liveSet_back {d d' : State} (hT : SameTables d d') {s : Nat} {rs' : RootSet}
    (h : d'.liveSet s = some rs') :
    ∃ rs, d.liveSet s = some rs ∧ rs'.slots.slots.map img = rs.slots.slots.map img := by
  obtain ⟨hs, ha⟩ := DynRoots.liveSet_eq_some.1 h
  obtain ⟨rs, hrs, hal, hlen, himg⟩ := hT.2 s rs' hs
  exact ⟨rs, DynRoots.liveSet_eq_some.2 ⟨hrs, by rw [← hal]; exact ha⟩, by rw [← mirror_self, ← mirror_self, hlen, mirror_congr himg]⟩

/-- A DynRoots op that changes no table image, with the arena as it is. -/
theorem GCore.doD_same {S : GSys} (hc : GCore S) (op : DynRoots.Op)
    (hT : SameTables S.d (DynRoots.next S.d op)) : GCore (S.doD op) := by
  refine ⟨hc.doD_run op, hc.inv, hc.len.trans hT.1.symm, ?_, ?_⟩
  · intro s x rs' hl hs
    obtain ⟨rs, hrs, hm⟩ := liveSet_back hT hs
    rw [hm]; exact hc.sets s x rs hl hrs
  · intro s s' x rs rs' hl hl' hs hs'
    obtain ⟨r1, h1, _⟩ := liveSet_back hT hs
    obtain ⟨r2, h2, _⟩ := liveSet_back hT hs'
    exact hc.distinct s s' x r1 r2 hl hl' h1 h2

theorem GCore.mutStep {S : GSys} (hc : GCore S) (op : Op) (hop : op.isMutator = true)
    (hst : ∀ (s x : Nat), S.loc[s]? = some (some x) → ∀ path i v, op ≠ .store path x i v) :
    GCore ({ S with a := (S.a.step op).1 } : GSys) := by
  cases hal : S.a.alive with
  | false =>
    rw [step_dead hal]; exact hc
  | true =>
    have hinv := hc.inv hal
    have hal' := step_alive hinv op (by rintro rfl; cases hop)
    refine ⟨hc.dyn, fun _ => inv_step hinv op hal', hc.len, fun s x rs hl hs => ⟨hal', ?_⟩, hc.distinct⟩
    exact (hc.sets s x rs hl hs).2.rc
      (mutStep_keepAt (a := { S.a with marked := false }) (step_mutStep hal hop) (hst s x hl)) rfl

/-- **Any collector-model op followed by `sync`.**  Sets of this arena whose object the op
destructed are destroyed; every other alive set of this arena still has its object, with the same
slot list — whatever the op did to colours, and whether or not the object is reachable. -/
theorem GCore.gc {S : GSys} (hc : GCore S) {op : Op} (hal : S.allowed op = true) :
    GCore (({ S with a := (S.a.step op).1 } : GSys).sync) := by
  obtain ⟨sa, sl, slen, ⟨ops, sd, so⟩, sls⟩ := GSys.sync_spec ({ S with a := (S.a.step op).1 } : GSys)
  have back : ∀ (s : Nat) (rs' : RootSet),
      ({ S with a := (S.a.step op).1 } : GSys).sync.d.liveSet s = some rs' →
      S.d.liveSet s = some rs' ∧ ({ S with a := (S.a.step op).1 } : GSys).gone s = false := by
    intro s rs' h
    rw [sls] at h
    split at h
    · cases h
    · rename_i hg; exact ⟨h, by simpa using hg⟩
  refine ⟨?_, ?_, ?_, ?_, ?_⟩
  · rw [sd, so, DynRoots.run_append]; exact congrArg (DynRoots.run · ops) hc.dyn
  · rw [sa]
    intro h
    cases hal0 : S.a.alive with
    | false => rw [step_dead hal0 op, hal0] at h; cases h
    | true => exact inv_step (hc.inv hal0) op h
  · rw [sl, slen]; exact hc.len
  · intro s x rs' hl hs
    rw [sl] at hl
    change S.loc[s]? = some (some x) at hl
    obtain ⟨hs0, hng⟩ := back s rs' hs
    obtain ⟨hal0, o, ho, hlive, hnt, hss⟩ := hc.sets s x rs' hl hs0
    -- `s` was not destroyed, so its object is still there, undestructed
    have hlive' : objLive (S.a.step op).1 x = true := by
      unfold GSys.gone at hng
      rw [show ({ S with a := (S.a.step op).1 } : GSys).loc[s]? = some (some x) from hl] at hng
      simpa using hng
    obtain ⟨hal1, o', ho', hget⟩ := objLive_iff.1 hlive'
    rw [sa]
    refine ⟨hal1, ?_⟩
    -- and the op kept its slot list
    have hst : ∀ path i v, op ≠ .store path x i v := by
      rintro path i v rfl
      have hid : x ∈ S.ids := List.mem_filterMap.2 ⟨some x, List.mem_of_getElem? hl, rfl⟩
      simp [GSys.allowed] at hal; exact hal hid
    obtain ⟨_, hs', hn'⟩ := step_rigid (hc.inv hal0) op hal1 x hst ho ho' hget
    exact ⟨o', ho', hget, by rw [hn', hnt], by rw [hs', hss]⟩
  · intro s s' x rs rs' hl hl' hs hs'
    rw [sl] at hl hl'
    exact hc.distinct s s' x rs rs' hl hl' (back s rs hs).1 (back s' rs' hs').1

/-- A fresh, empty set is appended to the slot-table state, and `e` to `loc`: `none` for a set of
another arena, `some x` for a newly allocated, empty set object `x`; the arena keeps the object of
every alive set of the arena. -/
theorem GCore.addSet {S : GSys} (hc : GCore S) {a' : Arena} {e : Option Nat}
    (hinv : a'.alive = true → Inv a')
    (hold : ∀ (s y : Nat) (rs : RootSet), S.loc[s]? = some (some y) → S.d.liveSet s = some rs →
      a'.alive = true ∧ IsSetObj a' y (rs.slots.slots.map img))
    (hnew : ∀ x, e = some x → (a'.alive = true ∧ IsSetObj a' x []) ∧ S.a.ctx.heap.get x = none) :
    GCore (({ S with a := a', loc := S.loc ++ [e] } : GSys).doD .newSet) := by
  -- an entry of the new `loc` with a set alive afterwards is an old entry with its old set, or the new one
  have cases : ∀ (s y : Nat) (rs : RootSet), (S.loc ++ [e])[s]? = some (some y) →
      (DynRoots.next S.d .newSet).liveSet s = some rs →
      (S.loc[s]? = some (some y) ∧ S.d.liveSet s = some rs) ∨
      (s = S.loc.length ∧ e = some y ∧ rs = ⟨true, Slots.new⟩) := by
    intro s y rs hl hs
    rw [next_newSet_liveSet] at hs
    rcases getElem?_append_one hl with ⟨hlt, h0⟩ | ⟨he, h2⟩
    · rw [if_neg (by rw [← hc.len]; exact Nat.ne_of_lt hlt)] at hs
      exact .inl ⟨h0, hs⟩
    · rw [if_pos (by rw [he, hc.len])] at hs
      exact .inr ⟨he, h2.symm, (Option.some.inj hs).symm⟩
  refine ⟨hc.doD_run .newSet, hinv, ?_, ?_, ?_⟩
  · show (S.loc ++ [e]).length = (DynRoots.next S.d .newSet).sets.length
    rw [next_newSet]; simp [hc.len]
  · intro s y rs hl hs
    rcases cases s y rs hl hs with ⟨hl0, hs0⟩ | ⟨_, he, rfl⟩
    · exact hold s y rs hl0 hs0
    · exact (hnew y he).1
  · intro s s' y rs rs' hl hl' hs hs'
    rcases cases s y rs hl hs with ⟨hl0, hs0⟩ | ⟨hlen, he, _⟩ <;>
      rcases cases s' y rs' hl' hs' with ⟨hl0', hs0'⟩ | ⟨hlen', he', _⟩
    · exact hc.distinct s s' y rs rs' hl0 hl0' hs0 hs0'
    · obtain ⟨_, o, ho, _⟩ := hc.sets s y rs hl0 hs0
      rw [(hnew y he').2] at ho; cases ho
    · obtain ⟨_, o, ho, _⟩ := hc.sets s' y rs' hl0' hs0'
      rw [(hnew y he).2] at ho; cases ho
    · rw [hlen, hlen']

theorem GCore.newSet {S : GSys} (hc : GCore S) (hal : S.a.alive = true) (hcb : S.a.cb ≠ none) :
    GCore (({ S with a := (S.a.step (.alloc true [])).1,
                        loc := S.loc ++ [some S.a.ctx.heap.fresh] } : GSys).doD .newSet) := by
  have hinv := hc.inv hal
  have e1 : (S.a.step (.alloc true [])).1 = _ := step_alloc_empty hal hcb 0
  have hctx : (S.a.step (.alloc true [])).1.ctx = (S.a.ctx.link (emptySetObj 0)).1 := by
    rw [e1, Arena.push_ctx]
  have hal' : (S.a.step (.alloc true [])).1.alive = true :=
    step_alive hinv _ (by intro e; cases e)
  refine hc.addSet (fun _ => inv_step hinv _ hal')
    (fun s y rs hl hs => ⟨hal', (hc.sets s y rs hl hs).2.rc (keepAt_link _ _ y) hctx⟩) ?_
  intro x hx
  cases hx
  refine ⟨⟨hal', emptySetObj 0, ?_, rfl, rfl, rfl⟩, Heap.get_fresh _⟩
  rw [hctx]; simp [Ctx.link]

/-- The slot-table side replaces the table of the alive set `s` (set object `x`); the arena side
gives `x` the image of the new table as its slot list and keeps every other object. -/
theorem GCore.setTable {S : GSys} (hc : GCore S) {s x : Nat} {rs : RootSet} {sl : Slots}
    {a' : Arena} {op : DynRoots.Op} (hl : S.loc[s]? = some (some x)) (hls : S.d.liveSet s = some rs)
    (hsets : (DynRoots.next S.d op).sets = S.d.sets.set s { rs with slots := sl })
    (inv' : Inv a') (hx' : IsSetObj a' x (sl.slots.map img))
    (keep' : ∀ y, y ≠ x → KeepAt y S.a.ctx a'.ctx) :
    GCore (({ S with a := a' } : GSys).doD op) := by
  obtain ⟨hsl, hralive⟩ := DynRoots.liveSet_eq_some.1 hls
  -- alive sets after the op
  have lsNew : ∀ s', (DynRoots.next S.d op).liveSet s' =
      if s' = s then some { rs with slots := sl } else S.d.liveSet s' := by
    intro s'
    rw [DynRoots.liveSet_set hsets (DynRoots.lt_of_getElem?_some hsl)]
    by_cases he : s' = s
    · rw [if_pos he, if_pos he]; exact if_pos hralive
    · rw [if_neg he, if_neg he]
  have old : ∀ (t : Nat) (rt : RootSet), (DynRoots.next S.d op).liveSet t = some rt →
      ∃ rt0, S.d.liveSet t = some rt0 := by
    intro t rt h
    rw [lsNew] at h
    split at h
    · subst t; exact ⟨rs, hls⟩
    · exact ⟨rt, h⟩
  refine ⟨hc.doD_run _, fun _ => inv', ?_, ?_, ?_⟩
  · show S.loc.length = (DynRoots.next S.d op).sets.length
    rw [hsets, List.length_set]; exact hc.len
  · intro s' y rs' hl' hs'
    change S.loc[s']? = some (some y) at hl'
    change (DynRoots.next S.d op).liveSet s' = some rs' at hs'
    refine ⟨inv'.alive, ?_⟩
    show IsSetObj a' y _
    rw [lsNew] at hs'
    split at hs'
    · subst s'; cases hs'; rw [hl] at hl'; cases hl'; exact hx'
    · rename_i hne
      obtain ⟨_, hy⟩ := hc.sets s' y rs' hl' hs'
      have hyx : y ≠ x := by
        rintro rfl
        exact hne (hc.distinct s' s y rs' rs hl' hl hs' hls)
      exact hy.rc (keep' y hyx) rfl
  · intro s1 s2 y r1 r2 hl1 hl2 hs1 hs2
    obtain ⟨q1, h1⟩ := old s1 r1 hs1
    obtain ⟨q2, h2⟩ := old s2 r2 hs2
    exact hc.distinct s1 s2 y q1 q2 hl1 hl2 h1 h2

theorem GCore.stash {S : GSys} (hc : GCore S) {s x r idx : Nat} {rs : RootSet} {sl : Slots}
    (hl : S.loc[s]? = some (some x)) (hls : S.d.liveSet s = some rs)
    (ha : rs.slots.add r = .ok (sl, idx)) (hcb : S.a.cb ≠ none)
    (hhx : S.a.holds (.strong x) = true) (hhr : S.a.holds (.strong r) = true) :
    GCore (({ S with a := stashArena S.a x r idx } : GSys).doD (.stash s r)) := by
  obtain ⟨hal, hx⟩ := hc.sets s x rs hl hls
  have hcases := add_cases ha
  have hidx : idx ≤ (rs.slots.slots.map img).length := by rw [List.length_map]; exact add_idx_le ha
  obtain ⟨inv', x', keep', _⟩ := stashArena_spec (hc.inv hal) hcb hx hhx hhr hidx
  have hmirror : sl.slots.map img =
      (if idx < (rs.slots.slots.map img).length then rs.slots.slots.map img
        else rs.slots.slots.map img ++ [none]).set idx (some (.strong r)) := by
    rcases hcases with ⟨h, e⟩ | ⟨h, e⟩
    · have : idx < (rs.slots.slots.map img).length := by simpa using h
      rw [if_pos this, e, List.map_set]; rfl
    · have : ¬ idx < (rs.slots.slots.map img).length := by simp; omega
      rw [if_neg this, e, h]
      simp [img]
  exact hc.setTable hl hls (by rw [next_stash_eq hls ha]) inv' (hmirror ▸ x') keep'

theorem GCore.dropVacating {S : GSys} (hc : GCore S) {h : Handle} {x r : Nat} {rs : RootSet}
    (hm : h ∈ S.d.handles) (hl : S.loc[h.set]? = some (some x)) (hls : S.d.liveSet h.set = some rs)
    (hv : rs.slots.slots[h.index]? = some (.occupied r 0)) :
    GCore (({ S with a := clearArena S.a x h.index } : GSys).doD (.dropHandle h)) := by
  obtain ⟨hal, hx⟩ := hc.sets h.set x rs hl hls
  obtain ⟨inv', x', keep', _⟩ := clearArena_spec (i := h.index) (hc.inv hal) hx
  refine hc.setTable hl hls (by rw [next_drop_eq hm hls hv]) inv' ?_ keep'
  rw [List.map_set]; exact x'

/-- Environment: a set of another arena is created. -/
theorem GCore.envNewSet {S : GSys} (hc : GCore S) :
    GCore (({ S with loc := S.loc ++ [none] } : GSys).doD .newSet) :=
  hc.addSet (a' := S.a) hc.inv hc.sets (fun _ h => by cases h)

/-- Environment: a DynRoots op on a set `t` of another arena. -/
theorem GCore.env {S : GSys} (hc : GCore S) (op : DynRoots.Op) (t : Nat)
    (hforeign : S.loc[t]? = some none) (hop : op ≠ .newSet) (ht : op.target = some t) :
    GCore (S.doD op) := by
  -- the op replaces at most the entry of `t`, which is no set of this arena
  have key : (DynRoots.next S.d op).sets.length = S.d.sets.length ∧
      ∀ s x, S.loc[s]? = some (some x) → (DynRoots.next S.d op).liveSet s = S.d.liveSet s := by
    rcases DynRoots.next_sets S.d op with e | ⟨e, _⟩ | ⟨t', rs, r, ht', hl, e, _⟩
    · exact ⟨by rw [e], fun s _ _ => DynRoots.liveSet_congr e s⟩
    · exact absurd e hop
    · rw [ht] at ht'; cases ht'
      refine ⟨by rw [e, List.length_set], fun s x hs => ?_⟩
      rw [DynRoots.liveSet_set e (DynRoots.lt_of_liveSet hl), if_neg]
      rintro rfl; rw [hforeign] at hs; cases hs
  refine ⟨hc.doD_run op, hc.inv, hc.len.trans key.1.symm, ?_, ?_⟩
  · intro s x rs hl hs
    exact hc.sets s x rs hl (key.2 s x hl ▸ hs)
  · intro s s' x rs rs' hl hl' hs hs'
    exact hc.distinct s s' x rs rs' hl hl' (key.2 s x hl ▸ hs) (key.2 s' x hl' ▸ hs')

/-- One rule per case of `GSys.step`, with what its guards established. -/
inductive GStep (S : GSys) : GOp → GSys → Prop
  /-- A guard failed. -/
  | same (op : GOp) : GStep S op S
  | newSet (hal : S.a.alive = true) (hcb : S.a.cb ≠ none) :
      GStep S .newSet (({ S with a := (S.a.step (.alloc true [])).1,
                                 loc := S.loc ++ [some S.a.ctx.heap.fresh] } : GSys).doD .newSet)
  | stash {s r x idx : Nat} {rs : RootSet} {sl : Slots} (hl : S.loc[s]? = some (some x))
      (hls : S.d.liveSet s = some rs) (ha : rs.slots.add r = .ok (sl, idx)) (hcb : S.a.cb ≠ none)
      (hx : S.a.holds (.strong x) = true) (hr : S.a.holds (.strong r) = true) :
      GStep S (.stash s r) (({ S with a := stashArena S.a x r idx } : GSys).doD (.stash s r))
  | clone (h : Handle) : GStep S (.clone h) (S.doD (.clone h))
  /-- A drop that vacates no slot of a set of this arena: no arena side. -/
  | drop (h : Handle) (hm : h ∈ S.d.handles)
      (hnv : ∀ x rs r, S.loc[h.set]? = some (some x) → S.d.liveSet h.set = some rs →
        rs.slots.slots[h.index]? ≠ some (.occupied r 0)) :
      GStep S (.dropHandle h) (S.doD (.dropHandle h))
  | dropVacating {h : Handle} {x r : Nat} {rs : RootSet} (hm : h ∈ S.d.handles)
      (hl : S.loc[h.set]? = some (some x)) (hls : S.d.liveSet h.set = some rs)
      (hv : rs.slots.slots[h.index]? = some (.occupied r 0)) :
      GStep S (.dropHandle h) (({ S with a := clearArena S.a x h.index } : GSys).doD (.dropHandle h))
  /-- `contains`, and a `fetch` / `try_fetch` without arena side: the slot-table state stays. -/
  | query (op : GOp) (dop : DynRoots.Op) (hq : DynRoots.next S.d dop = S.d) : GStep S op (S.doD dop)
  /-- `fetch` / `try_fetch` through the held set pointer. -/
  | read (op : GOp) (x i : Nat) (dop : DynRoots.Op) (hq : DynRoots.next S.d dop = S.d) :
      GStep S op (({ S with a := (S.a.step (.read x i)).1 } : GSys).doD dop)
  | gc (op : Op) (hal : S.allowed op = true) :
      GStep S (.gc op) ({ S with a := (S.a.step op).1 } : GSys).sync
  | envNewSet : GStep S .envNewSet (({ S with loc := S.loc ++ [none] } : GSys).doD .newSet)
  | envStash (s r : Nat) (hf : S.loc[s]? = some none) : GStep S (.envStash s r) (S.doD (.stash s r))
  | envDestroy (s : Nat) (hf : S.loc[s]? = some none) : GStep S (.envDestroy s) (S.doD (.destroySet s))

theorem GSys.fetchLike_spec (S : GSys) (op : GOp) (s : Nat) (h : Handle) (dop : DynRoots.Op)
    (hq : DynRoots.next S.d dop = S.d) : GStep S op (S.fetchLike s h dop) := by
  unfold GSys.fetchLike
  split
  · split
    · exact .read op _ _ dop hq
    · exact .query op dop hq
  · exact .query op dop hq

theorem GSys.step_spec (S : GSys) (op : GOp) : GStep S op (S.step op) := by
  have cbne : S.a.cb.isSome = true → S.a.cb ≠ none := fun h e => by rw [e] at h; cases h
  cases op with
  | newSet =>
    simp only [GSys.step]
    split
    · rename_i hg
      simp only [Bool.and_eq_true] at hg
      exact .newSet hg.1 (cbne hg.2)
    · exact .same _
  | stash s r =>
    simp only [GSys.step]
    split
    · rename_i x rs hl hls
      split
      · rename_i sl idx ha
        split
        · rename_i hg
          simp only [Bool.and_eq_true] at hg
          exact .stash hl hls ha (cbne hg.1.1.2) hg.1.2 hg.2
        · exact .same _
      · exact .same _
    · exact .same _
  | clone h => exact .clone h
  | dropHandle h =>
    simp only [GSys.step]
    split
    · rename_i hm
      split
      · rename_i x rs hl hls
        split
        · rename_i r hv; exact .dropVacating hm hl hls hv
        · rename_i hnv
          refine .drop h hm (fun x' rs' r' hl' hls' => ?_)
          rw [hls] at hls'; cases hls'; exact hnv r'
      · rename_i hnone
        exact .drop h hm (fun x rs r hl hls => absurd hls (hnone x rs hl))
    · exact .same _
  | fetch s h => exact S.fetchLike_spec _ s h _ (DynRoots.next_fetch _ _ _)
  | tryFetch s h => exact S.fetchLike_spec _ s h _ (DynRoots.next_tryFetch _ _ _)
  | contains s h => exact .query _ _ (DynRoots.next_contains _ _ _)
  | gc op =>
    simp only [GSys.step]
    split
    · rename_i hal; exact .gc op hal
    · exact .same _
  | envNewSet => exact .envNewSet
  | envStash s r =>
    simp only [GSys.step]
    split
    · rename_i hf; exact .envStash s r hf
    · exact .same _
  | envDestroy s =>
    simp only [GSys.step]
    split
    · rename_i hf; exact .envDestroy s hf
    · exact .same _

/-- The coupled drop of a live handle: the slot-table side is the DynRoots step; the arena is as it
was, or one slot of a set object has been cleared. -/
theorem GSys.step_dropHandle (S : GSys) {h : Handle} (hm : h ∈ S.d.handles) :
    ∃ a', S.step (.dropHandle h) = ({ S with a := a' } : GSys).doD (.dropHandle h) ∧
      (a' = S.a ∨ ∃ x, a' = clearArena S.a x h.index) := by
  simp only [GSys.step, if_pos hm]
  split
  · split
    · exact ⟨_, rfl, .inr ⟨_, rfl⟩⟩
    · exact ⟨_, rfl, .inl rfl⟩
  · exact ⟨_, rfl, .inl rfl⟩

theorem GCore.ofStep {S S' : GSys} {op : GOp} (hc : GCore S) (st : GStep S op S') : GCore S' := by
  have query : ∀ {T : GSys} {dop}, GCore T → DynRoots.next T.d dop = T.d → GCore (T.doD dop) :=
    fun hT hq => hT.doD_same _ (by rw [hq]; exact SameTables.refl _)
  cases st with
  | same => exact hc
  | newSet hal hcb => exact hc.newSet hal hcb
  | stash hl hls ha hcb hx hr => exact hc.stash hl hls ha hcb hx hr
  | clone h => exact hc.doD_same _ (next_clone_same _ _)
  | drop h hm hnv =>
    by_cases hv : Vacates S.d h
    · -- the slot vacated belongs to a set of another arena, whose table the relation does not read
      obtain ⟨_, rs, r, hls, hv'⟩ := hv
      have hlt : h.set < S.loc.length := by
        rw [hc.len]; exact DynRoots.lt_of_liveSet hls
      cases hloc : S.loc[h.set]? with
      | none => rw [List.getElem?_eq_getElem hlt] at hloc; cases hloc
      | some ox =>
        cases ox with
        | some x => exact absurd hv' (hnv x rs r hloc hls)
        | none =>
          exact hc.env _ h.set hloc (by intro e; cases e) rfl
    · exact hc.doD_same _ (next_drop_same _ _ hv)
  | dropVacating hm hl hls hv => exact hc.dropVacating hm hl hls hv
  | query op dop hq => exact query hc hq
  | read op x i dop hq => exact query (hc.mutStep _ rfl (fun _ _ _ path i v e => by cases e)) hq
  | gc op hal => exact hc.gc hal
  | envNewSet => exact hc.envNewSet
  | envStash s r hf => exact hc.env _ s hf (by intro e; cases e) rfl
  | envDestroy s hf => exact hc.env _ s hf (by intro e; cases e) rfl

theorem GCore.step {S : GSys} (hc : GCore S) (op : GOp) : GCore (S.step op) :=
  hc.ofStep (S.step_spec op)

theorem GCore.run (ops : List GOp) : ∀ {S : GSys}, GCore S → GCore (S.run ops) := by
  induction ops with
  | nil => intro S hc; exact hc
  | cons op ops ih => intro S hc; exact ih (hc.step op)


/-- `arena.finish_cycle()` as an op of the general system. -/
def gfc : GOp := .gc (.collect .finishCycle .drop none none)

theorem GSys.sync_a (S : GSys) : S.sync.a = S.a := S.sync_spec.1

theorem GCore.finishCycle {S : GSys} (hc : GCore S) (hal : S.a.alive = true)
    (hcb : S.a.cb = none) :
    (S.step gfc).a.ctx = (S.a.ctx.doCollection S.a.root .stop .finishCycle none).1 ∧
    (S.step gfc).a.root = S.a.root ∧ (S.step gfc).a.cb = none ∧ (S.step gfc).a.alive = true := by
  have e : S.step gfc =
      ({ S with a := (S.a.step (.collect .finishCycle .drop none none)).1 } : GSys).sync := by
    simp [GSys.step, gfc, GSys.allowed]
  rw [e, GSys.sync_a]
  show (S.a.step _).1.ctx = _ ∧ (S.a.step _).1.root = _ ∧ (S.a.step _).1.cb = _ ∧ (S.a.step _).1.alive = _
  rw [step_finishCycle (hc.inv hal) hcb]
  exact ⟨rfl, rfl, hcb, hal⟩


/-! The full relation: a set of the arena is alive in the slot-table state **iff** its object is
allocated and undestructed -/

/-- **The coupling relation of the general system.**  `GCore` (the slot-table side is a run of the
DynRoots model; `Inv` while the arena exists; a set of the arena that is alive in the slot-table
state has an allocated, undestructed set object whose slot list is exactly the image of its table),
and conversely (`live`): **a set of the arena whose object is allocated and undestructed is alive in
the slot-table state** — `sync` destroys only sets whose object is gone, and a destructed or
released id never holds an undestructed object again (`bound`, `Mono`).  `deadEmpty`: a dropped
arena has no root and no held pointer, so nothing is accessible in it. -/
structure GCoupled (S : GSys) : Prop extends GCore S where
  bound : S.a.alive = true → ∀ (s x : Nat), S.loc[s]? = some (some x) → x < S.a.ctx.heap.size
  live : ∀ (s x : Nat), S.loc[s]? = some (some x) → objLive S.a x = true →
    ∃ rs, S.d.liveSet s = some rs
  deadEmpty : S.a.alive = false → S.a.root = [] ∧ S.a.temps = []

theorem GCoupled.init (n : Nat) : GCoupled (GSys.init n) :=
  { toGCore := GCore.init n
    bound := fun _ _ _ h => (nomatch h)
    live := fun _ _ h => (nomatch h)
    deadEmpty := fun h => (nomatch h) }

/-- An op that ends the arena's life is an accepted `dropArena`: no callback runs, nothing is held. -/
theorem step_dead_empty {a : Arena} (h : Inv a) (op : Op) (hd : (a.step op).1.alive = false) :
    (a.step op).1.root = [] ∧ (a.step op).1.temps = [] := by
  by_cases hda : op = .dropArena
  · subst hda
    rcases step_dropArena h.alive with ⟨_, e⟩ | ⟨hcb, e⟩ <;> rw [e] at hd ⊢
    · rw [show ({ a with marked := false } : Arena).alive = a.alive from rfl, h.alive] at hd; cases hd
    · exact ⟨rfl, h.cbTemps hcb⟩
  · rw [step_alive h op hda] at hd; cases hd

/-- How a step of the general system moves the arena: not at all; or it ends its life, and then
nothing is held; or the arena stays alive, no id is reused and no destructed object comes back. -/
def Moved (a a' : Arena) : Prop :=
  a' = a ∨ (a.alive = true ∧ a'.alive = false ∧ a'.root = [] ∧ a'.temps = []) ∨
    (a.alive = true ∧ a'.alive = true ∧ Mono a.ctx a'.ctx)

theorem moved_step {a : Arena} (hinv : a.alive = true → Inv a) (op : Op) : Moved a (a.step op).1 := by
  cases hal : a.alive with
  | false => exact .inl (step_dead hal op)
  | true =>
    cases hal' : (a.step op).1.alive with
    | false => exact .inr (.inl ⟨hal, hal', step_dead_empty (hinv hal) op hal'⟩)
    | true => exact .inr (.inr ⟨hal, hal', step_mono (hinv hal) op hal'⟩)

/-- The three extra clauses, for a step that moves the arena as `Moved` says, adds to `loc` at most
entries of new, alive sets whose object is allocated, and ends the life of no set of the arena whose
object is still undestructed. -/
theorem GCoupled.extras {S S' : GSys} (hc : GCoupled S) (core : GCore S') (hmove : Moved S.a S'.a)
    (hloc : ∀ s x, S'.loc[s]? = some (some x) → S.loc[s]? = some (some x) ∨
      (x < S'.a.ctx.heap.size ∧ ∃ rs, S'.d.liveSet s = some rs))
    (hd : ∀ (s x : Nat) (rs : RootSet), S.loc[s]? = some (some x) → S.d.liveSet s = some rs →
      objLive S'.a x = true → ∃ rs', S'.d.liveSet s = some rs') : GCoupled S' := by
  refine { toGCore := core, bound := ?_, live := ?_, deadEmpty := ?_ }
  · intro hal s x hl
    rcases hloc s x hl with hl0 | ⟨hlt, _⟩
    · rcases hmove with e | ⟨_, h2, _⟩ | ⟨h1, _, hm⟩
      · rw [e] at hal ⊢; exact hc.bound hal s x hl0
      · rw [h2] at hal; cases hal
      · exact Nat.lt_of_lt_of_le (hc.bound h1 s x hl0) hm.1
    · exact hlt
  · intro s x hl hlive
    rcases hloc s x hl with hl0 | ⟨_, hrs⟩
    · -- an old set object that is undestructed after the step was so before
      have hlive0 : objLive S.a x = true := by
        rcases hmove with e | ⟨_, h2, _⟩ | ⟨h1, _, hm⟩
        · rw [e] at hlive; exact hlive
        · rw [(objLive_iff.1 hlive).1] at h2; cases h2
        · obtain ⟨_, o', ho', hl'⟩ := objLive_iff.1 hlive
          obtain ⟨o, ho, hl0'⟩ := hm.2 x o' (hc.bound h1 s x hl0) ho' hl'
          exact objLive_iff.2 ⟨h1, o, ho, hl0'⟩
      obtain ⟨rs, hrs⟩ := hc.live s x hl0 hlive0
      exact hd s x rs hl0 hrs hlive
    · exact hrs
  · intro hal
    rcases hmove with e | ⟨_, _, h3, h4⟩ | ⟨_, h2, _⟩
    · rw [e] at hal ⊢; exact hc.deadEmpty hal
    · exact ⟨h3, h4⟩
    · rw [h2] at hal; cases hal

/-- A step whose slot-table side is one DynRoots op that destroys no set of the arena, and which
keeps `loc`. -/
theorem GCoupled.doD_keep {S : GSys} (hc : GCoupled S) {a' : Arena} (op : DynRoots.Op)
    (core : GCore (({ S with a := a' } : GSys).doD op)) (hmove : Moved S.a a')
    (hne : ∀ (s x : Nat), S.loc[s]? = some (some x) → op ≠ .destroySet s) :
    GCoupled (({ S with a := a' } : GSys).doD op) :=
  hc.extras core hmove (fun _ _ hl => .inl hl)
    (fun s x rs hl hrs _ => DynRoots.next_alive S.d op s rs (hne s x hl) hrs)

theorem GCoupled.ofStep {S S' : GSys} {op : GOp} (hc : GCoupled S) (st : GStep S op S') :
    GCoupled S' := by
  have core : GCore S' := hc.toGCore.ofStep st
  have nd : ∀ {dop : DynRoots.Op}, (∀ t, dop ≠ .destroySet t) →
      ∀ (s x : Nat), S.loc[s]? = some (some x) → dop ≠ .destroySet s := fun h s _ _ => h s
  have keep : ∀ {dop : DynRoots.Op}, DynRoots.next S.d dop = S.d → ∀ (s x : Nat) (rs : RootSet),
      S.loc[s]? = some (some x) → S.d.liveSet s = some rs → objLive S'.a x = true →
      ∃ rs', (DynRoots.next S.d dop).liveSet s = some rs' :=
    fun hq s _ rs _ h _ => ⟨rs, by rw [hq]; exact h⟩
  cases st with
  | same => exact hc
  | newSet hal hcb =>
    have hfresh : S.a.ctx.heap.fresh < (S.a.step (.alloc true [])).1.ctx.heap.size := by
      have e1 : (S.a.step (.alloc true [])).1 = _ := step_alloc_empty hal hcb 0
      rw [e1, Arena.push_ctx]
      exact Heap.lt_size_of_get _ _ (emptySetObj 0) (by simp [Ctx.link])
    refine hc.extras core (moved_step hc.inv _) (fun s x hl => ?_)
      (fun s x rs _ hrs _ => DynRoots.next_alive S.d .newSet s rs (by intro e; cases e) hrs)
    rcases getElem?_append_one (l := S.loc) hl with ⟨_, h0⟩ | ⟨he, h2⟩
    · exact .inl h0
    · cases h2
      refine .inr ⟨hfresh, ⟨true, Slots.new⟩, ?_⟩
      show (DynRoots.next S.d .newSet).liveSet s = _
      rw [next_newSet_liveSet, if_pos (by rw [he, hc.len])]
  | @stash s r x idx rs sl hl hls ha hcb hx hr =>
    obtain ⟨hal, hobj⟩ := hc.sets s x rs hl hls
    have hidx : idx ≤ (rs.slots.slots.map img).length := by rw [List.length_map]; exact add_idx_le ha
    obtain ⟨inv', _, _, hm⟩ := stashArena_spec (hc.inv hal) hcb hobj hx hr hidx
    exact hc.doD_keep _ core (.inr (.inr ⟨hal, inv'.alive, hm⟩)) (nd (by intro t e; cases e))
  | clone h => exact hc.doD_keep (a' := S.a) _ core (.inl rfl) (nd (by intro t e; cases e))
  | drop h => exact hc.doD_keep (a' := S.a) _ core (.inl rfl) (nd (by intro t e; cases e))
  | dropVacating hm hl hls hv =>
    obtain ⟨hal, hobj⟩ := hc.sets _ _ _ hl hls
    exact hc.doD_keep _ core (.inr (.inr ⟨hal, hal, (clearArena_spec (hc.inv hal) hobj).2.2.2⟩))
      (nd (by intro t e; cases e))
  | query op dop hq =>
    exact hc.extras core (.inl rfl) (fun _ _ hl => .inl hl) (keep hq)
  | read op x i dop hq =>
    exact hc.extras core (moved_step hc.inv _) (fun _ _ hl => .inl hl) (keep hq)
  | gc op hal =>
    obtain ⟨sa, sl, _, _, sls⟩ := GSys.sync_spec ({ S with a := (S.a.step op).1 } : GSys)
    refine hc.extras core (by rw [sa]; exact moved_step hc.inv op)
      (fun s x hl => .inl (sl ▸ hl)) (fun s x rs hl hrs hlive => ⟨rs, ?_⟩)
    -- the object of `s` is undestructed, so `s` is not `gone` and `sync` leaves it alone
    rw [sa] at hlive
    have hng : ({ S with a := (S.a.step op).1 } : GSys).gone s = false := by
      simp only [GSys.gone, hl, hlive]; rfl
    rw [sls, hng]; exact hrs
  | envNewSet =>
    refine hc.extras core (.inl rfl) (fun s x hl => ?_)
      (fun s x rs _ hrs _ => DynRoots.next_alive S.d .newSet s rs (by intro e; cases e) hrs)
    rcases getElem?_append_one (l := S.loc) hl with ⟨_, h0⟩ | ⟨_, h2⟩
    · exact .inl h0
    · cases h2
  | envStash s r hf => exact hc.doD_keep (a' := S.a) _ core (.inl rfl) (nd (by intro t e; cases e))
  | envDestroy s hf =>
    refine hc.doD_keep (a' := S.a) _ core (.inl rfl) (fun s' x hl e => ?_)
    cases e; rw [hf] at hl; cases hl

theorem GCoupled.step {S : GSys} (hc : GCoupled S) (op : GOp) : GCoupled (S.step op) :=
  hc.ofStep (S.step_spec op)

theorem GCoupled.run (ops : List GOp) : ∀ {S : GSys}, GCoupled S → GCoupled (S.run ops) := by
  induction ops with
  | nil => intro S hc; exact hc
  | cons op ops ih => intro S hc; exact ih (hc.step op)

/-- **A set of the arena is alive in the slot-table state iff its object is allocated and
undestructed** (and the arena exists). -/
theorem GCoupled.alive_iff {S : GSys} (hc : GCoupled S) {s x : Nat} (hl : S.loc[s]? = some (some x)) :
    (∃ rs, S.d.liveSet s = some rs) ↔ objLive S.a x = true := by
  constructor
  · rintro ⟨rs, hrs⟩
    obtain ⟨hal, o, ho, hlive, _⟩ := hc.sets s x rs hl hrs
    exact objLive_iff.2 ⟨hal, o, ho, hlive⟩
  · exact hc.live s x hl

/-- A set object the client can reach belongs to a set that is alive in the slot-table state (and the
arena exists): accessible ⇒ allocated and undestructed (`Inv`) ⇒ not destroyed (`live`). -/
theorem GCoupled.alive_of_accessible {S : GSys} (hc : GCoupled S) {s x : Nat}
    (hl : S.loc[s]? = some (some x)) (hacc : Accessible S.a x) :
    S.a.alive = true ∧ ∃ rs, S.d.liveSet s = some rs := by
  have hal : S.a.alive = true := by
    cases h : S.a.alive with
    | true => rfl
    | false =>
      exfalso
      obtain ⟨hr, ht⟩ := hc.deadEmpty h
      have : ∀ j, Accessible S.a j → False := by
        intro j hj
        induction hj with
        | root t h1 => rw [hr] at h1; cases h1
        | temp t h1 => rw [ht] at h1; cases h1
        | edge _ _ _ _ ih => exact ih
      exact this x hacc
  obtain ⟨o, ho, hlive, _⟩ := (hc.inv hal).safe_of_accessible hacc
  exact ⟨hal, hc.live s x hl (objLive_iff.2 ⟨hal, o, ho, hlive⟩)⟩

theorem GCoupled.finishCycle {S : GSys} (hc : GCoupled S) (hal : S.a.alive = true)
    (hcb : S.a.cb = none) :
    (S.step gfc).a.ctx = (S.a.ctx.doCollection S.a.root .stop .finishCycle none).1 ∧
    (S.step gfc).a.root = S.a.root ∧ (S.step gfc).a.cb = none ∧ (S.step gfc).a.alive = true :=
  hc.toGCore.finishCycle hal hcb

/-! A handle dropped by a destructor during a sweep step -/

/-- The two contexts agree on every field other than the heap and on every heap cell (`Heap.get`);
the heap sizes are not compared. -/
structure CtxEq (c c' : Ctx) : Prop where
  phase : c.phase = c'.phase
  heap : ∀ j, c.heap.get j = c'.heap.get j
  pre : c.pre = c'.pre
  rest : c.rest = c'.rest
  rnt : c.rootNeedsTrace = c'.rootNeedsTrace
  gray : c.gray = c'.gray
  grayAgain : c.grayAgain = c'.grayAgain
  metrics : c.metrics = c'.metrics
  log : c.log = c'.log
  steps : c.steps = c'.steps
  err : c.err = c'.err

/-- `sweep_one` reads the heap at the cursor only and writes it there only: run on another heap
that agrees at the cursor, it makes the same write `W` (if any) and treats every other field alike. -/
theorem sweepOne_local (c : Ctx) (h' : Heap)
    (hcur : ∀ i0 r, c.rest = i0 :: r → h'.get i0 = c.heap.get i0) :
    ∃ W : Heap → Heap, (W = id ∨ ∃ i0 r v, c.rest = i0 :: r ∧ W = fun h => h.set i0 v) ∧
      c.sweepOne.1.heap = W c.heap ∧
      ({ c with heap := h' } : Ctx).sweepOne = ({ c.sweepOne.1 with heap := W h' }, c.sweepOne.2) := by
  cases c with | mk ph hp pre rest rnt g ga m lg st er =>
  cases rest with
  | nil => exact ⟨id, .inl rfl, rfl, rfl⟩
  | cons i0 r =>
    have hc : h'.get i0 = hp.get i0 := hcur i0 r rfl
    unfold Ctx.sweepOne
    dsimp only [Ctx.step, Ctx.emit, Ctx.withMetrics, Ctx.setObj]
    rw [hc]
    cases hp.get i0 with
    | none => exact ⟨id, .inl rfl, Ctx.fail_heap _ _, by cases er <;> rfl⟩
    | some o0 =>
      obtain ⟨col, nt, lv, sl⟩ := o0
      cases col with
      | gray => exact ⟨id, .inl rfl, Ctx.fail_heap _ _, by cases er <;> rfl⟩
      | black => exact ⟨_, .inr ⟨i0, r, _, rfl, rfl⟩, rfl, rfl⟩
      | white => cases lv <;> exact ⟨_, .inr ⟨i0, r, _, rfl, rfl⟩, rfl, rfl⟩
      | whiteWeak => cases lv <;> exact ⟨_, .inr ⟨i0, r, _, rfl, rfl⟩, rfl, rfl⟩

/-- Any store into a slot of `x` commutes with a sweep step whose cursor is not at `x`. -/
theorem setSlot_commutes_sweepOne (c : Ctx) (x i : Nat) (v : Slot) (o : Obj) (ho : c.heap.get x = some o)
    (hne : ∀ i0 rest', c.rest = i0 :: rest' → i0 ≠ x) :
    CtxEq (Arena.setSlot c x i v).sweepOne.1 (Arena.setSlot c.sweepOne.1 x i v) ∧
    (Arena.setSlot c x i v).sweepOne.2 = c.sweepOne.2 := by
  obtain ⟨W, hW, hheap, hs⟩ := sweepOne_local c (c.heap.set x (some { o with slots := o.slots.set i v }))
    (fun i0 r hr => Heap.get_set_ne _ _ _ _ (hne i0 r hr))
  -- the write of the sweep step, if any, goes to the cursor, not to `x`
  have hoff : ∀ (h : Heap), (W h).get x = h.get x ∧
      ∀ (s : Option Obj) (j : Nat), (W (h.set x s)).get j = ((W h).set x s).get j := by
    intro h
    rcases hW with rfl | ⟨i0, r, w, hr, rfl⟩
    · exact ⟨rfl, fun _ _ => rfl⟩
    · have hi0 := hne i0 r hr
      refine ⟨Heap.get_set_ne _ _ _ _ (Ne.symm hi0), fun s j => ?_⟩
      simp only [Heap.get_set]
      by_cases hj : j = i0
      · simp [hj, hi0]
      · simp [hj]
  have hx : c.sweepOne.1.heap.get x = some o := by rw [hheap, (hoff _).1]; exact ho
  rw [setSlot_eq ho, setSlot_eq hx]
  show CtxEq ({ c with heap := _ } : Ctx).sweepOne.1 _ ∧ ({ c with heap := _ } : Ctx).sweepOne.2 = _
  rw [hs]
  refine ⟨⟨rfl, fun j => ?_, rfl, rfl, rfl, rfl, rfl, rfl, rfl, rfl, rfl⟩, rfl⟩
  show (W _).get j = (c.sweepOne.1.heap.set x _).get j
  rw [hheap]; exact (hoff _).2 _ j

/-- **Clearing a slot of `x` commutes with a sweep step whose cursor is not at `x`**: the two orders
give contexts that agree on every field other than the heap and on every heap cell (`CtxEq`), and
the same control flow.  So a handle dropped by the destructor of the object `i0 ≠ x` that `sweep_one`
is destructing — the clearing then happens in the middle of that `sweep_one` — leaves the state that
"`sweepStep`, then `dropHandle`" leaves in the general system (split the collection call there into
two oracle-driven `collect` ops).
If the cursor is at `x` itself and `x` is destructed, the set is destroyed (`sync`), its `Rc` is gone
and the drop clears nothing. -/
theorem clear_commutes_sweepOne (c : Ctx) (x i : Nat) (o : Obj) (ho : c.heap.get x = some o)
    (hne : ∀ i0 rest', c.rest = i0 :: rest' → i0 ≠ x) :
    CtxEq (Arena.setSlot c x i none).sweepOne.1 (Arena.setSlot c.sweepOne.1 x i none) ∧
    (Arena.setSlot c x i none).sweepOne.2 = c.sweepOne.2 :=
  setSlot_commutes_sweepOne c x i none o ho hne

end GcArena.DynReach

/-! The histories of the examples of Props/C14s.lean and Props/C01s.lean, and the states the theorems
are applied in there, evaluated once -/

namespace GcArena.C14s
open GcArena GcArena.DynCompose GcArena.DynReach
open GcArena.DynRoots (Handle)

/-- Root → object 0 → set object 1 (the set is **not** in a root slot); object 2 stashed (the slot list
grows from `[]`); `finish_marking` keeping the `MarkedArena`; the only handle of object 2 is dropped
**while the `MarkedArena` is outstanding**; the `finalize` callback reads its way to the set, stashes
a fresh white object 3 into the black set (slot 0 is reused) and fetches it; two `finish_cycle`
calls; then the set is unlinked from object 0 and two more `finish_cycle` calls sweep it. -/
def gdemo : List GOp := [
  .gc (.enter .mutateRoot), .gc (.alloc true [none]), .gc (.rootStore 0 (some (.strong 0))),
  .newSet, .gc (.store .write 0 0 (some (.strong 1))),
  .gc (.alloc true [none]), .stash 0 2, .gc .leave,
  .gc (.collect .finishMarking .finalize none none),
  .dropHandle ⟨0, 0, 2, 0⟩,
  .gc (.enter .finalize), .gc (.readRoot 0), .gc (.read 0 0), .gc (.alloc true [none]), .stash 0 3,
  .fetch 0 ⟨0, 0, 3, 1⟩, .gc .leave,
  gfc, gfc,
  .gc (.enter .mutate), .gc (.readRoot 0), .gc (.store .write 0 0 none), .gc .leave,
  gfc, gfc]

theorem gdemo15_facts :
    (⟨0, 0, 3, 1⟩ : Handle) ∈ ((GSys.init 1).run (gdemo.take 15)).d.handles ∧
    ((GSys.init 1).run (gdemo.take 15)).loc[0]? = some (some 1) ∧
    Ptr.strong 1 ∈ ((GSys.init 1).run (gdemo.take 15)).a.temps := by decide +kernel

/-- The state before the drop of the only handle of object 2 (`gdemo` op 10): root → 0 → set object 1
→ 2, the `MarkedArena` outstanding. -/
def beforeDrop : GSys := (GSys.init 1).run (gdemo.take 9)

theorem beforeDrop_facts :
    beforeDrop.a.root = [some (.strong 0)] ∧
    beforeDrop.a.ctx.heap.get 0 = some ⟨.black, true, true, [some (.strong 1)]⟩ ∧
    beforeDrop.a.ctx.heap.get 1 = some ⟨.black, true, true, [some (.strong 2)]⟩ ∧
    beforeDrop.d.handles = [⟨0, 0, 2, 0⟩] ∧ beforeDrop.loc[0]? = some (some 1) ∧
    beforeDrop.a.alive = true ∧ beforeDrop.a.cb = none := by decide +kernel

/-- Set 0 (object 0, two slots) in root slot 0; object 1 stashed; `finish_marking` (everything black,
phase `Mark`, nothing gray: "Marked"); then, in a `mutate` callback, a fresh white object 2 is stashed
into the **black** set; the callback ends; the only handle of object 1 is dropped **between two
collection calls, outside any callback**, while the re-grayed set object is still queued; two
`finish_cycle` calls. -/
def demo : List COp := [
  .gc (.enter .mutateRoot), .newSet 0 2, .gc (.alloc true [none]), .stash 0 1, .gc .leave,
  .gc (.collect .finishMarking .drop none none),
  .gc (.enter .mutate), .gc (.alloc true [none]), .stash 0 2, .gc .leave,
  .dropHandle ⟨0, 0, 1, 0⟩,
  fc, fc]

/-- The state right after the last handle of object 1 was dropped. -/
def afterDrop : Sys := (Sys.init 1).run (demo.take 11)

theorem afterDrop_facts :
    afterDrop.a.root = [some (.strong 0)] ∧
    afterDrop.a.ctx.heap.get 2 = some ⟨.white, true, true, [none]⟩ ∧
    afterDrop.d.liveSet 0 = some ⟨true, ⟨[.vacant DynRoots.nullIndex, .occupied 2 0], 0⟩⟩ ∧
    afterDrop.loc[0]? = some ⟨0, 0, 2⟩ ∧
    afterDrop.a.ctx.heap.get 0 = some ⟨.gray, true, true, [none, some (.strong 2)]⟩ ∧
    afterDrop.a.ctx.heap.get 1 = some ⟨.black, true, true, [none]⟩ ∧
    afterDrop.a.ctx.phase = .mark ∧ afterDrop.a.ctx.grayAgain = [0] ∧
    afterDrop.a.cb = none ∧ afterDrop.a.temps = [] ∧
    afterDrop.d.sets = [⟨true, ⟨[.vacant DynRoots.nullIndex, .occupied 2 0], 0⟩⟩] ∧
    afterDrop.d.handles = [⟨0, 1, 2, 1⟩] := by decide +kernel

end GcArena.C14s
