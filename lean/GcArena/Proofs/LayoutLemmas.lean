import GcArena.Model.Layout
/-!
  Behind `GcArena.Props.C17` / `C18`: arithmetic of `roundUp` and powers of two, what the `Layout`
  functions and `gcAlloc` return when they succeed (`Plan.Geometry`), frame facts for the memory
  cells, the mask algebra of the tagged vtable pointer, and `PtrKind.Ok` for the built-in kinds.
-/
namespace GcArena.Layout

theorem roundUp_dvd (n a : Nat) : a ∣ roundUp n a := by
  unfold roundUp; exact Nat.dvd_mul_left _ _

theorem roundUp_mod (n a : Nat) : roundUp n a % a = 0 :=
  Nat.mod_eq_zero_of_dvd (roundUp_dvd n a)

theorem roundUp_ge (n a : Nat) (h : 0 < a) : n ≤ roundUp n a := by
  unfold roundUp
  have h1 := Nat.div_add_mod (n + (a - 1)) a
  have h2 := Nat.mod_lt (n + (a - 1)) h
  have h3 : (n + (a - 1)) / a * a = a * ((n + (a - 1)) / a) := Nat.mul_comm _ _
  omega

theorem roundUp_lt (n a : Nat) (h : 0 < a) : roundUp n a < n + a := by
  unfold roundUp
  have h1 := Nat.div_add_mod (n + (a - 1)) a
  have h3 : (n + (a - 1)) / a * a = a * ((n + (a - 1)) / a) := Nat.mul_comm _ _
  omega

theorem roundUp_of_dvd (n a : Nat) (h : 0 < a) (hd : a ∣ n) : roundUp n a = n := by
  obtain ⟨c, rfl⟩ := hd
  unfold roundUp
  have : (a * c + (a - 1)) / a = c := by
    rw [Nat.mul_comm, Nat.add_comm, Nat.add_mul_div_right _ _ h, Nat.div_eq_of_lt (by omega)]; omega
  rw [this, Nat.mul_comm]

theorem roundUp_le_of_dvd (n a m : Nat) (h : 0 < a) (hd : a ∣ m) (hle : n ≤ m) : roundUp n a ≤ m := by
  obtain ⟨c, rfl⟩ := hd
  unfold roundUp
  have : (n + (a - 1)) / a ≤ c := by
    apply Nat.le_of_lt_succ
    rw [Nat.div_lt_iff_lt_mul h, Nat.succ_mul, Nat.mul_comm]
    omega
  calc (n + (a - 1)) / a * a ≤ c * a := Nat.mul_le_mul_right a this
    _ = a * c := Nat.mul_comm _ _

/-- For `a` dividing `M + 1`: if the rounded size is at most `M` it is a multiple of `a` below
`M + 1`, hence at most `M + 1 - a`, which leaves room for `n + (a - 1)`. -/
theorem add_le_iff_roundUp_le {n a M : Nat} (hpos : 0 < a) (hd : a ∣ M + 1) :
    n + (a - 1) ≤ M ↔ roundUp n a ≤ M := by
  constructor
  · intro h
    have := roundUp_lt n a hpos
    omega
  · intro h
    have := roundUp_ge n a hpos
    have := Nat.le_of_dvd (by omega) (Nat.dvd_sub hd (roundUp_dvd n a))
    omega

theorem isPow2_exists {a : Nat} (h : isPow2 a = true) : ∃ k, a = 2 ^ k := by
  unfold isPow2 at h
  have h' : 2 ^ a.log2 = a := by simpa using h
  exact ⟨a.log2, h'.symm⟩

theorem isPow2_pow (k : Nat) : isPow2 (2 ^ k) = true := by
  unfold isPow2
  simp [Nat.log2_two_pow]

theorem isPow2_pos {a : Nat} (h : isPow2 a = true) : 0 < a := by
  obtain ⟨k, rfl⟩ := isPow2_exists h
  exact Nat.pow_pos (by decide)

theorem isPow2_dvd {a b : Nat} (ha : isPow2 a = true) (hb : isPow2 b = true) (h : a ≤ b) : a ∣ b := by
  obtain ⟨i, rfl⟩ := isPow2_exists ha
  obtain ⟨j, rfl⟩ := isPow2_exists hb
  exact Nat.pow_dvd_pow 2 ((Nat.pow_le_pow_iff_right (by decide)).1 h)

theorem isPow2_max {a b : Nat} (ha : isPow2 a = true) (hb : isPow2 b = true) :
    isPow2 (max a b) = true := by
  rcases Nat.le_total a b with h | h
  · rw [Nat.max_eq_right h]; exact hb
  · rw [Nat.max_eq_left h]; exact ha

theorem dvd_max_left {a b : Nat} (ha : isPow2 a = true) (hb : isPow2 b = true) : a ∣ max a b :=
  isPow2_dvd ha (isPow2_max ha hb) (Nat.le_max_left a b)

theorem dvd_max_right {a b : Nat} (ha : isPow2 a = true) (hb : isPow2 b = true) : b ∣ max a b :=
  isPow2_dvd hb (isPow2_max ha hb) (Nat.le_max_right a b)

theorem extend_eq (maxSize : Nat) (l next : Layout) :
    extend maxSize l next =
      if (⟨roundUp l.size next.align + next.size, max l.align next.align⟩ : Layout).Valid maxSize
      then some (⟨roundUp l.size next.align + next.size, max l.align next.align⟩,
        roundUp l.size next.align)
      else none := by
  unfold extend fromSizeAlign
  by_cases h : (⟨roundUp l.size next.align + next.size, max l.align next.align⟩ : Layout).Valid
      maxSize
  · rw [if_pos h]; simp only [if_pos (show _ ∧ _ from h)]
  · rw [if_neg h]; simp only [if_neg (show ¬ (_ ∧ _) from h)]

theorem extend_eq_some {maxSize : Nat} {l next r : Layout} {off : Nat}
    (h : extend maxSize l next = some (r, off)) :
    off = roundUp l.size next.align ∧ r = ⟨off + next.size, max l.align next.align⟩ ∧
      r.Valid maxSize := by
  rw [extend_eq] at h
  split at h
  · next hv => cases h; exact ⟨rfl, rfl, hv⟩
  · cases h

/-- std's overflow test `n > max_size_for_align(align) / element_size`, without the division. -/
theorem array_eq {maxSize : Nat} {e : Layout} (n : Nat) (he : e.Valid maxSize) :
    array maxSize e n =
      if e.size * n + (e.align - 1) ≤ maxSize then some ⟨e.size * n, e.align⟩ else none := by
  have hv := he.2
  unfold array
  by_cases hz : e.size = 0
  · have : e.align - 1 ≤ maxSize := by omega
    simp [hz, this]
  · have hiff : n > (maxSize - (e.align - 1)) / e.size ↔ ¬ e.size * n + (e.align - 1) ≤ maxSize := by
      rw [gt_iff_lt, Nat.div_lt_iff_lt_mul (Nat.pos_of_ne_zero hz), Nat.mul_comm n]; omega
    simp only [ne_eq, hz, not_false_eq_true, true_and, hiff, ite_not]

theorem array_eq_some {maxSize : Nat} {e r : Layout} {n : Nat} (he : e.Valid maxSize)
    (h : array maxSize e n = some r) : r = ⟨e.size * n, e.align⟩ ∧ r.Valid maxSize := by
  rw [array_eq n he] at h
  split at h
  · rename_i hc; cases h; exact ⟨rfl, he.1, hc⟩
  · cases h

theorem array_isSome_iff {maxSize : Nat} {e : Layout} {n : Nat} (he : e.Valid maxSize) :
    (array maxSize e n).isSome = true ↔ e.size * n + (e.align - 1) ≤ maxSize := by
  rw [array_eq n he]
  split <;> simp [*]

theorem padToAlign_size_mod (l : Layout) : (padToAlign l).size % (padToAlign l).align = 0 := by
  unfold padToAlign; exact roundUp_mod _ _

theorem metaHeaderLayout_spec {maxSize : Nat} {pmeta hdr mhl : Layout}
    (hm : IsTypeLayout maxSize pmeta) (hh : IsTypeLayout maxSize hdr)
    (h : metaHeaderLayout maxSize pmeta hdr = some mhl) :
    mhl.align = max pmeta.align hdr.align ∧ isPow2 mhl.align = true ∧
      mhl.align ∣ mhl.size ∧ pmeta.size + hdr.size ≤ mhl.size ∧
      pmeta.align ∣ mhl.align ∧ hdr.align ∣ mhl.align := by
  unfold metaHeaderLayout at h
  split at h
  · rename_i l off he
    injection h with h
    subst h
    obtain ⟨hoff, hl, hv⟩ := extend_eq_some he
    subst hl
    have hpa := hm.1.1
    have hha := hh.1.1
    refine ⟨rfl, isPow2_max hpa hha, roundUp_dvd _ _, ?_, dvd_max_left hpa hha, dvd_max_right hpa hha⟩
    show pmeta.size + hdr.size ≤ roundUp (off + hdr.size) (max pmeta.align hdr.align)
    have h1 := roundUp_ge pmeta.size hdr.align (isPow2_pos hha)
    have h2 := roundUp_ge (off + hdr.size) (max pmeta.align hdr.align) (isPow2_pos (isPow2_max hpa hha))
    omega
  · cases h

theorem prefix_offset_dvd {hs ha va : Nat} (hha : isPow2 ha = true) (hva : isPow2 va = true)
    (hmul : ha ∣ hs) : va ∣ roundUp hs va ∧ ha ∣ roundUp hs va ∧ hs ≤ roundUp hs va := by
  refine ⟨roundUp_dvd _ _, ?_, roundUp_ge _ _ (isPow2_pos hva)⟩
  rcases Nat.le_total va ha with hle | hle
  · have : va ∣ hs := Nat.dvd_trans (isPow2_dvd hva hha hle) hmul
    rw [roundUp_of_dvd _ _ (isPow2_pos hva) this]; exact hmul
  · exact Nat.dvd_trans (isPow2_dvd hha hva hle) (roundUp_dvd _ _)

theorem gcAlloc_eq_some {maxSize : Nat} {hdr : Layout} {k : PtrKind} {ptrMeta : Nat} {p : Plan}
    (h : gcAlloc maxSize hdr k ptrMeta = some p) :
    metaHeaderLayout maxSize k.pmeta hdr = some p.mhl ∧ k.layoutOf ptrMeta = some p.value ∧
      prefixHeaderLayout maxSize p.mhl p.value = some (p.alloc, p.valueOff) := by
  unfold gcAlloc at h
  split at h
  · rename_i mhl v hm hv
    split at h
    · rename_i a off hp
      injection h with h
      subst h
      exact ⟨hm, hv, hp⟩
    · cases h
  · cases h

/-- The numeric facts about a successful `gcAlloc` from which every C17 layout theorem follows. -/
structure Plan.Geometry (hdr : Layout) (k : PtrKind) (p : Plan) : Prop where
  size_eq : p.alloc.size = p.valueOff + p.value.size
  mhl_le : p.mhl.size ≤ p.valueOff
  fits : k.pmeta.size + hdr.size ≤ p.mhl.size
  value_off : p.value.align ∣ p.valueOff
  mhl_off : p.mhl.align ∣ p.valueOff
  mhl_size : p.mhl.align ∣ p.mhl.size
  value_alloc : p.value.align ∣ p.alloc.align
  mhl_alloc : p.mhl.align ∣ p.alloc.align
  pmeta_mhl : k.pmeta.align ∣ p.mhl.align
  hdr_mhl : hdr.align ∣ p.mhl.align

theorem gcAlloc_geometry {maxSize : Nat} {hdr : Layout} {k : PtrKind} {ptrMeta : Nat} {p : Plan}
    (hk : k.Ok maxSize) (hh : IsTypeLayout maxSize hdr)
    (h : gcAlloc maxSize hdr k ptrMeta = some p) : p.Geometry hdr k := by
  obtain ⟨hm, hv, hp⟩ := gcAlloc_eq_some h
  obtain ⟨ha, hpow, hdvd, hsz, hpd, hhd⟩ := metaHeaderLayout_spec hk.pmeta hh hm
  have hval := hk.value _ _ hv
  unfold prefixHeaderLayout at hp
  split at hp
  · cases hp
  · obtain ⟨hoff, hl, _⟩ := extend_eq_some hp
    obtain ⟨o1, o2, o3⟩ := prefix_offset_dvd hpow hval.1 hdvd
    rw [← hoff] at o1 o2 o3
    exact ⟨by rw [hl], o3, hsz, o1, o2, hdvd, by rw [hl]; exact dvd_max_right hpow hval.1,
      by rw [hl]; exact dvd_max_left hpow hval.1, hpd, hhd⟩

theorem Plan.Geometry.hdr_le {hdr : Layout} {k : PtrKind} {p : Plan} (G : p.Geometry hdr k) :
    hdr.size ≤ p.valueOff :=
  Nat.le_trans (Nat.le_trans (Nat.le_add_left _ _) G.fits) G.mhl_le

theorem headerPtr_valuePtr {hdr : Layout} {p : Plan} (block : Nat) (h : hdr.size ≤ p.valueOff) :
    headerPtr hdr (valuePtr block p) = block + p.headerOff hdr :=
  Nat.add_sub_assoc h block

theorem metaPtr_valuePtr {p : Plan} (block : Nat) (h : p.mhl.size ≤ p.valueOff) :
    metaPtr p.mhl (valuePtr block p) = block + p.metaOff :=
  Nat.add_sub_assoc h block

theorem gcDealloc_of_gcAlloc {maxSize : Nat} {hdr : Layout} {k : PtrKind} {ptrMeta : Nat}
    {p : Plan} (value : Nat) (h : gcAlloc maxSize hdr k ptrMeta = some p) :
    gcDealloc maxSize hdr k value ptrMeta = some (value - p.valueOff, p.alloc) := by
  obtain ⟨hm, hv, hp⟩ := gcAlloc_eq_some h
  unfold gcDealloc
  rw [hm, hv]
  simp only [hp]

theorem mod_zero_of_dvd_add {a x y : Nat} (hx : a ∣ x) (hy : a ∣ y) : (x + y) % a = 0 :=
  Nat.mod_eq_zero_of_dvd (Nat.dvd_add hx hy)

theorem applyWrites_outside (ws : List (Nat × Nat)) (m : Nat → Nat) (a : Nat)
    (h : ∀ w ∈ ws, w.1 ≠ a) : applyWrites m ws a = m a := by
  induction ws generalizing m with
  | nil => rfl
  | cons w ws ih =>
    obtain ⟨x, v⟩ := w
    unfold applyWrites
    rw [ih _ (fun w hw => h w (List.mem_cons_of_mem _ hw))]
    have : x ≠ a := h (x, v) List.mem_cons_self
    exact if_neg (fun e => this e.symm)

theorem readCells_congr (m m' : Nat → Nat) (lo n : Nat)
    (h : ∀ a, lo ≤ a → a < lo + n → m a = m' a) : readCells m lo n = readCells m' lo n := by
  unfold readCells
  apply List.map_congr_left
  intro i hi
  have := List.mem_range.1 hi
  exact h _ (by omega) (by omega)

theorem readCells_writeCells (m : Nat → Nat) (lo : Nat) (vals : List Nat) :
    readCells (writeCells m lo vals) lo vals.length = vals := by
  unfold readCells writeCells
  apply List.ext_getElem
  · simp
  · intro i h1 h2
    have h3 : i < vals.length := by simpa using h1
    simp [h3, List.getD_eq_getElem?_getD]

theorem readPtrMeta_of_agree {m m0 : Nat → Nat} {enc : List Nat} {dec : List Nat → Nat}
    {mhl pmeta : Layout} {value x : Nat} (henc : enc.length = pmeta.size) (hdec : dec enc = x)
    (h : ∀ a, metaPtr mhl value ≤ a → a < metaPtr mhl value + pmeta.size →
      m a = writeCells m0 (metaPtr mhl value) enc a) :
    readPtrMeta m dec mhl pmeta value = x := by
  unfold readPtrMeta
  rw [readCells_congr _ _ _ _ h, ← henc, readCells_writeCells, hdec]

theorem compl_and (bits m : Nat) {m' : Nat} (h : m' < 2 ^ bits) :
    ((2 ^ bits - 1) ^^^ m) &&& m' = m' ^^^ (m &&& m') := by
  rw [Nat.and_xor_distrib_right, Nat.and_comm (2 ^ bits - 1), Nat.and_two_pow_sub_one_eq_mod,
    Nat.mod_eq_of_lt h]

/-- `tagSet` and `tagSetBool` compute `andNot bits w m ||| x` with `x` inside the mask `m`. -/
theorem field_store {bits w m x : Nat} (hw : w < 2 ^ bits) (hm : m < 2 ^ bits) (hx : x &&& m = x) :
    (andNot bits w m ||| x) &&& m = x ∧
    (∀ m', m' < 2 ^ bits → m &&& m' = 0 → (andNot bits w m ||| x) &&& m' = w &&& m') ∧
    (∀ M, M < 2 ^ bits → m &&& M = m → andNot bits (andNot bits w m ||| x) M = andNot bits w M) ∧
    andNot bits w m ||| x < 2 ^ bits := by
  have hxlt : x < 2 ^ bits := hx ▸ Nat.and_lt_two_pow x hm
  refine ⟨?_, fun m' hm' hd => ?_, fun M hM hs => ?_,
    Nat.or_lt_two_pow (Nat.lt_of_le_of_lt Nat.and_le_left hw) hxlt⟩
  · rw [andNot, Nat.and_or_distrib_right, Nat.and_assoc, compl_and bits m hm, Nat.and_self,
      Nat.xor_self, Nat.and_zero, Nat.zero_or, hx]
  · have hx' : x &&& m' = 0 := by rw [← hx, Nat.and_assoc, hd, Nat.and_zero]
    rw [andNot, Nat.and_or_distrib_right, Nat.and_assoc, compl_and bits m hm', hd, Nat.xor_zero,
      hx', Nat.or_zero]
  · have hN : (2 ^ bits - 1) ^^^ M < 2 ^ bits :=
      Nat.xor_lt_two_pow (Nat.sub_one_lt (Nat.pos_iff_ne_zero.1 (Nat.two_pow_pos bits))) hM
    have hmN : m &&& ((2 ^ bits - 1) ^^^ M) = 0 := by
      rw [Nat.and_comm, compl_and bits M hm, Nat.and_comm M, hs, Nat.xor_self]
    have hx' : x &&& ((2 ^ bits - 1) ^^^ M) = 0 := by rw [← hx, Nat.and_assoc, hmN, Nat.and_zero]
    rw [andNot, andNot, andNot, Nat.and_or_distrib_right, Nat.and_assoc, compl_and bits m hN, hmN,
      Nat.xor_zero, hx', Nat.or_zero]

theorem andNot_of_and_eq_zero {bits w m : Nat} (hw : w < 2 ^ bits) (h : w &&& m = 0) :
    andNot bits w m = w := by
  rw [andNot, Nat.and_xor_distrib_left, Nat.and_two_pow_sub_one_eq_mod, Nat.mod_eq_of_lt hw, h,
    Nat.xor_zero]

/-- `hmax`: `isize::MAX + 1` is a power of two. -/
theorem padToAlign_valid {maxSize : Nat} {l : Layout} (hmax : isPow2 (maxSize + 1) = true)
    (h : l.Valid maxSize) : (padToAlign l).Valid maxSize := by
  obtain ⟨hp, hs⟩ := h
  have hpos := isPow2_pos hp
  have hd : l.align ∣ maxSize + 1 := isPow2_dvd hp hmax (by omega)
  refine ⟨hp, ?_⟩
  show roundUp l.size l.align + (l.align - 1) ≤ maxSize
  rw [add_le_iff_roundUp_le hpos hd, roundUp_of_dvd _ _ hpos (roundUp_dvd _ _)]
  exact (add_le_iff_roundUp_le hpos hd).1 hs

theorem unitLayout_type (maxSize : Nat) : IsTypeLayout maxSize unitLayout :=
  ⟨⟨by decide, by simp [unitLayout]⟩, by simp [unitLayout]⟩

theorem sliceWithHeaderLayout_eq_some {maxSize : Nat} {h e v : Layout} {len : Nat}
    (he : IsTypeLayout maxSize e)
    (hs : sliceWithHeaderLayout maxSize h e len = some v) :
    ∃ l : Layout, l.Valid maxSize ∧ v = padToAlign l ∧
      l = ⟨sliceFieldOff h e + e.size * len, max h.align e.align⟩ ∧
      e.size * len + (e.align - 1) ≤ maxSize := by
  unfold sliceWithHeaderLayout at hs
  split at hs
  · rename_i arr harr
    split at hs
    · rename_i l off hext
      injection hs with hs
      obtain ⟨rfl, hav⟩ := array_eq_some he.1 harr
      obtain ⟨hoff, hl, hv⟩ := extend_eq_some hext
      refine ⟨l, hv, hs.symm, ?_, hav.2⟩
      rw [hl, hoff]; rfl
    · cases hs
  · cases hs

theorem customKind_ok {maxSize : Nat} {pmeta v : Layout} (hm : IsTypeLayout maxSize pmeta)
    (hv : v.Valid maxSize) : (customKind pmeta v).Ok maxSize :=
  ⟨hm, fun _ _ h => by
    have : v = _ := Option.some.inj h
    subst this; exact hv⟩

theorem sizedKind_ok {maxSize : Nat} {v : Layout} (hv : v.Valid maxSize) :
    (sizedKind v).Ok maxSize :=
  customKind_ok (unitLayout_type maxSize) hv

theorem sliceWithHeaderKind_ok {maxSize word : Nat} {h e : Layout}
    (hmax : isPow2 (maxSize + 1) = true) (hw : IsTypeLayout maxSize ⟨word, word⟩)
    (he : IsTypeLayout maxSize e) : (sliceWithHeaderKind maxSize word h e).Ok maxSize :=
  ⟨hw, fun len v hs => by
    obtain ⟨l, hl, rfl, _, _⟩ := sliceWithHeaderLayout_eq_some (len := len) he hs
    exact padToAlign_valid hmax hl⟩

theorem wordBytes_length (n w : Nat) : (wordBytes n w).length = n := by
  induction n generalizing w with
  | zero => rfl
  | succ n ih => simp [wordBytes, ih]

theorem bytesWord_wordBytes (n w : Nat) (h : w < 256 ^ n) : bytesWord (wordBytes n w) = w := by
  induction n generalizing w with
  | zero =>
    have : w = 0 := by simpa using h
    subst this; rfl
  | succ n ih =>
    have hd : w / 256 < 256 ^ n := by
      apply Nat.div_lt_of_lt_mul
      rw [Nat.pow_succ, Nat.mul_comm] at h
      exact h
    simp only [wordBytes, bytesWord, ih _ hd]
    have := Nat.div_add_mod w 256
    omega

theorem writeCells_outside (m : Nat → Nat) (lo : Nat) (vals : List Nat) (a : Nat)
    (h : a < lo ∨ lo + vals.length ≤ a) : writeCells m lo vals a = m a := by
  unfold writeCells
  rw [if_neg (by omega)]

theorem Store.run_outside (m : Nat → Nat) (s : Store) (a : Nat)
    (h : a < s.lo ∨ s.lo + s.bytes.length ≤ a) : s.run m a = m a :=
  writeCells_outside m s.lo s.bytes a h

theorem foldl_run_outside (ss : List Store) (m : Nat → Nat) (a : Nat)
    (h : ∀ s ∈ ss, a < s.lo ∨ s.lo + s.bytes.length ≤ a) : ss.foldl Store.run m a = m a := by
  induction ss generalizing m with
  | nil => rfl
  | cons s ss ih =>
    rw [List.foldl_cons, ih _ (fun s' hs' => h s' (List.mem_cons_of_mem _ hs'))]
    exact Store.run_outside m s a (h s List.mem_cons_self)

theorem HeaderWrite.store_in_header {f : HeaderFields} {hdr : Layout} (hf : f.Fits hdr)
    (bits hp : Nat) (m : Nat → Nat) (w : HeaderWrite) :
    hp ≤ (w.store f bits hp m).lo ∧
      (w.store f bits hp m).lo + (w.store f bits hp m).bytes.length ≤ hp + hdr.size ∧
      (w.store f bits hp m).bytes.length = f.word ∧
      ((w.store f bits hp m).lo = hp + f.vtableOff ∨ (w.store f bits hp m).lo = hp + f.nextOff) := by
  obtain ⟨h1, h2⟩ := hf
  cases w <;> simp [HeaderWrite.store, wordBytes_length] <;> omega

end GcArena.Layout
