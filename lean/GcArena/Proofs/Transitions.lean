import GcArena.Proofs.InvRun
/-!
  What one API-level operation does to an arena that satisfies the invariant, in the three shapes
  every history-level argument needs: a mutator rule (`MutStep`), a collection call that moves the
  context along enabled micro-steps and leaves root, temps and callback state alone (`CollectRel`),
  or the drop of the arena — and the induction over histories built on that (`run_lift`).
-/
namespace GcArena

/-- What any `.collect` op does to the arena. -/
structure CollectRel (a a' : Arena) : Prop where
  root : a'.root = a.root
  temps : a'.temps = a.temps
  cb : a'.cb = a.cb
  alive : a'.alive = a.alive
  -- inside a callback the call is rejected (no step); elsewhere `Inv` gives `CInv a.ctx a.root []`,
  -- which is what the lemmas about micro-steps start from
  reach : ∃ ms, a.ctx.micros a.root ms = some a'.ctx ∧ (a.cb ≠ none → ms = [])

theorem CollectRel.refl (a : Arena) : CollectRel a a := ⟨rfl, rfl, rfl, rfl, [], rfl, fun _ => rfl⟩

theorem CollectStep.rel {a a' : Arena} {m k f o} (h : Inv a) (hm : a.marked = false)
    (st : CollectStep a m k f o a') : CollectRel a a' := by
  have of : ∀ {c} {b : Bool} (hcb : a.cb = none), Reaches a.ctx a.root c →
      CollectRel a { a with ctx := c, cover := [], marked := b } := fun hcb ⟨ms, hms⟩ =>
    ⟨rfl, rfl, rfl, rfl, ms, hms, fun hne => absurd hcb hne⟩
  cases st with
  | rejected => exact .refl a
  | ran c ex hcb hr => exact of (b := a.marked) hcb (runCollector_reaches h hcb hr)
  | kept c hcb hr _ _ _ => exact of hcb (runCollector_reaches h hcb hr)
  | swept c c2 ex2 hcb hr _ _ _ hr2 _ =>
    have r1 := runCollector_reaches h hcb hr
    have ha := h.afterCollect hm hcb (r1.inv (h.cinv0 hcb))
    exact of (b := a.marked) hcb (r1.trans (runCollector_reaches ha hcb hr2))

/-! ### `Arena.step` on a live arena -/

theorem step_collect_rel {a : Arena} (h : Inv a) (m : Method) (k : Cont) (f : TraceFault)
    (o : Option (List Micro)) : CollectRel a (a.step (.collect m k f o)).1 := by
  rw [step_eq h.alive]
  have := (stepBody_collectStep { a with marked := false } a.marked m k f o).rel h.unmark rfl
  exact ⟨this.root, this.temps, this.cb, this.alive, this.reach⟩

/-- Every op that keeps the arena alive is a mutator op or moves the context by micro-steps. -/
theorem step_kind {a : Arena} (h : Inv a) (op : Op) (hal : (a.step op).1.alive = true) :
    op.isMutator = true ∨ CollectRel a (a.step op).1 := by
  cases op with
  | collect m k f o => exact .inr (step_collect_rel h m k f o)
  | dropArena =>
    rw [step_eq h.alive] at hal ⊢
    rcases stepBody_dropArena { a with marked := false } a.marked with ⟨_, e⟩ | ⟨_, e⟩ <;>
      rw [e] at hal ⊢
    · exact .inr ⟨rfl, rfl, rfl, rfl, [], rfl, fun _ => rfl⟩
    · cases hal
  | _ => exact .inl rfl

theorem CollectRel.lift {R : Ctx → Ctx → Prop} {a a' : Arena} (h : Inv a) (rel : CollectRel a a')
    (refl : ∀ c, R c c) (trans : ∀ {x y z}, R x y → R y z → R x z)
    (step : ∀ {c c' m}, CInv c a.root [] → MicroStep a.root c m c' → R c c') : R a.ctx a'.ctx := by
  obtain ⟨ms, hms, hnil⟩ := rel.reach
  by_cases hcb : a.cb = none
  · exact micros_lift refl trans step ms (h.cinv0 hcb) hms
  · rw [hnil hcb] at hms; exact Option.some.inj hms ▸ refl _

/-! ### Histories -/

theorem alive_of_run {a : Arena} {ops : List Op} (h : (a.run ops).alive = true) : a.alive = true := by
  cases ha : a.alive with
  | true => rfl
  | false => rw [run_dead ha, ha] at h; cases h


theorem alive_of_run_alive {a : Arena} {op : Op} {ops : List Op}
    (hal : ((a.step op).1.run ops).alive = true) : (a.step op).1.alive = true :=
  alive_of_run hal

theorem run_lift {R : Arena → Arena → Prop} (refl : ∀ a, R a a)
    (trans : ∀ {x y z}, R x y → R y z → R x z)
    (mutator : ∀ {a op}, Inv a → op.isMutator = true → R a (a.step op).1)
    (collect : ∀ {a a'}, Inv a → CollectRel a a' → R a a') (ops : List Op) :
    ∀ {a : Arena}, Inv a → (a.run ops).alive = true → R a (a.run ops) := by
  induction ops with
  | nil => intro a _ _; exact refl a
  | cons op ops ih =>
    intro a h hal
    have hal1 := alive_of_run_alive hal
    refine trans ?_ (ih (inv_step h op hal1) hal)
    rcases step_kind h op hal1 with hm | hc
    · exact mutator h hm
    · exact collect h hc

theorem Arena.run_append (a : Arena) (l1 l2 : List Op) : a.run (l1 ++ l2) = (a.run l1).run l2 := by
  induction l1 generalizing a with
  | nil => rfl
  | cons op l1 ih => exact ih _

theorem step_dropArena {a : Arena} (hal : a.alive = true) :
    (a.cb ≠ none ∧ (a.step .dropArena).1 = { a with marked := false }) ∨
    (a.cb = none ∧ (a.step .dropArena).1 =
      { a with marked := false, ctx := a.ctx.dropAll, alive := false, root := [], cover := [] }) := by
  rw [step_eq hal]
  exact stepBody_dropArena { a with marked := false } a.marked

/-- Induction over a whole history, past the drop of the arena (after which nothing changes): a
    property kept by every admitted operation on a state satisfying the invariant holds at the end. -/
theorem run_total {P : Arena → Prop} {ok : Op → Prop}
    (step : ∀ {a op}, ok op → Inv a → P a → P (a.step op).1) (ops : List Op) :
    ∀ {a : Arena}, (∀ op, op ∈ ops → ok op) → (a.alive = true → Inv a) → P a → P (a.run ops) := by
  induction ops with
  | nil => intro a _ _ h; exact h
  | cons op ops ih =>
    intro a hok hi h
    have hok' := fun o ho => hok o (List.mem_cons_of_mem _ ho)
    cases hal : a.alive with
    | false => simp only [Arena.run, step_dead hal]; exact ih hok' hi h
    | true =>
      exact ih hok' (fun hal1 => inv_step (hi hal) op hal1) (step (hok op List.mem_cons_self) (hi hal) h)

end GcArena
