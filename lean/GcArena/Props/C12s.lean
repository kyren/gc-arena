import GcArena.Proofs.BrandFlowLemmas
import GcArena.Generated.BrandFlow
import GcArena.Proofs.CollectLemmas
import GcArena.Generated.CollectTable
import GcArena.Proofs.MacroImplsLemmas
import GcArena.Generated.MacroImpls
/-!
# C12 (brand flow) — no function that safe code can call lets the caller choose a brand

Companion of `GcArena.Props.C12` (variance, auto traits, `for<'gc>` binders).  Those premises say
that a branded value cannot *leave* its callback or *change* its brand by subtyping.  They say
nothing about a function of the crate that hands out a value whose brand is not the brand of what it
was given — e.g. an `unsize!` whose `__CoercePtrInternal` impl reads
`impl<'gc, 'w, …> __CoercePtrInternal<GcWeak<'w, U>> for GcWeak<'gc, T, K>`: no field, marker or
auto trait changes, yet `unsize!(weak => T)` has any brand the caller likes, `'static` included.

Here: the table `GcArena.Generated.brandFlow` that `/verif/extract` regenerates from the current
source on every check run lists every function code without `unsafe` can call (safe `pub` fns,
trait-impl methods, default trait methods, and the `unsafe fn`s an exported macro calls from its own
`unsafe { }` block) whose result carries a lifetime, with the brands of the result and of the inputs.
`table_ok` re-checks by `decide` that every result brand is the brand of an input (identity — an
outlives bound is not accepted), and `brand_flow_closed` shows for **every** table with that
property that in the calculus of `Model/BrandFlow.lean` (callbacks introduce fresh brands, calls
instantiate signatures) a program only ever holds brands of callbacks that are executing, and every
call yields only brands it consumed.

Partial, as all of C12: rustc's type checking is trusted; what is trusted in the translator is its
classification of lifetime positions (see the module docs of `extract/src/brandflow.rs`), cross
validated by must-not-compile escape probes per entry point (`probes/gen_brandflow.py`).
-/
namespace GcArena.C12s
open GcArena.BrandFlow

/-- **No brand is ever chosen by the caller.**  For every table satisfying `Table.ok` and every
state reachable by entering callbacks (fresh brand each), leaving them, calling table entries under
arbitrary instantiations of their lifetime parameters, and dropping values:

1. every brand the program holds is the brand of a callback that is currently executing (so nothing
   branded is held after its callback returned, and nothing ever has a brand — such as `'static` or
   an outer region — that no callback introduced);
2. every call that is possible in that state yields only values whose brand is the brand of a held
   value the call consumed, and *every* branded input of that call has that same brand (so a value
   of arena A is produced only inside A's callback, from values of A alone; it cannot be turned into
   a value of arena B, whatever else the program holds, and a pointer of A cannot be combined with
   the `Mutation` of B). -/
theorem brand_flow_closed (T : Table) (hok : T.ok = true) {st : State} (hr : Reachable T st) :
    (∀ b ∈ st.held, b ∈ st.active) ∧
    (∀ (s : Sig) (σ : Subst), s ∈ T.sigs → s.callable = true → (∀ l ∈ s.inBrands, σ l ∈ st.held) →
      ∀ b ∈ s.outBrands.map σ,
        (∃ l ∈ s.inBrands, σ l = b ∧ b ∈ st.held) ∧ b ∈ st.active ∧ (∀ l' ∈ s.inBrands, σ l' = b)) := by
  have hi := reachable_inv hok hr
  refine ⟨hi.held_active, ?_⟩
  intro s σ mem hc inputs b hb
  have hs := Table.sig_ok hok mem
  obtain ⟨l, hl, rfl⟩ := List.mem_map.mp hb
  have hl := Sig.out_mem_in hs hc hl
  refine ⟨⟨l, hl, rfl, inputs l hl⟩, hi.held_active _ (inputs l hl), ?_⟩
  intro l' hl'
  exact call_single_arena hs hc σ (List.mem_map.mpr ⟨l', List.mem_append_left _ hl', rfl⟩)
    (List.mem_map.mpr ⟨l, List.mem_append_left _ hl, rfl⟩)

/-- The same, as a statement about one call: the output brands are a function of the input brands.
Two instantiations that agree on the lifetimes of the inputs agree on the outputs. -/
theorem caller_cannot_choose (T : Table) (hok : T.ok = true) (s : Sig) (hs : s ∈ T.sigs)
    (hc : s.callable = true) (σ σ' : Subst) (h : ∀ l ∈ s.inBrands, σ l = σ' l) :
    s.outBrands.map σ = s.outBrands.map σ' :=
  List.map_congr_left fun l hl => h l (Sig.out_mem_in (Table.sig_ok hok hs) hc hl)

/-- Once the innermost callback has returned, its brand is neither active nor held, and (being in
`opened`) can never be introduced again. -/
theorem brand_dead_after_exit (T : Table) (hok : T.ok = true) {st : State} (hr : Reachable T st)
    (b : Brand) (rest : List Brand) (top : st.active = b :: rest) :
    b ∉ rest ∧ b ∉ st.held.filter (· != b) ∧ b ∈ st.opened :=
  exit_kills_brand hok hr b rest top

/-- Every callable signature of the current source tree takes each brand of its result from an
input (and each reference lifetime of its result from an input); the translator classified
everything; only the five builder types are unattached; the property's types are branded; every
call in an exported macro's `unsafe` block resolves to scanned functions. -/
theorem table_ok : Generated.brandFlow.ok = true := by decide +kernel

/-- The table talks about the functions that matter: the conversions and accessors the property is
about are present, and the two `__CoercePtrInternal` impls behind `unsize!` as well as
`Write::__from_ref_and_ptr` behind `field!` are recognised as reachable from safe code. -/
theorem entry_points_present :
    (∀ p ∈ [("Gc", "new"), ("Gc", "downgrade"), ("Gc", "erase"), ("Gc", "as_ref"), ("Gc", "write"),
            ("Gc", "unlock"), ("Gc", "clone"), ("GcWeak", "upgrade"), ("GcWeak", "resurrect"),
            ("GcWeak", "erase"), ("GcWeak", "clone"), ("DynamicRootSet", "new"),
            ("DynamicRootSet", "fetch"), ("DynamicRootSet", "try_fetch"), ("Finalization", "deref"),
            ("Arena", "new"), ("Arena", "mutate"), ("Arena", "mutate_root"), ("Arena", "map_root"),
            ("MarkedArena", "finalize")],
        Generated.brandFlow.has p.1 p.2 = true) ∧
    (∀ h ∈ ["Gc", "GcWeak"], Generated.brandFlow.sigs.any (fun s =>
        s.selfHead == h && s.method == "__coerce_unchecked" && s.isUnsafe && s.macroReachable) = true) ∧
    (∀ m ∈ ["unsize", "__field"], Generated.brandFlow.macroCalls.any (fun c => c.1 == m) = true) := by
  decide +kernel

/-- Every `unsafe fn` whose result has a caller-chosen brand (`Gc::from_ptr`, …) is exempt only
because safe code cannot call it: none of them is reachable from an exported macro. -/
theorem free_brands_only_behind_unsafe :
    ∀ s ∈ Generated.brandFlow.sigs, s.flowOk = false → s.isUnsafe = true ∧ s.macroReachable = false := by
  intro s hs hf
  -- `table_ok` says `!s.callable || s.flowOk`
  simpa [Sig.ok, hf, Sig.callable] using Table.sig_ok table_ok hs

/-- The mutated `unsize!` support impl
`impl<'gc, 'w, T, U: ?Sized, K> __CoercePtrInternal<GcWeak<'w, U>> for GcWeak<'gc, T, K>`
(`unsafe fn __coerce_unchecked<F>(self, coerce: F) -> GcWeak<'w, U>`, called by the safe macro) is
rejected; the original (`'w` = `'gc`) is accepted; and the same signature is exempt when no exported
macro reaches it. -/
def mutantSig : Sig :=
  { name := "<GcWeak<'gc, T, K> as __CoercePtrInternal<GcWeak<'w, U>>>::__coerce_unchecked",
    selfHead := "GcWeak", traitName := "__CoercePtrInternal", method := "__coerce_unchecked",
    isUnsafe := true, macroReachable := true, hasReceiver := true,
    outBrands := ["w"], inBrands := ["gc"], inLts := ["gc"], free := ["w"] }

theorem mutant_witness :
    mutantSig.ok = false ∧
    ({ mutantSig with outBrands := ["gc"], free := [] } : Sig).ok = true ∧
    ({ mutantSig with macroReachable := false } : Sig).ok = true := by decide

/-- The hypothesis `T.ok` of `brand_flow_closed` is needed: with the mutated entry in the table the calculus reaches a
state in which the program holds a brand (0, say `'static`) that no callback ever introduced, while
only callback 1 is executing — and after that callback has returned it still holds it. -/
theorem mutant_escapes :
    ∃ st, Reachable { sigs := [mutantSig] } st ∧ 0 ∈ st.held ∧ 0 ∉ st.opened ∧ st.active = [] :=
  escape_of_foreign_out (g := "gc") (w := "w") (List.mem_singleton.mpr rfl) rfl rfl rfl (by decide)

/-- Non-vacuity of the table check: safe functions with a free result brand, a result brand that is
merely *outlived* by an input brand, a brand taken from the impl header without a receiver, and a
free reference lifetime, and an `upgrade` that takes its result brand from the `Mutation` instead of
the pointer are all rejected; the shapes of `Gc::downgrade`, `GcWeak::upgrade`,
`Gc::as_ref` are accepted. -/
example :
    Sig.ok { name := "fn conjure<'gc>() -> Gc<'gc, ()>", isUnsafe := false, macroReachable := false,
             outBrands := ["gc"], inBrands := [] } = false ∧
    Sig.ok { name := "fn shorten<'a, 'gc: 'a>(g: Gc<'gc, T>) -> Gc<'a, T>", isUnsafe := false,
             macroReachable := false, outBrands := ["a"], inBrands := ["gc"], inLts := ["gc"] } = false ∧
    Sig.ok { name := "Gc<'gc, T>::from_ptr made safe", isUnsafe := false, macroReachable := false,
             outBrands := ["gc"], inBrands := [] } = false ∧
    Sig.ok { name := "fn leak<'a>(g: Gc<'gc, T>) -> &'a T", isUnsafe := false, macroReachable := false,
             outBrands := [], inBrands := ["gc"], outRefs := ["a"], inLts := ["gc"] } = false ∧
    Sig.ok { name := "GcWeak<'gc, T>::upgrade<'m>(self, mc: &Mutation<'m>) -> Option<Gc<'m, T>>",
             isUnsafe := false, macroReachable := false,
             outBrands := ["m"], inBrands := ["gc", "m"], inLts := ["gc", "_1", "m"] } = false ∧
    Sig.ok { name := "Gc::downgrade", isUnsafe := false, macroReachable := false,
             outBrands := ["gc"], inBrands := ["gc"], inLts := ["gc"] } = true ∧
    Sig.ok { name := "GcWeak::upgrade", isUnsafe := false, macroReachable := false,
             outBrands := ["gc"], inBrands := ["gc"], inLts := ["gc", "_1"] } = true ∧
    Sig.ok { name := "Gc::as_ref", isUnsafe := false, macroReachable := false,
             outBrands := [], inBrands := ["gc"], outRefs := ["gc"], inLts := ["gc"] } = true := by
  decide +kernel

/-- The quantifier of `table_ok` ranges over something: at least 60 callable signatures, at least
30 of which return a brand. -/
example : 60 ≤ (Generated.brandFlow.sigs.filter Sig.callable).length ∧
    30 ≤ (Generated.brandFlow.sigs.filter (fun s => s.callable && !s.outBrands.isEmpty)).length := by
  decide +kernel

/-- The calculus is not empty either: with the current table a program can enter a callback and
obtain further values of that callback's brand (`Gc::downgrade`-like entries exist). -/
example : ∃ s ∈ Generated.brandFlow.sigs, s.callable = true ∧ s.outBrands = ["gc"] ∧ s.inBrands = ["gc"] := by
  decide +kernel

/-! ## Branded data cannot hide inside a root value

The premises above keep a branded value from *leaving* its callback as a value.  It could still
stay behind **inside the root**, where later callbacks find it again, if some `Collect` impl
accepted a component that carries the brand and that the collector never sees: the target of a
`&'gc T` (from `Gc::as_ref`) or of an untraced `Gc<'gc, T>` kept there is collected while the
reference is still readable.  `Gc::as_ref`'s own safety argument is "`&'gc T` never implements
`Collect`, so it cannot be stored inside the root"; the rule below is what makes that true of every
provided impl: a type parameter that can occur in a field and is not traced must be `'static`
(`S: 'gc` on the hasher state of `HashMap<K, V, S>` is **not** enough).  Same table, same rule and
same general theorem as `GcArena.C16.untraced_static_ok` / `no_hidden_brand`
(`Model/CollectTy.lean`), re-checked here so that C12 reports it too. -/

/-- No provided `Collect` impl (feature-gated ones included) lets a branded value hide in an
untraced parameter: in the table regenerated from the current source tree, every parameter that can
occur in a field of the value is traced or bounded by `'static`, the remaining ones are
phantom-only, and no lifetime of a self type is free. -/
theorem no_collect_impl_hides_brand : Generated.collectTable.untracedStatic = true := by
  decide +kernel

/-- What the rule buys, for every table satisfying it: a component of a well-typed container value
that the impl's `trace` does not visit has a `'static` type — it carries no brand at all — and
contains no arena pointer. -/
theorem untraced_component_has_no_brand (t : CollectTy.Table) (hu : t.untracedStatic = true)
    (e : Nat) (en : CollectTy.Entry) (he : t.entry? e = some en) (args : Nat → CollectTy.Ty)
    (len : Nat) (pos : Nat → Nat) (elem : Nat → CollectTy.Val)
    (h : CollectTy.HasType t (.node len pos elem) (.app e args)) (j : Nat) (hj : j < len)
    (hnt : en.traced.contains (pos j) = false) :
    CollectTy.isStatic t (args (pos j)) = true ∧ CollectTy.ptrsOf (elem j) = [] :=
  CollectTy.no_hidden_brand t hu e en he args len pos elem h j hj hnt

/-- Lower bound (a translator that silently drops rows cannot make `no_collect_impl_hides_brand`
vacuous): at least 50 impls, at least 20 of them with a `'static`-bounded parameter or `Self: 'static`. -/
theorem required_collect_rows :
    Generated.collectTable.entries.length ≥ 50 ∧
    (Generated.collectTable.entries.filter (fun e => e.selfStatic || !e.staticParams.isEmpty)).length ≥ 20 ∧
    Generated.collectTable.unclassified = [] := by decide +kernel

/-- The delivered mutant (`S: 'static` ↦ `S: 'gc` on `Collect for HashMap<K, V, S>`) is rejected by
the rule, the crate's entry is accepted. -/
theorem hasher_mutant_witness :
    CollectTy.Example.hmCurrent.untracedStatic = true ∧
    CollectTy.Example.hmMutant.untracedStatic = false := by decide

/-! ## `'static`-only `Collect` impls generated for clients: `static_collect!`

`static_collect!(<T> Latch<'gc, T>)` is the documented generic form: the user-supplied type may name
the `'gc` the impl header declares.  The generated impl has `NEEDS_TRACE = false` and no `trace`, so
the only thing that keeps a branded type (`Latch<'gc, T>(Cell<Option<&'gc T>>)`) from becoming an
untraced, barrier-free `Collect<'gc>` *for every brand* is the predicate `$type: 'static` on the
type itself; `T: 'static` on the declared parameters says nothing about `'gc`.  The translator reads
every arm's expansion template from the raw source (`extract/src/macroimpls.rs`,
`GcArena/Generated/MacroImpls.lean`); rule and general theorem: `Model/MacroImpls.lean`,
`Proofs/MacroImplsLemmas.lean`. -/

/-- Every arm of `static_collect!` in the current source satisfies the template rule (and at least
one arm was found, all classified): claiming `NEEDS_TRACE = false` / an empty `trace` is licensed by
`$type: 'static` on the user-supplied type. -/
theorem static_collect_templates_ok :
    Generated.macroImplsUnclassified = [] ∧
    (Generated.macroImpls.filter (fun t => t.macroName == "static_collect")).length ≥ 1 ∧
    (Generated.macroImpls.filter (fun t => t.macroName == "static_collect")).all
      MacroImpls.Template.ok = true := by decide +kernel

private theorem macroImpls_ok : Generated.macroImpls.all MacroImpls.Template.ok = true := by
  decide +kernel

/-- **Client instantiations hide no brand.**  Extend the crate's impl table by the impls clients
obtain from any arms of the exported macros in the current source (`Template.toEntry`: any number of
declared parameters, the user-supplied type mentioning the brand or not): the extended table still
satisfies the untraced-static rule, so a component of a well-typed value that a `trace` — provided
or macro-generated — does not visit has a `'static` type and contains no arena pointer. -/
theorem template_instances_hide_no_brand (is : List (MacroImpls.Template × MacroImpls.Inst))
    (hmem : ∀ p, p ∈ is → p.1 ∈ Generated.macroImpls)
    (e : Nat) (en : CollectTy.Entry)
    (he : (MacroImpls.withInstances Generated.collectTable is).entry? e = some en)
    (args : Nat → CollectTy.Ty) (len : Nat) (pos : Nat → Nat) (elem : Nat → CollectTy.Val)
    (h : CollectTy.HasType (MacroImpls.withInstances Generated.collectTable is) (.node len pos elem) (.app e args))
    (j : Nat) (hj : j < len) (hnt : en.traced.contains (pos j) = false) :
    CollectTy.isStatic (MacroImpls.withInstances Generated.collectTable is) (args (pos j)) = true ∧
      CollectTy.ptrsOf (elem j) = [] :=
  CollectTy.no_hidden_brand _
    ((MacroImpls.withInstances_ok _ _ macroImpls_ok is hmem).2 no_collect_impl_hides_brand)
    e en he args len pos elem h j hj hnt

/-- … and a macro-generated impl for a type that itself mentions the brand is a complete row: the
brand is traced under a true `NEEDS_TRACE`, or the row demands `Self: 'static`. -/
theorem template_instance_complete (t : MacroImpls.Template) (ht : t ∈ Generated.macroImpls)
    (i : MacroImpls.Inst) : (t.toEntry i).complete = true ∧ (t.toEntry i).untracedStatic = true :=
  MacroImpls.Template.toEntry_ok t (List.all_eq_true.mp macroImpls_ok t ht) i

/-- Non-vacuity on the generated rows 0 (`static_collect!`) and 2 (`__dyn_collect!`), instantiated
at a brand-mentioning type: row 0 demands `Self: 'static` and holds no pointer field, row 2
satisfies `untracedStatic`; the seeded `static_collect!` template holds a pointer field that nothing
traces. -/
example :
    (Generated.macroImpls[0]?.map (fun t => (t.toEntry { brandFree := false, nparams := 1 }).selfStatic)) = some true ∧
    (Generated.macroImpls[0]?.map (fun t => (t.toEntry { brandFree := false, nparams := 1 }).ptrFields)) = some [] ∧
    (Generated.macroImpls[2]?.map (fun t => (t.toEntry { brandFree := false, nparams := 1 }).untracedStatic)) = some true ∧
    (MacroImpls.Example.staticCollectArm0Mutant.toEntry { brandFree := false, nparams := 1 }).ptrFields = ["'gc"] ∧
    (MacroImpls.Example.staticCollectArm0Mutant.toEntry { brandFree := false, nparams := 1 }).tracedFields = [] := by
  decide +kernel

/-- The `Example` rows of the mutant-witness theorem are the generated rows. -/
example : Generated.macroImpls[0]? = some MacroImpls.Example.staticCollectArm0 ∧
    Generated.macroImpls[2]? = some MacroImpls.Example.dynCollectArm0 := by decide +kernel

/-- *Definitional reading of the rule* (re-reads conjuncts of `Template.ok`; the "root bound rejects
it" half is prose, its assurance comes from the template probes `c12-template-*`; the semantic
statements are `template_instances_hide_no_brand` / `template_instance_complete`).
What the rule buys (every template, every instantiation): if the user-supplied type mentions a
brand, the generated impl is not brand-generic — so no generative callback and no root bound
accepts it — or it traces with `NEEDS_TRACE = true`. -/
theorem template_impl_is_static_or_traces (t : MacroImpls.Template) (h : t.ok = true)
    (i : MacroImpls.Inst) (hb : i.brandFree = false) :
    t.brandGeneric i = false ∨ (t.reportsNothing = false ∧ t.needsTraceValue = some true) :=
  MacroImpls.ok_sound t h i hb

/-- The seeded change `where $type: 'static` ↦ `$($params: 'static,)+` in the generic arm is
rejected by the rule (the crate's arm is accepted), and under it a type mentioning the brand gets an
impl for every brand that reports nothing. -/
theorem static_collect_mutant_witness :
    MacroImpls.Example.staticCollectArm0.ok = true ∧
    MacroImpls.Example.staticCollectArm0Mutant.ok = false ∧
    ∃ i : MacroImpls.Inst, i.brandFree = false ∧
      MacroImpls.Example.staticCollectArm0Mutant.brandGeneric i = true ∧
      MacroImpls.Example.staticCollectArm0Mutant.reportsNothing = true ∧
      (MacroImpls.Example.staticCollectArm0Mutant.toEntry { i with nparams := 1 }).complete = false :=
  ⟨by decide, by decide, { brandFree := false }, rfl, by decide, by decide, by decide⟩

/-! ## The clause "a branded value cannot stay behind in the root", over the type-shape model

For the **current** crate: whatever a provided `Collect` impl does not trace is `'static` — it
carries no brand — so no `&'gc T` / untraced `Gc<'gc, T>` can sit in a root value and be found
again by a later callback.  Not contained: `Shape.stored` / the translator's reading of the impls
(trusted, probed by `c16-hidden-*`), client-written `unsafe impl Collect`, and the template rule for
client instantiations of `static_collect!` (`static_collect_templates_ok`). -/
def no_brand_hides_in_a_root_value_statement : Prop :=
  ∀ (e : Nat) (en : CollectTy.Entry), Generated.collectTable.entry? e = some en →
    ∀ (args : Nat → CollectTy.Ty) (len : Nat) (pos : Nat → Nat) (elem : Nat → CollectTy.Val),
      CollectTy.HasType Generated.collectTable (.node len pos elem) (.app e args) →
      ∀ j, j < len → en.traced.contains (pos j) = false →
        CollectTy.isStatic Generated.collectTable (args (pos j)) = true ∧
          CollectTy.ptrsOf (elem j) = []

theorem no_brand_hides_in_a_root_value : no_brand_hides_in_a_root_value_statement :=
  fun e en he args len pos elem h j hj hnt =>
    untraced_component_has_no_brand _ no_collect_impl_hides_brand e en he args len pos elem h j hj hnt

end GcArena.C12s
