import GcArena.Proofs.ConvLemmas
import GcArena.Proofs.LogRun
import GcArena.Props.C17
import GcArena.Generated.CollectTable
/-!
# C19 (dynamic half) — conversions keep the object: identity, collector identity, metadata, ZSTs

Model: `GcArena.Model.Conv` — the pointer-level semantics of `erase`, `erase_kind`, `cast`,
`as_thin` / `as_fat`, `as_ptr` / `from_ptr(_with_kind)`, `as_thin_ptr` / `from_thin_ptr_with_kind`,
`unsize!`, `downgrade` / `upgrade`, `Copy`, `DynamicRootSet::stash` + `fetch` and
`ZstCache::alloc`, with the typing discipline of the real signatures (`applicable`).  Every theorem
about chains quantifies over **all** chains of any length, all targets (sized, array, slice and
`str` of any length, trait object, zero-sized of any alignment, cached zero-sized) and all start
pointers; nothing is proved by enumeration.

Collector identity is phrased against the collector model of C01–C11: a traced `Gc<T, K>` /
`GcWeak<T, K>` reports `Gc::erase(*self)` / `GcWeak::erase(*self)` to the collector
(`Collect for Gc`, src/gc.rs), i.e. the slot content `PtrVal.toPtr` — the target id and the
strength.  `Safe`, `AccessibleC`, `StrongReachC` and the whole of `Arena.run` depend on pointers
only through `GcArena.Ptr`, so a converted pointer *is* the original pointer as far as the
collector is concerned (`collector_view`, `indistinguishable`), and the safety and
exactly-once theorems of C01 / C04 apply to it verbatim (`converted_keeps_alive`,
`converted_weak_block_stays`, `destructed_once`).  Destruction is modelled by its mechanism: the
collector finds the block's header from the pointer's address and takes the drop glue and the
length from there (`destructVia`, src/gc_ptr.rs `GcPtr::drop_in_place` / `VtableFor::VTABLE`), so
what is destructed does not depend on the chain that produced the pointer
(`destruct_chain_independent`, with the counter-model `destruct_through_pointer_would_differ`),
and over histories each block handed out by an `.alloc` operation is destructed at most once, as
the type it was constructed as (`destructed_as_original_type`).  Dereference is modelled with the
metadata the pointer reports and fails on any misfit (`deref`, `deref_original_value`).  Both are
checked on the implementation by the harness (`read=` / `as=` fields, drop log type tags).

Tie: `lib/eng_conv.py` (harness_conv vs. the driver `convmodel`, lean/ConvMain.lean).  The static
half (no conjuring of a `Gc<T>`) is `GcArena.Props.C19s`.
-/
namespace GcArena.C19

open GcArena GcArena.Conv

/-- Any chain that succeeds — of any length, from any pointer — yields a pointer to the same
    allocation at the same address. -/
theorem same_object (a : Alloc) (ch : Chain) (p q : PtrVal) (h : apply a ch p = some q) :
    q.obj = p.obj ∧ q.off = p.off :=
  apply_same h

/-- Every well-typed chain on a live value succeeds (and then `same_object` applies): the
    result is `ptr_eq` to the original, and its address is the value address. -/
theorem well_typed_succeeds (a : Alloc) (hl : a.upgradable = true) (ch : Chain) (p : PtrVal)
    (hwt : wellTyped a.target ch p = true) :
    ∃ q, apply a ch p = some q ∧ q.obj = p.obj ∧ q.off = p.off := by
  have h : (apply a ch p).isSome = true := (apply_isSome_iff_wellTyped hl).trans hwt
  obtain ⟨q, hq⟩ := Option.isSome_iff_exists.1 h
  exact ⟨q, hq, apply_same hq⟩

/-- From the pointer the allocating call returned, every chain ends at that allocation with
    offset 0 and in a well-formed shape. -/
theorem from_alloc (a : Alloc) (ch : Chain) (q : PtrVal) (h : apply a ch (initPtr a) = some q) :
    q.obj = a.id ∧ q.off = 0 ∧ WF a q := by
  have hw := apply_wf (initPtr_wf a) h
  exact ⟨hw.obj, hw.off, hw⟩

/-- On a well-typed chain `apply` is `none` exactly when the chain contains an `upgrade` and the
    value is destructed or condemned by the sweep in progress (`Context::upgrade` refuses). -/
theorem fails_iff_dead_upgrade (a : Alloc) (ch : Chain) (p : PtrVal)
    (hwt : wellTyped a.target ch p = true) :
    apply a ch p = none ↔ (a.live = false ∨ a.condemned = true) ∧ Step.upgrade ∈ ch := by
  rw [apply_eq_none_iff hwt, Alloc.upgradable, Bool.and_eq_false_iff, Bool.not_eq_false']

/-- The refusal rule of the conversion model is the one of the collector model (`Ctx.upgrade`,
    Model/Context.lean, mirroring `Context::upgrade`): for an allocated target, `upgrade`
    answers `true` iff the value is live and not (`Sweep` ∧ `WhiteWeak`). -/
theorem upgrade_rule_is_collectors (c : Ctx) (i : Nat) (o : Obj) (t : Target)
    (h : c.heap.get i = some o) :
    (c.upgrade i).2 =
      Alloc.upgradable ⟨i, t, o.live, decide (c.phase = .sweep) && decide (o.color = .whiteWeak)⟩ := by
  simp only [Ctx.upgrade, h, Alloc.upgradable]
  cases o.live <;> cases decide (c.phase = .sweep) && decide (o.color = .whiteWeak) <;> rfl

/-- `upgrade (downgrade p)` is `p` while the value is live (and not condemned), and `None` once
    it is destructed. -/
theorem upgrade_downgrade (a : Alloc) (p : PtrVal) (hs : p.weak = false) :
    (a.upgradable = true → apply a [.downgrade, .upgrade] p = some p) ∧
    (a.live = false → apply a [.downgrade, .upgrade] p = none) := by
  have h1 : applicable a.target .downgrade p = true := by simp [applicable, hs]
  have h2 : applicable a.target .upgrade { p with weak := true } = true := by simp [applicable]
  constructor
  · intro hl
    simp only [apply, step_of_applicable h1, conv, step_of_applicable h2, hl, if_true]
    cases p; simp_all
  · intro hl
    simp [apply, step_of_applicable h1, conv, step_of_applicable h2, hl, Alloc.upgradable]

/-- After any well-typed chain that ends in a weak pointer, `upgrade` answers `Some` of a strong
    pointer to the original allocation while upgradable, `None` when destructed. -/
theorem upgrade_after_chain (a : Alloc) (ch : Chain) (p q : PtrVal) (h : apply a ch p = some q)
    (hw : q.weak = true) :
    (a.upgradable = true →
      ∃ r, step a .upgrade q = some r ∧ r.obj = p.obj ∧ r.off = p.off ∧ r.weak = false) ∧
    (a.live = false → step a .upgrade q = none) := by
  rw [step_upgrade hw]
  exact ⟨fun hl => ⟨_, if_pos hl, (apply_same h).1, (apply_same h).2, rfl⟩,
    fun hl => if_neg (by simp [Alloc.upgradable, hl])⟩

/-- `ptr_eq` answers "same allocation, same address" and nothing else: it is insensitive to the
    metadata carried by wide pointers (slice length, vtable) and to every tag (strength, kind,
    static type) of either argument.  (Immediate from the definition of `samePtr`, the model's
    reading of `ptr::addr_eq`; that `Gc::ptr_eq` / `GcWeak::ptr_eq` behave so on wide pointers with
    different metadata is observed by harness_conv's `alias` / `prefix` cases.) -/
theorem ptr_eq_ignores_metadata (p q : PtrVal) :
    (samePtr p q = true ↔ p.obj = q.obj ∧ p.off = q.off) ∧
    (∀ (w1 w2 t1 t2 : Bool) (pm1 pm2 : PMeta) (ty1 ty2 : Ty) (c1 c2 : Meta),
      samePtr { p with weak := w1, thin := t1, pmeta := pm1, ty := ty1, carried := c1 }
            { q with weak := w2, thin := t2, pmeta := pm2, ty := ty2, carried := c2 } = samePtr p q) := by
  constructor
  · simp [samePtr]
  · intros; rfl

/-- Any two pointers obtained by any chains from allocating calls that returned the same block
    — the same call, or two `ZstCache::alloc` calls that both alias the cache's block, whatever
    their types, lengths or vtables — are `ptr_eq`; from different blocks they are not. -/
theorem aliasing_results_ptr_eq (a1 a2 : Alloc) (ch1 ch2 : Chain) (q1 q2 : PtrVal)
    (h1 : apply a1 ch1 (initPtr a1) = some q1) (h2 : apply a2 ch2 (initPtr a2) = some q2) :
    samePtr q1 q2 = decide (a1.id = a2.id) := by
  obtain ⟨o1, f1, _⟩ := from_alloc a1 ch1 q1 h1
  obtain ⟨o2, f2, _⟩ := from_alloc a2 ch2 q2 h2
  simp only [samePtr, o1, o2, f1, f2, beq_self_eq_true, Bool.and_true]
  by_cases h : a1.id = a2.id <;> simp [h]

/-- Whatever chain led to it, a pointer derived from the allocating call's result dereferences
    with exactly the metadata of its static type: for a fat pointer the carried metadata, for a
    thin pointer the metadata `P::from_thin` rebuilds from the header. -/
theorem metadata_exact (a : Alloc) (ch : Chain) (q : PtrVal) (h : apply a ch (initPtr a) = some q) :
    derefMeta a.target q = fatMeta a.target q.ty ∧
    (q.thin = false → q.carried = fatMeta a.target q.ty) ∧
    (q.thin = true → q.carried = .none) := by
  have hw := apply_wf (initPtr_wf a) h
  exact ⟨derefMeta_wf hw, hw.fat, hw.thinMeta⟩

/-- Slices and strings: every `[E]` / `str` typed pointer obtained by any chain sees the length
    the value was allocated with — carried in the pointer when fat, rebuilt from the header when
    thin. -/
theorem length_exact (a : Alloc) (n : Nat)
    (ht : a.target = .slice n ∨ a.target = .str n ∨ a.target = .swh n)
    (ch : Chain) (q : PtrVal) (h : apply a ch (initPtr a) = some q) (hty : q.ty = .orig) :
    derefMeta a.target q = .len n ∧ (q.thin = false → q.carried = .len n) := by
  obtain ⟨h1, h2, _⟩ := metadata_exact a ch q h
  have : fatMeta a.target q.ty = .len n := by
    rw [hty]; rcases ht with ht | ht | ht <;> simp [ht, fatMeta, Target.hdrLen]
  rw [this] at h1 h2
  exact ⟨h1, h2⟩

/-- `unsize!([E; n] => [E])` carries the array length, whatever came before and after. -/
theorem unsized_array_length (a : Alloc) (n : Nat) (ht : a.target = .array n) (ch : Chain)
    (q : PtrVal) (h : apply a ch (initPtr a) = some q) (hty : q.ty = .uns) :
    q.thin = false ∧ q.carried = .len n := by
  have hw := apply_wf (initPtr_wf a) h
  have hf := (hw.uns hty).2.1
  refine ⟨hf, ?_⟩
  rw [hw.fat hf, hty, ht]; rfl

/-- thin → fat reconstructs the pointer exactly: `as_fat (as_thin p) = p` for every well-formed
    fat strong pointer whose kind has a `PtrMeta` (in particular `GcSlice` / `GcStr`). -/
theorem thin_fat_roundtrip (a : Alloc) (p : PtrVal) (hw : WF a p) (hs : p.weak = false)
    (hf : p.thin = false) (hm : hasPtrMeta a.target p = true) :
    apply a [.asThin, .asFat] p = some p := by
  have h1 : applicable a.target .asThin p = true := by simp [applicable, hs, hf, hm]
  have h2 : applicable a.target .asFat { p with thin := true, carried := .none } = true := by
    simp [applicable, hs]
  have hwf : WF a { p with thin := true, carried := .none } :=
    step_wf hw (by rw [step_of_applicable h1]; rfl)
  have hd := derefMeta_wf hwf
  simp only [apply, step_of_applicable h1, conv, step_of_applicable h2, hd]
  have := hw.fat hf
  cases p; simp_all

/-- … and `as_thin (as_fat p) = p` for every well-formed thin strong pointer. -/
theorem fat_thin_roundtrip (a : Alloc) (p : PtrVal) (hw : WF a p) (hs : p.weak = false)
    (ht : p.thin = true) :
    apply a [.asFat, .asThin] p = some p := by
  have h1 : applicable a.target .asFat p = true := by simp [applicable, hs, ht]
  have hk := hw.thinKind ht
  have h2 : applicable a.target .asThin { p with thin := false, carried := derefMeta a.target p } = true := by
    simp only [applicable, hs, Bool.not_false, Bool.true_and]
    exact hk
  simp only [apply, step_of_applicable h1, conv, step_of_applicable h2]
  have := hw.thinMeta ht
  cases p; simp_all

/-- What the collector sees of a converted pointer is the original target, and — when the chain
    ends with the strength it began with — exactly what it sees of the original pointer.
    (`toPtr` keeps only target and strength by definition, mirroring `Collect for Gc` =
    `trace_gc(Gc::erase(*self))`; the substance is `same_object`.) -/
theorem collector_view (a : Alloc) (ch : Chain) (p q : PtrVal) (h : apply a ch p = some q) :
    q.toPtr.target = p.toPtr.target ∧ (q.weak = p.weak → q.toPtr = p.toPtr) := by
  rw [apply_toPtr h]
  refine ⟨?_, fun hw => by rw [hw]; rfl⟩
  unfold PtrVal.toPtr
  cases q.weak <;> cases p.weak <;> rfl

/-- No client program can tell the collector which of the two it stored: any operation sequence
    built around the converted pointer — stored in the root, in an object, allocated into a new
    object, in any phase, followed by any collection schedule — is the sequence built around the
    original, so every observable (states, return values, the destruction log) coincides.
    (A rewriting with `collector_view`: the collector model has no state that depends on a
    pointer's tags.  That the real collector does not either is observed by harness_conv:
    survival and destruction under every placement of the converted pointer.) -/
theorem indistinguishable (a : Alloc) (ch : Chain) (p q : PtrVal) (h : apply a ch p = some q)
    (hw : q.weak = p.weak) (A : Arena) (prog : Ptr → List Op) :
    A.run (prog q.toPtr) = A.run (prog p.toPtr) := by
  rw [(collector_view a ch p q h).2 hw]

/-- Keeping the converted pointer keeps the value: in every state of every history in which a
    strong converted pointer is held by the root, by the running callback, or by a slot of an
    object the client can name, the original allocation is allocated, undestructed, not
    condemned by the sweep in progress, and its destruction is not in the log. -/
theorem converted_keeps_alive (n : Nat) (ops : List Op)
    (halive : ((Arena.new n).run ops).alive = true)
    (a : Alloc) (ch : Chain) (p q : PtrVal) (h : apply a ch p = some q) (hs : q.weak = false)
    (held : some q.toPtr ∈ ((Arena.new n).run ops).root ∨ q.toPtr ∈ ((Arena.new n).run ops).temps ∨
      ∃ j o, Accessible ((Arena.new n).run ops) j ∧
        ((Arena.new n).run ops).ctx.heap.get j = some o ∧ some q.toPtr ∈ o.slots) :
    Accessible ((Arena.new n).run ops) p.obj ∧ Safe ((Arena.new n).run ops).ctx p.obj ∧
    Event.dropped p.obj ∉ ((Arena.new n).run ops).ctx.log ∧
    Event.freed p.obj ∉ ((Arena.new n).run ops).ctx.log := by
  rw [apply_toPtr h, hs] at held
  have hacc : Accessible ((Arena.new n).run ops) p.obj := by
    rcases held with hr | ht | ⟨j, o, hj, ho, hsl⟩
    · exact .root _ hr
    · exact .temp _ ht
    · exact .edge j _ hj ⟨o, ho, hsl⟩
  have hsafe := (inv_run n ops halive).safe_of_accessible hacc
  have ⟨o, ho, hlive, _⟩ := hsafe
  have hl := linv_run n ops
  refine ⟨hacc, hsafe, fun hd => ?_, fun hf => ?_⟩
  · have := hl.droppedDead _ hd o ho
    rw [hlive] at this; cases this
  · have := hl.freedGone _ hf
    rw [ho] at this; cases this

/-- A rooted *weak* converted pointer keeps the block (so `upgrade` / `is_dropped` read a valid
    header) without keeping the value. -/
theorem converted_weak_block_stays (n : Nat) (ops : List Op)
    (halive : ((Arena.new n).run ops).alive = true)
    (a : Alloc) (ch : Chain) (p q : PtrVal) (h : apply a ch p = some q) (hw : q.weak = true)
    (held : some q.toPtr ∈ ((Arena.new n).run ops).root) :
    WeakOK ((Arena.new n).run ops).ctx p.obj ∧ Event.freed p.obj ∉ ((Arena.new n).run ops).ctx.log := by
  rw [apply_toPtr h, hw] at held
  have hok : WeakOK ((Arena.new n).run ops).ctx p.obj := (inv_run n ops halive).cinv.rootOK _ held
  refine ⟨hok, ?_⟩
  intro hf
  obtain ⟨o, ho, _⟩ := hok
  have := (linv_run n ops).freedGone _ hf
  rw [ho] at this; cases this

/-- The allocation a converted pointer refers to (the same block as the original's: `q.obj = p.obj`)
    is destructed at most once and released at most once over any history, and if released then
    destructed (both events in the log; their order is not part of the statement). -/
theorem destructed_once (n : Nat) (ops : List Op) (a : Alloc) (ch : Chain) (p q : PtrVal)
    (h : apply a ch p = some q) :
    q.obj = p.obj ∧
    (((Arena.new n).run ops).ctx.log.count (.dropped p.obj) ≤ 1) ∧
    (((Arena.new n).run ops).ctx.log.count (.freed p.obj) ≤ 1) ∧
    (Event.freed p.obj ∈ ((Arena.new n).run ops).ctx.log →
      Event.dropped p.obj ∈ ((Arena.new n).run ops).ctx.log) := by
  have hl := linv_run n ops
  exact ⟨(apply_same h).1, List.nodup_iff_count.mp hl.nodup _, List.nodup_iff_count.mp hl.nodup _,
    hl.freedDropped _⟩

/-- Every strong pointer obtained by any chain from the allocating call's result dereferences to
    the original value: at the allocated type it sees the constructed type and *all* its value
    tokens, after `unsize!` the `[E]` view of all elements or the `dyn` view backed by the
    constructed type's value, after `erase` a `&()`.  `deref` answers `none` for metadata that
    does not fit exactly (a lost, shortened or inflated length, a foreign vtable), so this rests
    on `metadata_exact`: no chain loses or changes the length or the vtable.
    (Hypothesis `hlen`: the value has as many tokens as its type says.) -/
theorem deref_original_value (a : Alloc) (tyTag : Nat) (tokens : List Nat)
    (hlen : tokens.length = a.target.elemCount) (ch : Chain) (q : PtrVal)
    (h : apply a ch (initPtr a) = some q) (hs : q.weak = false) :
    deref (store a tyTag tokens) q = some (fullView (store a tyTag tokens) q.ty) := by
  obtain ⟨ho, hf, hw⟩ := from_alloc a ch q h
  have hm := derefMeta_wf hw
  simp only [deref, store, hs, ho, hf, bne_self_eq_false, Bool.or_self, Bool.false_eq_true, if_false, hm]
  cases hty : q.ty
  · -- orig: the length, if any, is the header's
    cases hl : a.target.hdrLen with
    | none => simp [fatMeta, hl, fullView]
    | some k =>
      simp [fatMeta, hl, fullView, Target.visible_hdrLen hl,
        List.take_of_length_le (Nat.le_of_eq hlen)]
  · simp [fullView]
  · cases ht : a.target <;> rw [ht] at hlen <;> simp [fatMeta, fullView, ht]
    -- only `[E; n]` as `[E]` carries a length
    exact List.take_of_length_le (Nat.le_of_eq hlen)

/-- A weak result dereferences (after `upgrade`) to the original value as long as `upgrade`
    succeeds. -/
theorem deref_after_upgrade (a : Alloc) (tyTag : Nat) (tokens : List Nat)
    (hlen : tokens.length = a.target.elemCount) (ch : Chain) (q : PtrVal)
    (h : apply a ch (initPtr a) = some q) (hw : q.weak = true) (hu : a.upgradable = true) :
    ∃ r, step a .upgrade q = some r ∧
      deref (store a tyTag tokens) r = some (fullView (store a tyTag tokens) q.ty) := by
  have hstep : step a .upgrade q = some { q with weak := false } := by
    rw [step_upgrade hw, if_pos hu]
  have hch : apply a (ch ++ [.upgrade]) (initPtr a) = some { q with weak := false } := by
    simp only [apply_append, h, Option.bind_some, apply, hstep]
  exact ⟨_, hstep, deref_original_value a tyTag tokens hlen _ _ hch rfl⟩

-- a weak thin slice pointer, upgraded: all three elements of the constructed type
example : ∃ q r, apply ⟨5, .slice 3, true, false⟩ [.asThin, .downgrade, .ptrKind] (initPtr ⟨5, .slice 3, true, false⟩) = some q ∧
    q.weak = true ∧ step ⟨5, .slice 3, true, false⟩ .upgrade q = some r ∧
    deref (store ⟨5, .slice 3, true, false⟩ 42 [10, 11, 12]) r = some (.whole 42 [10, 11, 12]) :=
  ⟨_, _, rfl, rfl, rfl, by decide +kernel⟩

/-- Chain independence of destruction: the collector destructs the block a pointer refers to
    through the block's *header* (`destructVia`), so for every result `q` of every chain from the
    allocating call — unsized, erased, thin, cast, weak, round-tripped through raw pointers — it
    does exactly what it does for the original pointer: it runs the drop glue of the type the value
    was *constructed* as on *all* original tokens (for `[E]` / `str` / `SliceWithHeader`: with the
    length recorded at allocation, not the pointer's).  The reason is `from_alloc`: every chain
    keeps the block and the address, which is all `destructVia` looks at.
    (`destruct_through_pointer_would_differ` shows this is not true of a model that destructs
    through the pointer's static type and metadata.) -/
theorem destruct_chain_independent (a : Alloc) (tyTag : Nat) (tokens : List Nat)
    (hlen : tokens.length = a.target.elemCount) (ch : Chain) (q : PtrVal)
    (h : apply a ch (initPtr a) = some q) :
    destructVia (store a tyTag tokens) q = destructVia (store a tyTag tokens) (initPtr a) ∧
    destructVia (store a tyTag tokens) q = some (tyTag, tokens) := by
  obtain ⟨ho, hf, _⟩ := from_alloc a ch q h
  obtain ⟨ho', hf', _⟩ := from_alloc a [] (initPtr a) rfl
  have key : ∀ p : PtrVal, p.obj = a.id → p.off = 0 →
      destructVia (store a tyTag tokens) p = some (tyTag, tokens) := by
    intro p hpo hpf
    simp only [destructVia, store, hpo, hpf, bne_self_eq_false, Bool.or_self, Bool.false_eq_true, if_false]
    cases hl : a.target.hdrLen with
    | none => rfl
    | some k =>
      simp only [Target.visible_hdrLen hl, List.take_of_length_le (Nat.le_of_eq hlen)]
  exact ⟨(key q ho hf).trans (key _ ho' hf').symm, key q ho hf⟩

/-- The counter-model: if destruction went through the *pointer* (glue of its static type,
    length from its carried metadata — what an owning `Box<T>` does), it would depend on the
    chain: after `erase` nothing would be destructed, a thin slice pointer would destruct no
    element, `[E; n]` unsized would run `[E]`'s glue.  So `destruct_chain_independent` is a
    property of destructing through the header, not of the vocabulary. -/
theorem destruct_through_pointer_would_differ :
    (∃ (a : Alloc) (tokens : List Nat) (ch : Chain) (q : PtrVal),
      tokens.length = a.target.elemCount ∧ apply a ch (initPtr a) = some q ∧
      destructViaMeta (store a 7 tokens) q ≠ destructVia (store a 7 tokens) q ∧
      destructViaMeta (store a 7 tokens) (initPtr a) = destructVia (store a 7 tokens) (initPtr a)) ∧
    (∃ (q : PtrVal), apply ⟨5, .slice 3, true, false⟩ [.asThin] (initPtr ⟨5, .slice 3, true, false⟩) = some q ∧
      destructViaMeta (store ⟨5, .slice 3, true, false⟩ 7 [1, 2, 3]) q = some (7, []) ∧
      destructVia (store ⟨5, .slice 3, true, false⟩ 7 [1, 2, 3]) q = some (7, [1, 2, 3])) := by
  exact ⟨⟨⟨5, .sized, true, false⟩, [9], [.erase], _, rfl, rfl, by decide +kernel, by decide +kernel⟩,
    ⟨_, rfl, by decide +kernel, by decide +kernel⟩⟩

private theorem alloc_temp (A0 : Arena) (nt : Bool) (slots : List Slot)
    (hok : (A0.step (.alloc nt slots)).2 ≠ "bad-op") :
    Ptr.strong A0.ctx.heap.fresh ∈ (A0.step (.alloc nt slots)).1.temps := by
  cases hal : A0.alive
  · simp [Arena.step, hal, Arena.bad] at hok
  · have st := step_mutStep hal (op := .alloc nt slots) rfl
    generalize A0.step (.alloc nt slots) = r at st hok ⊢
    obtain ⟨a', out⟩ := r
    cases st with
    | same _ _ hout =>
      rcases hout with h | h | h
      · exact absurd h hok
      · cases h
      · cases h
    | alloc => exact (Arena.mem_push _ _).2 (.inl rfl)
    | hold _ _ _ _ hop => cases hop
    | dangling _ _ _ _ _ hop => cases hop

private theorem alloc_block_live (n : Nat) (pre : List Op) (nt : Bool) (slots : List Slot)
    (hok : (((Arena.new n).run pre).step (.alloc nt slots)).2 ≠ "bad-op")
    (halive : ((Arena.new n).run (pre ++ [.alloc nt slots])).alive = true) :
    ∃ o, ((Arena.new n).run (pre ++ [.alloc nt slots])).ctx.heap.get
      ((Arena.new n).run pre).ctx.heap.fresh = some o ∧ o.live = true := by
  have ht : Ptr.strong ((Arena.new n).run pre).ctx.heap.fresh ∈
      ((Arena.new n).run (pre ++ [.alloc nt slots])).temps := by
    rw [Arena.run_append]; exact alloc_temp _ nt slots hok
  obtain ⟨o, ho, hl, _⟩ := (inv_run n _ halive).safe_of_accessible (.temp _ ht)
  exact ⟨o, ho, hl⟩

/-- The destructor runs of the block `q` refers to, over a history: one per `dropped` event the
    collector logs for that block, each being what the collector does given that pointer. -/
def glueRuns (s : Stored) (q : PtrVal) (log : List Event) : List (Nat × List Nat) :=
  (log.filter (· == .dropped q.obj)).filterMap fun _ => destructVia s q

/-- Destructed once, as its original type — over histories.  Let the block be the one handed out
    by an accepted `.alloc` operation of the history (`hid`, `hok`), holding a well-formed value
    (`hlen`).  Then (1) right after that operation the block exists and is undestructed; and in
    every later state, for every pointer `q` obtained from it by any chain, (2) the collector logs
    at most one destruction of the block `q` refers to, and (3) each logged destruction is the
    constructed type's drop glue on all original tokens — `destruct_chain_independent` applied at
    the event — whatever `q`'s static type, kind or metadata; (4) there are as many such runs as
    `dropped` events for the block. -/
theorem destructed_as_original_type (n : Nat) (pre post : List Op) (nt : Bool) (slots : List Slot)
    (a : Alloc) (tyTag : Nat) (tokens : List Nat) (hlen : tokens.length = a.target.elemCount)
    (hid : a.id = ((Arena.new n).run pre).ctx.heap.fresh)
    (hok : (((Arena.new n).run pre).step (.alloc nt slots)).2 ≠ "bad-op")
    (halive : ((Arena.new n).run (pre ++ [.alloc nt slots])).alive = true)
    (ch : Chain) (q : PtrVal) (h : apply a ch (initPtr a) = some q) :
    (∃ o, ((Arena.new n).run (pre ++ [.alloc nt slots])).ctx.heap.get a.id = some o ∧ o.live = true) ∧
    (glueRuns (store a tyTag tokens) q ((Arena.new n).run (pre ++ .alloc nt slots :: post)).ctx.log).length ≤ 1 ∧
    (∀ r, r ∈ glueRuns (store a tyTag tokens) q ((Arena.new n).run (pre ++ .alloc nt slots :: post)).ctx.log →
      r = (tyTag, tokens)) ∧
    (glueRuns (store a tyTag tokens) q ((Arena.new n).run (pre ++ .alloc nt slots :: post)).ctx.log).length =
      ((Arena.new n).run (pre ++ .alloc nt slots :: post)).ctx.log.count (.dropped a.id) := by
  -- every logged destruction of the block runs the same glue on the same tokens
  have hg : ∀ log : List Event, glueRuns (store a tyTag tokens) q log =
      List.replicate (log.count (.dropped a.id)) (tyTag, tokens) := fun log => by
    rw [glueRuns, (destruct_chain_independent a tyTag tokens hlen ch q h).2, (from_alloc a ch q h).1,
      List.count_eq_length_filter, List.filterMap_eq_map', List.map_const']
  rw [hg, List.length_replicate]
  exact ⟨hid ▸ alloc_block_live n pre nt slots hok halive,
    List.nodup_iff_count.mp (linv_run n _).nodup _, fun r hr => List.eq_of_mem_replicate hr, rfl⟩

/-- The shared pointer is returned exactly for zero-sized types whose alignment does not exceed
    the cache's.  (Immediate from the definition of `zstShared`, which transcribes the test of
    `alloc_zst`; that the implementation follows this rule is what the ZstCache grid of
    harness_conv observes — the assurance comes from there, not from this unfolding.) -/
theorem zst_shared_iff (size align maxAlign : Nat) :
    zstShared size align maxAlign = true ↔ size = 0 ∧ align ≤ maxAlign := by
  simp [zstShared]

/-- `alloc` returns the cache's block iff the type qualifies; otherwise a fresh block that holds
    the value.  (`next` is the id of the next allocation; the cache's block is older.)
    (Immediate from the definition of `Cache.alloc`; assurance from harness_conv's `zst` / `zkeep`
    grids: `ptr_eq`, `is_cached`, `total_gc_count`.) -/
theorem zst_alloc (c : Cache) (next size align : Nat) (hc : c.obj < next) :
    ((c.alloc next size align).obj = c.obj ↔ size = 0 ∧ align ≤ c.maxAlign) ∧
    ((c.alloc next size align).fresh = true ↔ ¬ (size = 0 ∧ align ≤ c.maxAlign)) ∧
    ((c.alloc next size align).fresh = true → (c.alloc next size align).obj = next) := by
  unfold Cache.alloc
  rw [← zst_shared_iff]
  cases zstShared size align c.maxAlign <;> simp <;> omega

/-- All qualifying requests — of whatever types — alias the one block of the cache.
    (Immediate from the definition; assurance from harness_conv's `alias` grid.) -/
theorem zst_shared_alias (c : Cache) (n1 n2 s1 a1 s2 a2 : Nat)
    (h1 : zstShared s1 a1 c.maxAlign = true) (h2 : zstShared s2 a2 c.maxAlign = true) :
    (c.alloc n1 s1 a1).obj = (c.alloc n2 s2 a2).obj := by
  simp [Cache.alloc, h1, h2]

/-- In particular: two qualifying requests to one `ZstCache` — of any two types, e.g. two
    zero-sized types later unsized to the same `dyn Tr` (different vtables) or `[(); 2]` and
    `[(); 3]` unsized to `[()]` (different lengths) — give `ptr_eq` pointers after any chains. -/
theorem zst_cache_aliases_ptr_eq (c : Cache) (n1 n2 s1 al1 s2 al2 : Nat) (t1 t2 : Target)
    (l1 l2 d1 d2 : Bool) (hs1 : zstShared s1 al1 c.maxAlign = true)
    (hs2 : zstShared s2 al2 c.maxAlign = true) (ch1 ch2 : Chain) (q1 q2 : PtrVal)
    (h1 : apply ⟨(c.alloc n1 s1 al1).obj, t1, l1, d1⟩ ch1 (initPtr ⟨(c.alloc n1 s1 al1).obj, t1, l1, d1⟩) = some q1)
    (h2 : apply ⟨(c.alloc n2 s2 al2).obj, t2, l2, d2⟩ ch2 (initPtr ⟨(c.alloc n2 s2 al2).obj, t2, l2, d2⟩) = some q2) :
    samePtr q1 q2 = true := by
  rw [aliasing_results_ptr_eq _ _ ch1 ch2 q1 q2 h1 h2]
  exact decide_eq_true (zst_shared_alias c n1 n2 s1 al1 s2 al2 hs1 hs2)

/-- The row of the source-derived `Collect` table (C16, regenerated from /repo by eng_collect)
    for `impl Collect for ZstCache`. -/
def zstCacheRow : Option CollectTy.Entry :=
  Generated.collectTable.entries.find? fun e =>
    e.text == "impl<'gc, const MAX_ALIGN: usize> Collect for ZstCache<'gc, MAX_ALIGN>"

/-- What a traced `ZstCache` value reports to the collector according to that row: its
    `cached_ptr`, provided the impl keeps `NEEDS_TRACE` true (so that no container's
    `cc.trace(&cache)` short-circuits) and its `trace` mentions the field. -/
def cacheReports (c : Cache) : List Slot :=
  match zstCacheRow with
  | some e => if e.constNeeds && e.tracedFields.contains "cached_ptr" then [some (.strong c.obj)] else []
  | none => []

/-- The table fact: on the current tree the `ZstCache` impl has a literal `NEEDS_TRACE = true` and
    traces `cached_ptr`, its only `'gc` field.  (Fails to build on a tree where it does not.) -/
theorem zst_cache_traces_cached_ptr (c : Cache) : cacheReports c = [some (.strong c.obj)] := by
  have h : (zstCacheRow.map fun e => (e.constNeeds && e.tracedFields.contains "cached_ptr", e.ptrFields)) =
      some (true, ["cached_ptr"]) := by decide +kernel
  -- `rw`, not `unfold`: to reduce the `match`, `unfold` would evaluate the row a second time
  rw [cacheReports]
  generalize zstCacheRow = r at h ⊢
  obtain ⟨e, rfl, he⟩ := Option.map_eq_some_iff.1 h
  simp only [(Prod.mk.inj he).1, if_true]

/-- A rooted cache keeps serving the same, valid block.  Let the cache's block be the one handed
    out by an accepted `.alloc false []` operation of the history (`ZstCache::new`:
    `Gc::new_static` of a pointer-free value), and let — in some later state — everything a traced
    `ZstCache` reports (`cacheReports`, by the C16 table row: its `cached_ptr`) be among the slots
    of the root or of an object the client can name (the cache sits in the root, or in a container
    / struct field that is traced).  Then a *later* `alloc` of any qualifying zero-sized type
    returns that very block, allocates nothing, and the block is still allocated, undestructed and
    not condemned: the pointer is valid and `ptr_eq` to every earlier one (`zst_shared_alias`).
    (`Cache` itself is inert data; the content is C01's safety at the block the history really
    allocated, plus the table fact.  That a cache inside `Option` / `Box` / `Vec` / a struct field
    is traced is C16's claim and is observed by harness_conv's `zkeep` cases.) -/
theorem zst_cache_rooted_block_kept (n : Nat) (pre post : List Op) (c : Cache)
    (hid : c.obj = ((Arena.new n).run pre).ctx.heap.fresh)
    (hok : (((Arena.new n).run pre).step (.alloc false [])).2 ≠ "bad-op")
    (halive1 : ((Arena.new n).run (pre ++ [.alloc false []])).alive = true)
    (halive : ((Arena.new n).run (pre ++ .alloc false [] :: post)).alive = true)
    (held : ∀ s, s ∈ cacheReports c →
      s ∈ ((Arena.new n).run (pre ++ .alloc false [] :: post)).root ∨
      ∃ j o, Accessible ((Arena.new n).run (pre ++ .alloc false [] :: post)) j ∧
        ((Arena.new n).run (pre ++ .alloc false [] :: post)).ctx.heap.get j = some o ∧ s ∈ o.slots)
    (next size align : Nat) (hq : zstShared size align c.maxAlign = true) :
    (∃ o, ((Arena.new n).run (pre ++ [.alloc false []])).ctx.heap.get c.obj = some o ∧ o.live = true) ∧
    (c.alloc next size align).obj = c.obj ∧ (c.alloc next size align).fresh = false ∧
    Safe ((Arena.new n).run (pre ++ .alloc false [] :: post)).ctx (c.alloc next size align).obj ∧
    Event.dropped c.obj ∉ ((Arena.new n).run (pre ++ .alloc false [] :: post)).ctx.log ∧
    Event.freed c.obj ∉ ((Arena.new n).run (pre ++ .alloc false [] :: post)).ctx.log := by
  have hres : c.alloc next size align = ⟨c.obj, false, 1, 0⟩ := if_pos hq
  have hheld := held (some (.strong c.obj))
    (by rw [zst_cache_traces_cached_ptr]; exact List.mem_singleton.2 rfl)
  -- the cached pointer, as the result of the empty chain from the call that allocated the block
  let a : Alloc := ⟨c.obj, .zcached 1 c.maxAlign, true, false⟩
  have hk := converted_keeps_alive n _ halive a [] (initPtr a) (initPtr a) rfl rfl
    (hheld.imp_right Or.inr)
  rw [hres]
  exact ⟨hid ▸ alloc_block_live n pre false [] hok halive1, rfl, rfl, hk.2.1, hk.2.2.1, hk.2.2.2⟩

/-- The value handed to `alloc` is destructed exactly once in either case: at once when the
    shared pointer is returned (the shared block holds no `T`), with its block otherwise.
    (Immediate from the definition, which records what `alloc` does with its by-value argument;
    assurance from harness_conv's `zst` grid: destructor log counts at allocation and at release.) -/
theorem zst_value_destructed_once (c : Cache) (next size align : Nat) :
    (c.alloc next size align).dropsNow + (c.alloc next size align).dropsLater = 1 ∧
    ((c.alloc next size align).dropsNow = 1 ↔ zstShared size align c.maxAlign = true) := by
  unfold Cache.alloc
  cases zstShared size align c.maxAlign <;> simp

/-- The shared address is aligned for every qualifying type, given that it is aligned to the
    cache's own `MAX_ALIGN` (alignments are powers of two). -/
theorem zst_shared_aligned (c : Cache) (size align : Nat) (hm : Layout.isPow2 c.maxAlign = true)
    (ha : Layout.isPow2 align = true) (hc : c.addr % c.maxAlign = 0)
    (hs : zstShared size align c.maxAlign = true) : c.addr % align = 0 := by
  have hle := ((zst_shared_iff _ _ _).mp hs).2
  exact Nat.mod_eq_zero_of_dvd
    (Nat.dvd_trans (Layout.isPow2_dvd ha hm hle) (Nat.dvd_of_mod_eq_zero hc))

/-- … and the cache's own block is so aligned: `ZstCache::new` allocates a
    `#[repr(align(MAX_ALIGN))]` unit struct through `Gc::new_static`, i.e. `GcPtr::alloc` with the
    sized kind and value layout `(0, MAX_ALIGN)`; by C17 the value pointer is aligned to it for
    every block address the allocator may return.  Hence every pointer `alloc` shares is aligned
    for its type. -/
theorem zst_cached_ptr_aligned (maxSize : Nat) (hdr : Layout.Layout) (maxAlign block : Nat)
    (p : Layout.Plan) (hh : Layout.IsTypeLayout maxSize hdr)
    (hv : (⟨0, maxAlign⟩ : Layout.Layout).Valid maxSize)
    (h : Layout.gcAlloc maxSize hdr (Layout.sizedKind ⟨0, maxAlign⟩) 0 = some p)
    (hb : block % p.alloc.align = 0) (obj size align : Nat) (ha : Layout.isPow2 align = true)
    (hs : zstShared size align maxAlign = true) :
    Layout.valuePtr block p % maxAlign = 0 ∧
    (Cache.mk obj (Layout.valuePtr block p) maxAlign).addr % align = 0 := by
  obtain ⟨hval, hal, _⟩ := C17.value_aligned maxSize hdr _ 0 p block (Layout.sizedKind_ok hv) hh h hb
  have hv' : p.value = ⟨0, maxAlign⟩ := by
    simp [Layout.sizedKind] at hval; exact hval.symm
  rw [hv'] at hal
  exact ⟨hal, zst_shared_aligned ⟨obj, _, maxAlign⟩ size align hv.1 ha hal hs⟩

/-! ### Non-vacuity -/

/-- A slice of length 3: thin, erased, back to thin through the raw pointer, fat again, kind
    erased — same allocation, offset 0, and the length is 3 again. -/
def sliceAlloc : Alloc := ⟨0, .slice 3, true, false⟩
def sliceChain : Chain := [.asThin, .erase, .fromThin, .asFat, .eraseKind]

example : wellTyped sliceAlloc.target sliceChain (initPtr sliceAlloc) = true := by decide +kernel
example : apply sliceAlloc sliceChain (initPtr sliceAlloc) =
    some ⟨0, 0, false, false, .unit, .orig, .len 3⟩ := by decide +kernel
-- the typing discipline rejects what rustc rejects
example : wellTyped sliceAlloc.target [.eraseKind, .asThin] (initPtr sliceAlloc) = false := by decide +kernel
example : wellTyped sliceAlloc.target [.cast] (initPtr sliceAlloc) = false := by decide +kernel
example : wellTyped (.sized) [.unsize, .asThin] (initPtr ⟨0, .sized, true, false⟩) = false := by decide +kernel
example : wellTyped (.sized) [.asThin, .unsize, .downgrade, .erase, .cast, .upgrade, .stash]
    (initPtr ⟨0, .sized, true, false⟩) = true := by decide +kernel
-- a dead upgrade is the only way a well-typed chain fails
example : apply ⟨0, .sized, false, false⟩ [.downgrade, .erase, .upgrade] (initPtr ⟨0, .sized, false, false⟩) = none := by
  decide +kernel
example : apply ⟨0, .sized, true, true⟩ [.erase, .cast, .upgrade] (initWeak ⟨0, .sized, true, true⟩) = none := by
  decide +kernel
example : (chainsOfLen (.slice 3) 2 (initPtr sliceAlloc)).length = 49 := by decide +kernel

/-- The converted slice pointer as the collector sees it (a chain that failed would give a
    pointer the demos below cannot store). -/
def convPtr : Ptr :=
  match apply sliceAlloc sliceChain (initPtr sliceAlloc) with
  | some q => q.toPtr
  | none => .weak 999
def convWeak : Ptr :=
  match apply sliceAlloc (sliceChain ++ [.downgrade]) (initPtr sliceAlloc) with
  | some q => q.toPtr
  | none => .strong 999

example : convPtr = .strong 0 ∧ convWeak = .weak 0 := by decide +kernel

/-- Only the converted pointer is rooted, the original is forgotten; two full cycles. -/
def keepDemo : List Op := [
  .enter .mutateRoot, .alloc false [], .rootStore 0 (some convPtr), .leave,
  .collect .finishCycle .drop none none, .collect .finishCycle .drop none none ]

private theorem keepDemo_run : ((Arena.new 1).run keepDemo).alive = true ∧
    some convPtr ∈ ((Arena.new 1).run keepDemo).root ∧ ((Arena.new 1).run keepDemo).ctx.log = [] := by
  decide +kernel

example : ((Arena.new 1).run keepDemo).alive = true := keepDemo_run.1
example : some convPtr ∈ ((Arena.new 1).run keepDemo).root := keepDemo_run.2.1
example : ((Arena.new 1).run keepDemo).ctx.log = [] := keepDemo_run.2.2

/-- Only a weak converted pointer is rooted: the value goes (once), the block stays; after the
    weak pointer is removed too the block is released (once). -/
def weakDemo : List Op := [
  .enter .mutateRoot, .alloc false [], .downgrade 0, .rootStore 0 (some convWeak), .leave,
  .collect .finishCycle .drop none none, .collect .finishCycle .drop none none ]
def weakDemo2 : List Op := weakDemo ++ [
  .enter .mutateRoot, .rootStore 0 none, .leave,
  .collect .finishCycle .drop none none, .collect .finishCycle .drop none none ]

private theorem weakDemo_run : ((Arena.new 1).run weakDemo).alive = true ∧
    some convWeak ∈ ((Arena.new 1).run weakDemo).root ∧
    ((Arena.new 1).run weakDemo).ctx.log = [.dropped 0] ∧
    (((Arena.new 1).run weakDemo).ctx.heap.get 0).map (·.live) = some false := by
  decide +kernel

private theorem weakDemo2_log : ((Arena.new 1).run weakDemo2).ctx.log = [.freed 0, .dropped 0] := by
  decide +kernel

example : ((Arena.new 1).run weakDemo).alive = true := weakDemo_run.1
example : some convWeak ∈ ((Arena.new 1).run weakDemo).root := weakDemo_run.2.1
example : ((Arena.new 1).run weakDemo).ctx.log = [.dropped 0] := weakDemo_run.2.2.1
example : (((Arena.new 1).run weakDemo).ctx.heap.get 0).map (·.live) = some false :=
  weakDemo_run.2.2.2
example : ((Arena.new 1).run weakDemo2).ctx.log = [.freed 0, .dropped 0] := weakDemo2_log

/-- The value is only weakly rooted when marking finishes and the sweep has started but not
    reached it: it is live, `WhiteWeak`, and the collector model refuses the upgrade — the
    `condemned` state of the conversion model (scenario `sweep` / `ww` of the harness). -/
def condemnedDemo : List Op := [
  .enter .mutateRoot, .alloc false [], .downgrade 0, .rootStore 0 (some convWeak), .leave,
  .collect .finishMarking .sweep none none ]

private theorem condemnedDemo_run : ((Arena.new 1).run condemnedDemo).ctx.phase = .sweep ∧
    (((Arena.new 1).run condemnedDemo).ctx.heap.get 0).map (fun o => (o.live, o.color)) =
      some (true, .whiteWeak) ∧
    (((Arena.new 1).run condemnedDemo).ctx.upgrade 0).2 = false := by
  decide +kernel

example : ((Arena.new 1).run condemnedDemo).ctx.phase = .sweep := condemnedDemo_run.1
example : (((Arena.new 1).run condemnedDemo).ctx.heap.get 0).map (fun o => (o.live, o.color)) =
    some (true, .whiteWeak) := condemnedDemo_run.2.1
example : (((Arena.new 1).run condemnedDemo).ctx.upgrade 0).2 = false := condemnedDemo_run.2.2
example : scenarioState .sweep .ww = (true, true) := rfl

-- deref (block id 5, so that no default value can stand in for a result): after the chain the
-- slice pointer sees all three original elements of the constructed type
def slice5 : Alloc := ⟨5, .slice 3, true, false⟩
example : ∃ q, apply slice5 sliceChain (initPtr slice5) = some q ∧
    deref (store slice5 42 [10, 11, 12]) q = some (.whole 42 [10, 11, 12]) := ⟨_, rfl, by decide +kernel⟩
-- … whereas pointers with a shortened, inflated or lost length (which no chain produces), a foreign
-- vtable, another block or an offset do not dereference to the value at all
example : deref (store slice5 42 [10, 11, 12]) ⟨5, 0, false, false, .slice, .orig, .len 2⟩ = none ∧
    deref (store slice5 42 [10, 11, 12]) ⟨5, 0, false, false, .slice, .orig, .len 4⟩ = none ∧
    deref (store slice5 42 [10, 11, 12]) ⟨5, 0, false, false, .slice, .orig, .none⟩ = none ∧
    deref (store ⟨5, .sized, true, false⟩ 7 [99]) ⟨5, 0, false, false, .unit, .uns, .vtable (.zst 8)⟩ = none ∧
    deref (store slice5 42 [10, 11, 12]) ⟨6, 0, false, false, .slice, .orig, .len 3⟩ = none ∧
    deref (store slice5 42 [10, 11, 12]) ⟨5, 8, false, false, .slice, .orig, .len 3⟩ = none := by decide +kernel
example : ∃ q, apply ⟨5, .sized, true, false⟩ [.asThin, .unsize, .erase, .cast, .unsize] (initPtr ⟨5, .sized, true, false⟩) = some q ∧
    deref (store ⟨5, .sized, true, false⟩ 7 [99]) q = some (.dynOf 7 [99]) := ⟨_, rfl, by decide +kernel⟩
example : ∃ q, apply ⟨5, .swh 2, true, false⟩ [.asThin, .ptr] (initPtr ⟨5, .swh 2, true, false⟩) = some q ∧
    deref (store ⟨5, .swh 2, true, false⟩ 8 [1, 20, 21]) q = some (.whole 8 [1, 20, 21]) := ⟨_, rfl, by decide +kernel⟩
-- destruction goes through the header: the erased thin pointer destructs all three elements with the
-- constructed type's glue, exactly like the original pointer
example : ∃ q, apply slice5 [.asThin, .erase, .asThin] (initPtr slice5) = some q ∧
    destructVia (store slice5 42 [10, 11, 12]) q = some (42, [10, 11, 12]) ∧
    destructViaMeta (store slice5 42 [10, 11, 12]) q = some (0, []) := ⟨_, rfl, by decide +kernel, by decide +kernel⟩
-- over a history: the block of `weakDemo2` (id 0, allocated by its `.alloc` op) is destructed once
example : ∃ q, apply sliceAlloc (sliceChain ++ [.downgrade]) (initPtr sliceAlloc) = some q ∧
    glueRuns (store sliceAlloc 42 [10, 11, 12]) q ((Arena.new 1).run weakDemo2).ctx.log = [(42, [10, 11, 12])] :=
  ⟨_, rfl, by decide +kernel⟩
private theorem keepDemo_alloc : ((Arena.new 1).run [.enter .mutateRoot]).ctx.heap.fresh = 0 ∧
    (((Arena.new 1).run [.enter .mutateRoot]).step (.alloc false [])).2 ≠ "bad-op" ∧
    ((Arena.new 1).run ([.enter .mutateRoot] ++ [.alloc false []])).alive = true := by
  decide +kernel

private theorem keepDemo_reports (s : Slot) (hs : s ∈ cacheReports ⟨0, 4096, 16⟩) :
    s ∈ ((Arena.new 1).run keepDemo).root := by
  rw [zst_cache_traces_cached_ptr] at hs
  obtain rfl := List.mem_singleton.1 hs
  exact keepDemo_run.2.1

-- the hypotheses of `destructed_as_original_type` / `zst_cache_rooted_block_kept` on `keepDemo`:
-- pre = [enter], the `.alloc false []` is accepted and hands out the fresh id 0
example : ((Arena.new 1).run [.enter .mutateRoot]).ctx.heap.fresh = 0 ∧
    (((Arena.new 1).run [.enter .mutateRoot]).step (.alloc false [])).2 ≠ "bad-op" ∧
    ((Arena.new 1).run ([.enter .mutateRoot] ++ [.alloc false []])).alive = true ∧
    keepDemo = [.enter .mutateRoot] ++ .alloc false [] :: keepDemo.drop 2 :=
  ⟨keepDemo_alloc.1, keepDemo_alloc.2.1, keepDemo_alloc.2.2, rfl⟩
-- … and a cache ⟨0, 4096, 16⟩ whose block that is: what it reports (`.strong 0`) is in the root after
-- two full cycles, so a later qualifying `alloc` gets block 0 again
example : ∀ s, s ∈ cacheReports ⟨0, 4096, 16⟩ → s ∈ ((Arena.new 1).run keepDemo).root :=
  keepDemo_reports
example : ((Cache.mk 0 4096 16).alloc 9 0 8).obj = 0 ∧ ((Cache.mk 0 4096 16).alloc 9 0 8).fresh = false := by decide +kernel
-- the theorem instantiated on that history: all hypotheses hold together
example : Safe ((Arena.new 1).run keepDemo).ctx ((Cache.mk 0 4096 16).alloc 9 0 8).obj :=
  (zst_cache_rooted_block_kept 1 [.enter .mutateRoot] (keepDemo.drop 2) ⟨0, 4096, 16⟩ keepDemo_alloc.1.symm
    keepDemo_alloc.2.1 keepDemo_alloc.2.2 keepDemo_run.1 (fun s hs => Or.inl (keepDemo_reports s hs))
    9 0 8 rfl).2.2.2.1

-- `[(); 2]` and `[(); 3]` from one cache, unsized to `[()]`: lengths 2 and 3, still `ptr_eq`
example :
    (do let q1 ← apply ⟨7, .array 2, true, false⟩ [.unsize] (initPtr ⟨7, .array 2, true, false⟩)
        let q2 ← apply ⟨7, .array 3, true, false⟩ [.asThin, .unsize, .ptr] (initPtr ⟨7, .array 3, true, false⟩)
        pure (q1.carried, q2.carried, samePtr q1 q2)) = some (.len 2, .len 3, true) := by decide +kernel
example : samePtr (initPtr ⟨7, .zst 8, true, false⟩) (initPtr ⟨8, .zst 8, true, false⟩) = false := by decide +kernel

-- the ZstCache rule on concrete alignments
example : zstShared 0 8 16 = true ∧ zstShared 0 16 16 = true ∧ zstShared 0 32 16 = false ∧
    zstShared 8 8 16 = false := by decide +kernel
example : (Cache.mk 0 4096 16).alloc 5 0 8 = ⟨0, false, 1, 0⟩ ∧
    (Cache.mk 0 4096 16).alloc 5 0 32 = ⟨5, true, 0, 1⟩ := by decide +kernel

end GcArena.C19
