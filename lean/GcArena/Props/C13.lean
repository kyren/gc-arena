import GcArena.Proofs.WriteCapLemmas
import GcArena.Proofs.WriteCapBridge
import GcArena.Generated.DerefWriteTable
/-!
# C13 — safe code cannot adopt a pointer without a write barrier

Partial (DESIGN §6/§9): the calculus `GcArena.WriteCap` abstracts what a safe client program can
derive from the `Write` API; that rustc admits exactly the programs the calculus describes is
trusted and cross-checked by the compile probes (lib/eng_tables.py, probes/gen_tables.py).
-/
namespace GcArena.C13
open GcArena.WriteCap

/-- Whatever the table, if it satisfies `Table.ok` — every safe constructor is `Gc::write` with a
barrier, `from_static` with a `'static` bound, or `from_mut`; every `DerefWrite` / `IndexWrite` /
`as_write` receiver owns its target exclusively **or** bounds it by `'static`; every `IndexWrite`
impl constrains its index type so that the `Index::index` body that runs is upstream's (std's /
hashbrown's) own element projection, which stays inside the receiver's own storage — never a
downstream crate's (`ProjImpl.idxClosed`); `DerefWrite` / `IndexWrite` are `unsafe trait`s;
`field!` is a pure pattern; every `Unlock` impl stays in place behind an `unsafe fn`; no safe lock
accessor hands out the cell without a barrier, and `unlock_unchecked` / the raw accessors are only
called from `Write::unlock`, `unsafe fn`s or after a barrier — then every item derivable by safe
code is covered: its place is pointer-free, or a write barrier has been applied to every allocated
object through which the place's storage is reachable.  (That every `unlock`ed store is then a
guarded store of the collector model, to which C01 applies, is `derived_store_is_guarded_store`.) -/
theorem covered (t : Table) (hok : t.ok = true) (env : Env) (B : WriteCap.Obj → Prop) (it : Item)
    (h : Der t env B it) : Covered env B it := by
  obtain ⟨hc, hp, hu, hf, hfm, hrs, hmt⟩ := Table.ok_unpack hok
  induction h with
  | gcWrite c o pf hm hk hs hb =>
    have hbar : c.barrier = true := by simpa [Ctor.ok, hk, hs] using hc c hm
    exact .inr fun o' ho' => List.mem_singleton.mp ho' ▸ hb hbar
  | fromStatic c p hm hk hs =>
    have hst : c.staticBound = true := by simpa [Ctor.ok, hk, hs] using hc c hm
    exact .inl hst
  | forge c p hm hs hk =>
    have := hc c hm
    rcases hk with hk | hk | hk <;> simp [Ctor.ok, hk, hs] at this
  | localMut n pf => exact .inr fun o ho => (List.not_mem_nil ho).elim
  | rootMut pf => exact .inr fun o ho => (List.not_mem_nil ho).elim
  | capToMut p pf _ ih => exact ih
  | mutField p pf f _ ih => exact ih
  | mutBox p pf _ ih => exact ih
  | fromMut c p pf _ _ _ _ ih => exact ih
  | field p pf f _ _ ih => exact ih
  | fieldThroughDeref p pf o why hw _ _ => rw [hfm] at hw; cases hw
  | proj pi p pf k hm _ hpt ih =>
    have hok' := hp pi hm
    simp only [ProjImpl.ok, Bool.and_eq_true, Bool.or_eq_true] at hok'
    rcases hok'.1 with hex | hst
    · rcases ih with ih | ih
      · exact .inl (Bool.or_eq_true_iff.mpr (.inl ih))
      · exact .inr fun o ho => ih o (holders_projPlace_exclusive env _ p k hex ▸ ho)
    · exact .inl (Bool.or_eq_true_iff.mpr (.inr hst))
  | indexThroughClient pi p pf o hm _ hopen _ _ =>
    have hok' := hp pi hm
    simp only [ProjImpl.ok, Bool.and_eq_true] at hok'
    rw [hopen] at hok'
    exact absurd hok'.2 (by decide)
  | clientMarkerImpl p pf o hno _ _ => rw [hmt] at hno; cases hno
  | rawSite r p hm hbad =>
    have := hrs r hm
    simp [hbad] at this
  | unlock u p pf _ _ _ ih => exact ih
  | unlockElsewhere u p q pf hm hip _ _ =>
    have := hu u hm
    simp [UnlockImpl.ok, hip] at this
  | rawCell f p hm hbad =>
    have := hf f hm
    simp [hbad] at this

/-! ## Bridge to the collector model

`covered` ends in the calculus' own vocabulary (`Covered`).  The two theorems below connect it to
`Model/Arena.lean`, under the interpretation of `Proofs/WriteCapBridge.lean`: objects are heap ids,
`B := coverB a` is "`Cover.parent o ∈ a.cover`" (a `backward_barrier(o, None)` / `Gc::write` was
issued on `o` in this callback and no collection call happened since), and an `unlock`ed store on
holder `o` is `Op.store .raw o i v`.

What remains informal (and is exercised by the run probes of `probes/gen_tables.py` and by the
collector harness instead): (1) that the holders the calculus assigns to a place are the heap
objects whose slots a real store through that place can change (`holders` / `Env.owners` are an
abstraction of Rust ownership, `Recv.cls` is trusted); (2) that a place whose type is `'static`
(`pf = true`) only ever receives pointer-free values, i.e. `v = none` at the level of slots;
(3) that the `gcWrite` rule's premise `B o` is produced by the program — the table fact
`barrier = true` says `Gc::write` calls `backward_barrier(gc, None)` first, and
`WriteCap.barrier_establishes_cover` shows that this model step puts `Cover.parent o` into the cover
and keeps every earlier one; (4) rustc admitting exactly the derivations of the calculus. -/

/-- **Every store the calculus can derive is covered in the collector model.**  For a table
satisfying `Table.ok`, a store item derived with `B = coverB a`, any holder `o` of its place and any
slot value `v` it may be given (`none` if the place is pointer-free): the collector model's guard
`Arena.coverOK o v` holds — the raw store is not a "bad-op". -/
theorem covered_is_collector_cover (t : Table) (hok : t.ok = true) (a : GcArena.Arena) (env : Env)
    (p : Place) (pf : Bool) (h : Der t env (coverB a) (.store p pf))
    (o : WriteCap.Obj) (ho : o ∈ holders env p) (v : GcArena.Slot) (hv : pf = true → v = none) :
    a.coverOK o v = true :=
  covered_coverOK a env (.store p pf) (covered t hok env (coverB a) _ h) o ho v hv

/-- … hence it is an accepted instance of `Op.store` with path `StorePath.raw`: with the side
conditions every store shares (a callback is running, the client holds `o` and the value, slot `i`
exists, a type with `NEEDS_TRACE = false` is given no pointer) `stepBody` executes it as `setSlot`,
and the collector invariant `Inv` — from which C01 follows (`Props/C01`, `inv_run`) — is preserved. -/
theorem derived_store_is_guarded_store (t : Table) (hok : t.ok = true) (a : GcArena.Arena)
    (env : Env) (p : Place) (pf : Bool) (h : Der t env (coverB a) (.store p pf))
    (o : WriteCap.Obj) (ho : o ∈ holders env p) (fin : Bool) (i : Nat) (v s : GcArena.Slot)
    (hv : pf = true → v = none)
    (hcb : a.cb.isSome = true) (hh : a.holds (.strong o) = true) (hs : a.holdsSlot v = true)
    (hslot : GcArena.Arena.slotOf a.ctx o i = some s)
    (htr : v.isSome = true → GcArena.Arena.isTracing a.ctx o = true)
    (hinv : GcArena.Inv a) (hm : a.marked = false) :
    a.stepBody fin (.store .raw o i v) =
        ({ a with ctx := GcArena.Arena.setSlot a.ctx o i v }, "ok") ∧
      GcArena.Inv (a.stepBody fin (.store .raw o i v)).1 :=
  ⟨raw_store_accepted a fin o i v s (covered_is_collector_cover t hok a env p pf h o ho v hv)
      hcb hh hs hslot htr,
   GcArena.sb_store hinv hm fin .raw o i v⟩

/-- The table extracted from the current source tree satisfies the hypothesis of `covered`. -/
theorem table_ok : Generated.derefWriteTable.ok = true := by decide +kernel

/-- Plain interior mutability cannot hold pointers: every `Collect` impl for a std cell type bounds
its content by `'static` and has `NEEDS_TRACE = false` with no `trace`. -/
theorem cells_static : Generated.derefWriteTable.cellsStatic = true := by decide

/-- Lower bounds on the extracted table (a translator that silently drops rows cannot make
`table_ok` / `cells_static` vacuous): the `Write` constructors, the `DerefWrite` / `IndexWrite`
projection impls, one `Unlock` impl per lock type, the lock types' methods and the two std cell
impls are there. -/
theorem required_write_rows :
    Generated.derefWriteTable.ctors.length ≥ 4 ∧ Generated.derefWriteTable.projs.length ≥ 10 ∧
    Generated.derefWriteTable.unlocks.length ≥ 3 ∧ Generated.derefWriteTable.lockFns.length ≥ 30 ∧
    Generated.derefWriteTable.cells.length ≥ 2 ∧ Generated.derefWriteTable.unclassified = [] := by
  decide +kernel

/-- D2a shape: a local `&T` pointing into object 7 (not barriered), `from_mut`, `as_deref`. -/
theorem unsound_witness_from_mut (t : Table) (pi : ProjImpl) (c : Ctor)
    (hpi : pi ∈ t.projs) (hex : pi.recv.cls.exclusive = false) (hns : pi.targetStatic = false)
    (hc : c ∈ t.ctors) (hk : c.kind = .fromMut) (hs : c.isUnsafe = false) :
    ∃ env B it, Der t env B it ∧ ¬ Covered env B it :=
  ⟨⟨fun _ => [7]⟩, fun _ => False,
    uncovered_of_shared_proj pi hpi hex hns (Der.fromMut c _ _ hc hk hs (Der.localMut 0 false))
      (fun _ ho => nomatch ho) (List.mem_singleton.mpr rfl) id⟩

/-- D2b shape: objects 1 and 2 co-own cell 0; `Gc::write` barriers 2 only; `as_deref`. -/
theorem unsound_witness_gc_write (t : Table) (pi : ProjImpl) (c : Ctor)
    (hpi : pi ∈ t.projs) (hex : pi.recv.cls.exclusive = false) (hns : pi.targetStatic = false)
    (hc : c ∈ t.ctors) (hk : c.kind = .gcWrite) (hs : c.isUnsafe = false) :
    ∃ env B it, Der t env B it ∧ ¬ Covered env B it :=
  ⟨⟨fun _ => [1, 2]⟩, fun o => o = 2,
    uncovered_of_shared_proj pi hpi hex hns (Der.gcWrite c 2 false hc hk hs (fun _ => rfl))
      (fun o ho => by simp [holders] at ho; simp [ho]) (o := 1) (by simp) (by decide)⟩

/-- Tables containing an unbounded `&T` / `Rc<T>` / `Arc<T>` `DerefWrite` (the pinned tree's D2a,
D2b) admit derivations with an uncovered holder, by either route. -/
theorem unsound_witnesses (t : Table) (pi : ProjImpl) (hpi : pi ∈ t.projs)
    (hr : pi.recv = .ref ∨ pi.recv = .rc ∨ pi.recv = .arc) (hns : pi.targetStatic = false) :
    (∀ c, c ∈ t.ctors → c.kind = .fromMut → c.isUnsafe = false →
        ∃ env B it, Der t env B it ∧ ¬ Covered env B it) ∧
    (∀ c, c ∈ t.ctors → c.kind = .gcWrite → c.isUnsafe = false →
        ∃ env B it, Der t env B it ∧ ¬ Covered env B it) := by
  have hex : pi.recv.cls.exclusive = false := by
    rcases hr with h | h | h <;> simp [h, Recv.cls, OwnClass.exclusive]
  exact ⟨fun c hc hk hs => unsound_witness_from_mut t pi c hpi hex hns hc hk hs,
         fun c hc hk hs => unsound_witness_gc_write t pi c hpi hex hns hc hk hs⟩

/-- Mutant shape "index type bounded only by `Self: Index<I>`": objects 1 and 2, `Gc::write`
barriers 2 (the vector), the client's `Index<Local>` impl looks through the `Gc` stored in it and
returns a reference into object 1, which was never barriered. -/
theorem unsound_witness_client_index (t : Table) (pi : ProjImpl) (c : Ctor)
    (hpi : pi ∈ t.projs) (hk : pi.kind = .index) (hopen : pi.idxClosed t.projs = false)
    (hc : c ∈ t.ctors) (hck : c.kind = .gcWrite) (hs : c.isUnsafe = false) :
    ∃ env B it, Der t env B it ∧ ¬ Covered env B it := by
  refine ⟨⟨fun _ => []⟩, fun o => o = 2, .cap (.obj 1) false, ?_, ?_⟩
  · exact Der.indexThroughClient pi (.obj 2) false 1 hpi hk hopen
      (Der.gcWrite c 2 false hc hck hs (fun _ => rfl))
  · intro h
    rcases h with h | h
    · simp [Item.ptrFree] at h
    · have h1 : (1 : Nat) = 2 := h 1 (by simp [Item.place, holders])
      exact absurd h1 (by decide)

open GcArena.WriteCap.Example in
/-- The delivered mutant. With the slice entries as extracted:
* the crate's `IndexWrite<I> for Vec<T> where [T]: IndexWrite<I>, Self: Index<I>` is accepted
  (`I` ranges over the six concrete std index types of `[T]`);
* the mutated `IndexWrite<I> for Vec<T> where Self: Index<I>` is rejected, and so is the whole
  table containing it, and it admits an uncovered derivation;
* the `delegates` form is rejected as soon as the delegate's own entries are not all concrete, for
  a fundamental receiver (`Box<Local>` is local to a downstream crate), and for the analogous array
  mutant `where [T]: Index<I>` (std's array impl forwards to the slice's `Index` impl). -/
theorem mutant_witness :
    (tableWith (sliceEntries ++ [vecCurrent])).ok = true ∧
    vecMutant.ok (sliceEntries ++ [vecMutant]) = false ∧
    (tableWith (sliceEntries ++ [vecMutant])).ok = false ∧
    (∃ env B it, Der (tableWith (sliceEntries ++ [vecMutant])) env B it ∧ ¬ Covered env B it) ∧
    vecCurrent.ok (vecMutant :: { vecMutant with recv := .slice } :: sliceEntries) = false ∧
    ({ vecCurrent with recv := .box }).ok (sliceEntries ++ [vecCurrent]) = false ∧
    arrayMutant.ok (sliceEntries ++ [arrayMutant]) = false := by
  refine ⟨by decide +kernel, by decide +kernel, by decide +kernel, ?_, by decide +kernel,
    by decide +kernel, by decide +kernel⟩
  exact unsound_witness_client_index _ vecMutant gcWriteCtor
    (List.mem_append_right _ (List.mem_singleton.mpr rfl)) rfl rfl (List.mem_singleton.mpr rfl) rfl rfl

/-- Non-vacuity: with the current table, `Gc::write(mc, g)` on object 3, a field projection and an
`unlock` are derivable (so `covered` is about a non-empty relation) … -/
example : Der Generated.derefWriteTable ⟨fun _ => []⟩ (fun o => o = 3) (.cap (.field (.obj 3) 0) false) := by
  refine Der.field _ _ _ (by decide +kernel) ?_
  exact Der.gcWrite ⟨"Gc::write", .gcWrite, false, false, true⟩ 3 false (by decide +kernel) rfl rfl
    (fun _ => rfl)

/-- … and the hypothesis of `covered` is falsifiable: the pinned tree's table shape fails it. -/
example : Table.ok { Generated.derefWriteTable with
    projs := [{ kind := .deref, recv := .rc, text := "Rc<T>", targetStatic := false, idx := .na, gate := "" }] } = false := by
  decide +kernel

open GcArena.WriteCap.Example in
/-- The entries `mutant_witness` is stated about are the crate's: modulo the header text and the cfg
gate, every `IndexWrite<_> for [T]` row of the generated table is one of `Example.sliceEntries` and
conversely, and the generated `Vec` row is `Example.vecCurrent` (index type delegated to `[T]`). -/
theorem slice_entries_match :
    let strip := fun (p : ProjImpl) => { p with text := "", gate := "" }
    let gen := (Generated.derefWriteTable.projs.filter
      (fun p => p.kind == .index && p.recv == .slice)).map strip
    gen ≠ [] ∧ gen.all ((sliceEntries.map strip).contains ·) = true ∧
    (sliceEntries.map strip).all (gen.contains ·) = true ∧
    ((Generated.derefWriteTable.projs.filter (fun p => p.kind == .index && p.recv == .vec)).map strip)
      = [strip vecCurrent] := by decide +kernel

/-! ## The clause, over the calculus

"No program free of unsafe code can make an already allocated object come to hold a `Gc` without a
write barrier on every object through which that storage is reachable" — rendered over the
derivation calculus of `Model/WriteCap.lean` for the **current** crate (the regenerated table).
What this rendering does *not* contain: that rustc admits exactly the derivations of the calculus
(trusted, cross-checked by the probe corpus), and the identification of the calculus' holders /
barrier predicate with the collector model (see `covered_is_collector_cover` and the list of
informal steps there). -/
def no_unbarriered_adoption_statement : Prop :=
  ∀ (env : Env) (B : WriteCap.Obj → Prop) (it : Item),
    Der Generated.derefWriteTable env B it → Covered env B it

theorem no_unbarriered_adoption : no_unbarriered_adoption_statement :=
  fun env B it h => covered _ table_ok env B it h

end GcArena.C13
