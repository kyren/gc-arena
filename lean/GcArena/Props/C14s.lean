import GcArena.Proofs.DynReach
import GcArena.Props.C14
import GcArena.Props.C02
/-!
# C14 (companion) — the DynamicRootSet slot table composed with the collector, as theorems

"An object stashed in a DynamicRootSet that is reachable from the root, and everything reachable
from it, survives every collection while at least one DynamicRoot handle for it (the original or
any clone) exists, and becomes collectable once the last such handle is dropped.  fetch returns a
pointer to the very object that was stashed …"  — quantified "for every interleaving of stash,
clone, drop, fetch across several handles, sets and arenas with collection increments in every
phase, including slot reuse after frees".

Props/C14.lean proves the slot-table half (`DynRoots`: the table holds exactly the pointers of the
live handles; foreign handles; slot reuse; handles outliving their set); the collector development
proves what happens to pointers an accessible object reports (`inv_run`, C01, C02).  Here the two
are **one system**, in two versions.

## Full strength: the general system (`GcArena.DynReach`, Proofs/DynReach.lean)

A set object may be referenced from anywhere in the heap (or from nowhere); its slot list is exactly
the image of the slot table and grows with it (no capacity); a handle may be dropped in any state of
the arena — any phase, inside or outside a callback, between `finish_marking()` and
`MarkedArena::finalize` (the `finalize` callback may fetch and stash); a set is destroyed exactly
when its object is destructed (swept, or the arena dropped); other arenas and their sets act as an
environment.  Interleaved with arbitrary collector-model ops (`GOp.gc`).

Each clause is a `def X_statement : Prop` with `theorem X : X_statement`.

What this rests on, beyond the two models (see the docstring of Proofs/DynReach.lean): one arena is
modelled in detail, the others as environment ops on their own sets; two transitions of the set
object are not `Arena.step`s (growing the slot list by an empty slot; clearing a slot — both
`reslot`, proved to preserve the collector invariant `Inv` in every state); handle ops are atomic
between collector-model ops — a drop inside a destructor during a sweep step is the history with the
call split after that step, justified by `DynReach.clear_commutes_sweepOne` (clearing commutes with
a sweep step on another object); `GSys` has no dynamic tie of its own (reading + the two component
ties); `ref_count` overflow and `Weak::as_ptr` stay trusted.

## Existing ops only: the pinned system (`GcArena.DynCompose`, Proofs/DynCompose.lean) — `…_partial`

The earlier composition: every coupled operation is a `DynRoots.Op` paired with a list of *existing*
`GcArena.Op`s, so the arena is literally `(Arena.new n).run ops` and `inv_run`, `C02.exactness_run`
apply verbatim.  Its theorems carry the suffix `_partial`; they hold under **R1** one arena, no
environment; **R2** every set object is stored directly in a root slot that is never overwritten;
**R3** the arena drop is a coupled op of its own; **R4** the set object has a fixed number `cap` of
slots and a `stash` needing index `≥ cap` is not a coupled operation; **R5** no client stores into
set objects; **R6** a handle dropped between `finish_marking()` and `MarkedArena::finalize` resets
the model's `marked` flag, so exactly the histories `finish_marking → drop(handle) → finalize(..)`
are excluded (every other placement of a handle drop is covered).  `drop_outside_callback_net_effect`
ties the two systems: the op-encoded drop does to the context exactly what the general system's
`clearArena` does, and resets `marked` besides (R6).

`stashed_safe` is the hypothesis-carrying lemma both versions instantiate (`stashed_survives`: its
form for a history of the collector model).
-/
namespace GcArena.C14s

open GcArena GcArena.DynCompose
open GcArena.DynRoots (Handle RootSet State)

private theorem closure_accessible {a : Arena} {p j : Nat} (hp : Accessible a p)
    (hj : AccessibleC a.ctx [] [Ptr.strong p] j) : Accessible a j := by
  induction hj with
  | root t h => cases h
  | temp t h =>
    simp only [List.mem_singleton, Ptr.strong.injEq] at h
    subst h; exact hp
  | edge i t _ e ih => exact .edge i t ih e

private theorem stashed_safe {a : Arena} (hi : Inv a) {x p : Nat} (hx : Accessible a x)
    (he : StrongEdge a.ctx x p) : ∀ j, AccessibleC a.ctx [] [Ptr.strong p] j → Safe a.ctx j :=
  fun _ hj => hi.safe_of_accessible (closure_accessible (.edge x p hx he) hj)

/-- If the set object `s` is accessible (from the root or from what the callback holds) and reports the stashed
    pointer `p` among its traced slots, then `p` and everything strongly reachable from `p` is
    allocated, undestructed and not condemned — after every operation sequence, in every phase. -/
theorem stashed_survives (n : Nat) (ops : List Op) (halive : ((Arena.new n).run ops).alive = true)
    (s p : Nat) (o : Obj) (hs : Accessible ((Arena.new n).run ops) s)
    (ho : ((Arena.new n).run ops).ctx.heap.get s = some o) (hp : some (Ptr.strong p) ∈ o.slots) :
    ∀ j, AccessibleC ((Arena.new n).run ops).ctx [] [Ptr.strong p] j → Safe ((Arena.new n).run ops).ctx j :=
  stashed_safe (inv_run n ops halive) hs ⟨o, ho, hp⟩


/-! # Full strength: the general system -/

section General
open GcArena.DynReach

/-- After every operation sequence of the general coupled system — from a fresh arena with `n` root
slots and the empty slot-table state — the coupling relation holds. -/
def coupled_run_statement : Prop :=
  ∀ (n : Nat) (ops : List GOp), GCoupled ((GSys.init n).run ops)

theorem coupled_run : coupled_run_statement :=
  fun n ops => (GCoupled.init n).run ops

/-- `GCoupled`, spelled out for one alive set of the arena: the arena exists; the set object is
allocated and undestructed; its slot list has exactly the table's length; slot `i` holds `r`
strongly iff table slot `i` is `Occupied { root = r, .. }`, and is empty iff it is `Vacant`; hence
its strong slots are exactly what `Collect for Slots` reports. -/
def set_object_mirrors_table_statement : Prop :=
  ∀ (n : Nat) (ops : List GOp) (S : GSys), S = (GSys.init n).run ops →
  ∀ (s x : Nat) (rs : RootSet), S.loc[s]? = some (some x) → S.d.liveSet s = some rs →
    S.a.alive = true ∧ Inv S.a ∧
    ∃ o, S.a.ctx.heap.get x = some o ∧ o.live = true ∧ o.slots = rs.slots.slots.map img ∧
      o.slots.length = rs.slots.slots.length ∧
      (∀ i r : Nat, o.slots[i]? = some (some (Ptr.strong r)) ↔
        ∃ c, rs.slots.slots[i]? = some (DynRoots.Slot.occupied r c)) ∧
      (∀ i : Nat, o.slots[i]? = some none ↔ ∃ nf, rs.slots.slots[i]? = some (DynRoots.Slot.vacant nf)) ∧
      (∀ p, some (Ptr.strong p) ∈ o.slots ↔ p ∈ rs.slots.traced)

theorem set_object_mirrors_table : set_object_mirrors_table_statement := by
  intro n ops S hS s x rs hloc hl
  have hc : GCoupled S := hS ▸ coupled_run n ops
  obtain ⟨hal, o, ho, hlive, _, hs⟩ := hc.sets s x rs hloc hl
  have hget : ∀ i, o.slots[i]? = (rs.slots.slots[i]?).map img := fun i => by rw [hs, List.getElem?_map]
  refine ⟨hal, hc.inv hal, o, ho, hlive, hs, by rw [hs]; simp, fun i r => ?_, fun i => ?_, ?_⟩
  · rw [hs, ← mirror_self]; exact mirror_strong_iff (Nat.le_refl _) i r
  · rw [hget]
    cases rs.slots.slots[i]? with
    | none => simp
    | some y => cases y <;> simp [img]
  · intro p; rw [hs]; exact mem_map_img

/-- **First half of C14, at full strength.**  In every state of every history of the general
system: for a live handle `h` of a set of the arena whose set object `x` the client can reach
(`Accessible`: strongly reachable from the root, or held by the running callback, or readable from
such an object) — the stashed object is accessible too, and it and everything strongly reachable
from it is allocated, undestructed and not condemned by the running sweep.  If `x` is strongly
reachable from the root alone, so is the stashed object.  No hypothesis about the slot-table state:
that the set is alive there follows from `x` being accessible (`GCoupled.alive_of_accessible`). -/
def stashed_survives_while_handle_statement : Prop :=
  ∀ (n : Nat) (ops : List GOp) (S : GSys), S = (GSys.init n).run ops →
  ∀ (h : Handle) (x : Nat), h ∈ S.d.handles → S.loc[h.set]? = some (some x) → Accessible S.a x →
    Accessible S.a h.ptr ∧ (StrongReach S.a x → StrongReach S.a h.ptr) ∧
    ∀ j, AccessibleC S.a.ctx [] [Ptr.strong h.ptr] j → Safe S.a.ctx j

theorem stashed_survives_while_handle : stashed_survives_while_handle_statement := by
  intro n ops S hS h x hm hloc hacc
  have hc : GCoupled S := hS ▸ coupled_run n ops
  obtain ⟨_, rs, hl⟩ := hc.alive_of_accessible hloc hacc
  obtain ⟨_, hinv, o, ho, _, _, _, _, _, hmem⟩ := set_object_mirrors_table n ops S hS h.set x rs hloc hl
  have htr : h.ptr ∈ rs.slots.traced := C14.traced_while_handle S.dops S.d hc.dyn h hm rs hl
  have hp : some (Ptr.strong h.ptr) ∈ o.slots := (hmem h.ptr).2 htr
  exact ⟨.edge x h.ptr hacc ⟨o, ho, hp⟩, fun hr => .edge x h.ptr hr ⟨o, ho, hp⟩,
    stashed_safe hinv hacc ⟨o, ho, hp⟩⟩

/-- The same over a window of a history: if after `pre` and after every further prefix of `win` the
handle is live and the set object accessible, then in each of those states the stashed object and
its closure are `Safe` — it survives every collection call, increment and handle operation in the
window. -/
def stashed_survives_in_window_statement : Prop :=
  ∀ (n : Nat) (pre win : List GOp) (h : Handle) (x : Nat),
    (∀ k, k ≤ win.length →
      h ∈ ((GSys.init n).run (pre ++ win.take k)).d.handles ∧
      ((GSys.init n).run (pre ++ win.take k)).loc[h.set]? = some (some x) ∧
      Accessible ((GSys.init n).run (pre ++ win.take k)).a x) →
    ∀ k, k ≤ win.length → ∀ j,
      AccessibleC ((GSys.init n).run (pre ++ win.take k)).a.ctx [] [Ptr.strong h.ptr] j →
      Safe ((GSys.init n).run (pre ++ win.take k)).a.ctx j

theorem stashed_survives_in_window : stashed_survives_in_window_statement := by
  intro n pre win h x hwin k hk
  obtain ⟨hm, hloc, hacc⟩ := hwin k hk
  exact (stashed_survives_while_handle n _ _ rfl h x hm hloc hacc).2.2

/-- The pinned case as a corollary: a set stored directly in a root slot. -/
theorem stashed_survives_pinned (n : Nat) (ops : List GOp) (S : GSys) (hS : S = (GSys.init n).run ops)
    (h : Handle) (x k : Nat) (hm : h ∈ S.d.handles)
    (hloc : S.loc[h.set]? = some (some x)) (hroot : S.a.root[k]? = some (some (.strong x))) :
    StrongReach S.a h.ptr ∧ ∀ j, AccessibleC S.a.ctx [] [Ptr.strong h.ptr] j → Safe S.a.ctx j := by
  have hr : StrongReach S.a x := .root x (List.mem_of_getElem? hroot)
  obtain ⟨_, h2, h3⟩ := stashed_survives_while_handle n ops S hS h x hm hloc hr.accessible
  exact ⟨h2 hr, h3⟩

/-- Strongly reachable from the root by a path that does not use the edge `x → p`. -/
inductive ReachAvoiding (c : Ctx) (root : List Slot) (x p : Nat) : Nat → Prop
  | root (t) : some (Ptr.strong t) ∈ root → ReachAvoiding c root x p t
  | edge (i t) : ReachAvoiding c root x p i → StrongEdge c i t → ¬ (i = x ∧ t = p) →
      ReachAvoiding c root x p t

/-- A set of objects that holds the root's targets and is closed under the strong edges other than
`x → p` holds everything reachable without that edge. -/
private theorem ReachAvoiding.closed {c : Ctx} {root : List Slot} {x p : Nat} (K : Nat → Prop)
    (hroot : ∀ t, some (Ptr.strong t) ∈ root → K t)
    (hedge : ∀ i t, K i → StrongEdge c i t → ¬ (i = x ∧ t = p) → K t) {j : Nat}
    (h : ReachAvoiding c root x p j) : K j := by
  induction h with
  | root t ht => exact hroot t ht
  | edge i t _ e hne ih => exact hedge i t ih e hne

/-- Where the edge `x → p` is gone and no edge has been added, strong reachability is reachability
without that edge in the earlier heap. -/
private theorem reachAvoiding_of_strongReach {c c' : Ctx} {root : List Slot} {x p : Nat}
    (hsub : ∀ i t, StrongEdge c' i t → StrongEdge c i t) (hno : ¬ StrongEdge c' x p) {j : Nat}
    (h : StrongReachC c' root j) : ReachAvoiding c root x p j := by
  induction h with
  | root t ht => exact .root t ht
  | temp t ht => cases ht
  | edge i t _ e ih =>
    refine .edge i t ih (hsub i t e) ?_
    rintro ⟨rfl, rfl⟩
    exact hno e

/-- Once no live handle of the alive set `s` has pointer `p`, the set object holds `p` in none of its
slots. -/
def not_in_set_after_last_drop_statement : Prop :=
  ∀ (n : Nat) (ops : List GOp) (S : GSys), S = (GSys.init n).run ops →
  ∀ (s p x : Nat) (rs : RootSet), S.loc[s]? = some (some x) → S.d.liveSet s = some rs →
    (∀ h ∈ S.d.handles, h.set = s → h.ptr ≠ p) →
    ∀ o, S.a.ctx.heap.get x = some o → some (Ptr.strong p) ∉ o.slots

theorem not_in_set_after_last_drop : not_in_set_after_last_drop_statement := by
  intro n ops S hS s p x rs hloc hl hnone o ho hp
  have hc : GCoupled S := hS ▸ coupled_run n ops
  obtain ⟨_, _, o', ho', _, _, _, _, _, hmem⟩ := set_object_mirrors_table n ops S hS s x rs hloc hl
  rw [ho] at ho'; cases ho'
  exact C14.untraced_after_last_drop S.dops S.d hc.dyn s p rs hl hnone ((hmem p).1 hp)

private theorem grun_snoc (ops : List GOp) (op : GOp) : ∀ S : GSys,
    (S.run ops).step op = S.run (ops ++ [op]) := by
  induction ops with
  | nil => intro S; rfl
  | cons o ops ih => intro S; simp only [List.cons_append, GSys.run]; exact ih _

private theorem edge_of_clear {c : Ctx} {x i j t : Nat}
    (he : StrongEdge (Arena.setSlot c x i none) j t) : StrongEdge c j t := by
  obtain ⟨o', ho', hp⟩ := he
  rw [setSlot_get] at ho'
  split at ho'
  · exact ⟨o', ho', hp⟩
  · rename_i o ho
    split at ho'
    · rename_i hj
      cases ho'
      exact ⟨o, hj ▸ ho, (mem_set_slot hp).resolve_right (fun e => by cases e)⟩
    · exact ⟨o', ho', hp⟩

private theorem drop_step_spec (S : GSys) {h : Handle} (hm : h ∈ S.d.handles) :
    (S.step (.dropHandle h)).d = DynRoots.next S.d (.dropHandle h) ∧
    (S.step (.dropHandle h)).loc = S.loc ∧ (S.step (.dropHandle h)).a.root = S.a.root ∧
    (S.step (.dropHandle h)).a.cb = S.a.cb ∧ (S.step (.dropHandle h)).a.alive = S.a.alive ∧
    ∀ j t, StrongEdge (S.step (.dropHandle h)).a.ctx j t → StrongEdge S.a.ctx j t := by
  obtain ⟨a', e, ha⟩ := S.step_dropHandle hm
  rw [e]
  rcases ha with rfl | ⟨x, rfl⟩
  · exact ⟨rfl, rfl, rfl, rfl, rfl, fun _ _ he => he⟩
  · exact ⟨rfl, rfl, rfl, rfl, rfl, fun _ _ => edge_of_clear⟩

/-- **Second half of C14, at full strength — across the drop.**  `h` is a live handle of a set of the
arena (set object `x`), and the *last* live handle of that set for the object `p = h.ptr`; the arena
exists and no callback is running.  Premise, in the state **before** the drop (where the edge
`x → p` exists if the set is alive): every strong path from the root to `p` goes through that edge.
Then in the state `S'` after `dropHandle h`: `p` is not strongly reachable from the root, and after
two `arena.finish_cycle()` calls (ops `gfc`, i.e. two `.collect .finishCycle` ops of the collector
model, each followed by `sync`), which take the context to `C02.finishCycle2` of `S'`, `p` is no
longer an allocated undestructed object (`C02.exactness`). -/
def collectable_after_last_drop_statement : Prop :=
  ∀ (n : Nat) (ops : List GOp) (S : GSys), S = (GSys.init n).run ops →
  ∀ (h : Handle) (x : Nat), h ∈ S.d.handles → S.loc[h.set]? = some (some x) →
    (∀ h' ∈ S.d.handles.erase h, h'.set = h.set → h'.ptr ≠ h.ptr) →
    S.a.alive = true → S.a.cb = none →
    ¬ ReachAvoiding S.a.ctx S.a.root x h.ptr h.ptr →
    ¬ StrongReach (S.step (.dropHandle h)).a h.ptr ∧
    (((S.step (.dropHandle h)).step gfc).step gfc).a.ctx =
      C02.finishCycle2 (S.step (.dropHandle h)).a.ctx (S.step (.dropHandle h)).a.root ∧
    ¬ ∃ o, (((S.step (.dropHandle h)).step gfc).step gfc).a.ctx.heap.get h.ptr = some o ∧ o.live = true

theorem collectable_after_last_drop : collectable_after_last_drop_statement := by
  intro n ops S hS h x hm hloc hlast hal hcb hother
  have hc : GCoupled S := hS ▸ coupled_run n ops
  obtain ⟨d', l', r', cb', al', esub⟩ := drop_step_spec S hm
  generalize hS' : S.step (.dropHandle h) = S' at d' l' r' cb' al' esub ⊢
  have hS'run : S' = (GSys.init n).run (ops ++ [.dropHandle h]) := by
    rw [← hS', hS]; exact grun_snoc ops _ _
  have hc' : GCoupled S' := by rw [hS'run]; exact coupled_run n _
  have hal' : S'.a.alive = true := by rw [al']; exact hal
  have hcb' : S'.a.cb = none := by rw [cb']; exact hcb
  have hinv' := hc'.inv hal'
  -- in `S'` the set object does not hold `p`
  have hnoedge : ¬ StrongEdge S'.a.ctx x h.ptr := by
    rintro ⟨o, ho, hp⟩
    have hloc' : S'.loc[h.set]? = some (some x) := by rw [l']; exact hloc
    cases hl : S.d.liveSet h.set with
    | some rs =>
      -- the set is alive: it stays alive, the handle is gone, so the table no longer reports `p`
      obtain ⟨rs', hrs'⟩ := DynRoots.next_alive S.d (.dropHandle h) h.set rs (by intro e; cases e) hl
      rw [← d'] at hrs'
      obtain ⟨_, hdec⟩ := (C14.no_panic_slots S.dops S.d hc.dyn h.set rs hl).2 h hm rfl
      obtain ⟨sl, hsl⟩ := hdec
      have hh : S'.d.handles = S.d.handles.erase h := by
        rw [d']; simp [DynRoots.next, DynRoots.step, hm, hl, hsl]
      exact not_in_set_after_last_drop n _ S' hS'run h.set h.ptr x rs' hloc' hrs'
        (fun h' hm' => by rw [hh] at hm'; exact hlast h' hm') o ho hp
    | none =>
      -- the set was destroyed: its object is gone or a destructed shell without slots
      have hnl : S'.d.liveSet h.set = none := by
        rw [d']
        exact (C14.destroyed_forever S.d h.set
          (by rw [← hc.len]; exact DynRoots.lt_of_getElem?_some hloc) hl [.dropHandle h]).1
      have hno : objLive S'.a x = false := by
        cases hv : objLive S'.a x with
        | false => rfl
        | true =>
          obtain ⟨rs, hrs⟩ := hc'.live h.set x hloc' hv
          rw [hnl] at hrs; cases hrs
      cases hlv : o.live with
      | true =>
        have : objLive S'.a x = true := objLive_iff.2 ⟨hal', o, ho, hlv⟩
        rw [hno] at this; cases this
      | false =>
        rw [hinv'.cinv.deadNoSlots x o ho hlv] at hp; cases hp
  have hunreach : ¬ StrongReach S'.a h.ptr := fun hr =>
    hother (reachAvoiding_of_strongReach esub hnoedge (r' ▸ hr))
  obtain ⟨c1, r1, cb1, al1⟩ := hc'.finishCycle hal' hcb'
  obtain ⟨c2, _, _, _⟩ := (hc'.step gfc).finishCycle al1 cb1
  have hctx : ((S'.step gfc).step gfc).a.ctx = C02.finishCycle2 S'.a.ctx S'.a.root := by
    rw [c2, c1, r1]; rfl
  refine ⟨hunreach, hctx, ?_⟩
  rw [hctx]
  intro hex
  exact hunreach ((C02.exactness _ _ (hinv'.cinv0 hcb') h.ptr).mp hex)

/-- **`fetch` returns the very object that was stashed.**  For a live handle `h` of the set `s` of the
arena that issued it, the set object `x` being accessible (the client calls `set.fetch(&h)` through
the set pointer): `fetch` answers `h.ptr`, and `h.ptr` is what slot `h.index` of the set object
holds. -/
def fetch_is_the_stashed_object_statement : Prop :=
  ∀ (n : Nat) (ops : List GOp) (S : GSys), S = (GSys.init n).run ops →
  ∀ (s x : Nat) (h : Handle), S.loc[s]? = some (some x) → Accessible S.a x →
    h ∈ S.d.handles → h.set = s →
    DynRoots.step S.d (.fetch s h) = .ok S.d (.ptr h.ptr) ∧
    ∃ o, S.a.ctx.heap.get x = some o ∧ o.slots[h.index]? = some (some (.strong h.ptr))

theorem fetch_is_the_stashed_object : fetch_is_the_stashed_object_statement := by
  intro n ops S hS s x h hloc hacc hm hs
  have hc : GCoupled S := hS ▸ coupled_run n ops
  obtain ⟨_, rs, hl⟩ := hc.alive_of_accessible hloc hacc
  obtain ⟨hf, _, _, hocc, _⟩ := (C14.fetch_identity S.dops S.d hc.dyn s rs h hl hm).1 hs
  obtain ⟨_, _, o, ho, _, _, _, hiff, _, _⟩ := set_object_mirrors_table n ops S hS s x rs hloc hl
  exact ⟨hf, o, ho, (hiff h.index h.ptr).2 hocc⟩

/-- The coupled `fetch` inside a callback (of any kind, `finalize` included) that holds the set
pointer: the read is accepted and returns the stashed pointer, which the callback then holds — hence
it is `Safe`; heap, root and tables are unchanged. -/
def fetch_holds_statement : Prop :=
  ∀ (n : Nat) (ops : List GOp) (S : GSys), S = (GSys.init n).run ops →
  ∀ (s x : Nat) (h : Handle), S.loc[s]? = some (some x) → h ∈ S.d.handles → h.set = s →
    S.a.alive = true → S.a.cb ≠ none → S.a.holds (.strong x) = true →
    (S.step (.fetch s h)).a.holds (.strong h.ptr) = true ∧
    (S.step (.fetch s h)).a.ctx = S.a.ctx ∧ (S.step (.fetch s h)).a.root = S.a.root ∧
    (S.step (.fetch s h)).d = S.d ∧ Safe (S.step (.fetch s h)).a.ctx h.ptr

theorem fetch_holds : fetch_holds_statement := by
  intro n ops S hS s x h hloc hm hs hal hcb hx
  have hc : GCoupled S := hS ▸ coupled_run n ops
  have hacc : Accessible S.a x := .temp x ((holds_iff _ _).1 hx)
  obtain ⟨_, rs, hl⟩ := hc.alive_of_accessible hloc hacc
  obtain ⟨_, o, ho, hslot⟩ := fetch_is_the_stashed_object n ops S hS s x h hloc hacc hm hs
  have hcs : S.a.cb.isSome = true := Option.isSome_iff_ne_none.2 hcb
  have hcont : DynRoots.containsB s h = true := by simp [DynRoots.containsB, hs]
  have e : S.step (.fetch s h) =
      ({ S with a := (S.a.step (.read x h.index)).1 } : GSys).doD (.fetch s h) := by
    simp [GSys.step, GSys.fetchLike, hloc, hal, hcs, hx, hm, hl, hcont]
  have hc' : GCoupled (S.step (.fetch s h)) := hc.step _
  have e1 := congrArg Prod.fst
    (step_read (a := S.a) (x := x) (i := h.index) (o := o) (q := .strong h.ptr) hal hcb hx ho hslot)
  rw [e] at hc' ⊢
  have hh : (S.a.step (.read x h.index)).1.holds (.strong h.ptr) = true := by
    rw [e1]; exact holds_push_self _ _
  refine ⟨hh, ?_, ?_, DynRoots.next_fetch _ _ _, ?_⟩
  · show (S.a.step (.read x h.index)).1.ctx = S.a.ctx
    rw [e1, Arena.push_ctx]
  · show (S.a.step (.read x h.index)).1.root = S.a.root
    rw [e1, Arena.push_root]
  · have hal' : (S.a.step (.read x h.index)).1.alive = true := by rw [e1, Arena.push_alive]; exact hal
    exact (hc'.inv hal').ptrOK_of_holds (p := .strong h.ptr) hh

/-- **A set of the arena is alive in the slot-table state iff its object is allocated and
undestructed** (and the arena exists); and a collector-model op that destructs the object of a set
(a sweep step reaching it, or the arena drop) destroys the set in the same step of the general
system. -/
def set_destroyed_iff_object_destructed_statement : Prop :=
  ∀ (n : Nat) (ops : List GOp) (S : GSys), S = (GSys.init n).run ops →
  ∀ (s x : Nat), S.loc[s]? = some (some x) →
    ((∃ rs, S.d.liveSet s = some rs) ↔ objLive S.a x = true) ∧
    (S.d.liveSet s = none ↔ objLive S.a x = false) ∧
    (∀ op, S.allowed op = true → objLive (S.a.step op).1 x = false →
      (S.step (.gc op)).d.liveSet s = none)

theorem set_destroyed_iff_object_destructed : set_destroyed_iff_object_destructed_statement := by
  intro n ops S hS s x hloc
  have hc : GCoupled S := hS ▸ coupled_run n ops
  have hiff := hc.alive_iff hloc
  refine ⟨hiff, ?_, ?_⟩
  · constructor
    · intro hn
      cases hv : objLive S.a x with
      | false => rfl
      | true => obtain ⟨rs, hrs⟩ := hiff.2 hv; rw [hn] at hrs; cases hrs
    · intro hv
      cases hl : S.d.liveSet s with
      | none => rfl
      | some rs => rw [hiff.1 ⟨rs, hl⟩] at hv; cases hv
  · intro op hal hdead
    have hc' : GCoupled (S.step (.gc op)) := hc.step _
    have e : S.step (.gc op) = ({ S with a := (S.a.step op).1 } : GSys).sync := by
      simp [GSys.step, hal]
    have hloc' : (S.step (.gc op)).loc[s]? = some (some x) := by
      rw [e, (GSys.sync_spec _).2.1]; exact hloc
    have ha : (S.step (.gc op)).a = (S.a.step op).1 := by rw [e, GSys.sync_a]
    cases hl : (S.step (.gc op)).d.liveSet s with
    | none => rfl
    | some rs =>
      have := (hc'.alive_iff hloc').1 ⟨rs, hl⟩
      rw [ha, hdead] at this; cases this

/-- Handles outlive their arena harmlessly: once the arena has been dropped, no set of the arena is
alive, so cloning or dropping a handle of such a set only adds / removes the handle, and `fetch`
on such a set is not a call a client can make. -/
def handles_outlive_arena_statement : Prop :=
  ∀ (n : Nat) (ops : List GOp) (S : GSys), S = (GSys.init n).run ops →
  S.a.alive = false → ∀ (h : Handle) (x : Nat), h ∈ S.d.handles → S.loc[h.set]? = some (some x) →
    S.d.liveSet h.set = none ∧
    DynRoots.step S.d (.clone h) = .ok { S.d with handles := h :: S.d.handles } (.handle h) ∧
    DynRoots.step S.d (.dropHandle h) = .ok { S.d with handles := S.d.handles.erase h } .unit ∧
    DynRoots.step S.d (.fetch h.set h) = .illFormed

theorem handles_outlive_arena : handles_outlive_arena_statement := by
  intro n ops S hS hdead h x hm hloc
  have hc : GCoupled S := hS ▸ coupled_run n ops
  have hnone : S.d.liveSet h.set = none := by
    cases hl : S.d.liveSet h.set with
    | none => rfl
    | some rs =>
      obtain ⟨hal, _⟩ := hc.sets h.set x rs hloc hl
      rw [hdead] at hal; cases hal
  obtain ⟨h1, h2⟩ := C14.outlive S.d h hm hnone
  exact ⟨hnone, h1, h2, by simp [DynRoots.step, hm, hnone]⟩

/-! ### Non-vacuity of the general system: the history `gdemo` (Proofs/DynReach.lean), evaluated by
the kernel -/

/-- growth: the set object starts with no slot and has one after the first stash -/
example : ((GSys.init 1).run (gdemo.take 4)).a.ctx.heap.get 1 = some ⟨.white, true, true, []⟩ ∧
    ((GSys.init 1).run (gdemo.take 7)).a.ctx.heap.get 1 =
      some ⟨.white, true, true, [some (.strong 2)]⟩ ∧
    ((GSys.init 1).run (gdemo.take 7)).a.root = [some (.strong 0)] := by decide +kernel

/-- the drop while the `MarkedArena` is outstanding: the slot is cleared, `marked` stays set, phase
`Mark`, everything black -/
example : ((GSys.init 1).run (gdemo.take 10)).a.marked = true ∧
    ((GSys.init 1).run (gdemo.take 10)).a.ctx.heap.get 1 = some ⟨.black, true, true, [none]⟩ ∧
    ((GSys.init 1).run (gdemo.take 10)).d.handles = [] := by decide +kernel

/-- the `finalize` callback is accepted and stashes / fetches: slot 0 is reused for object 3, the
black set object is re-grayed by the barrier, the fetched pointer is held -/
example : ((GSys.init 1).run (gdemo.take 16)).a.cb = some .finalize ∧
    ((GSys.init 1).run (gdemo.take 16)).a.ctx.heap.get 1 =
      some ⟨.gray, true, true, [some (.strong 3)]⟩ ∧
    ((GSys.init 1).run (gdemo.take 16)).a.temps = [.strong 3, .strong 1, .strong 0] ∧
    ((GSys.init 1).run (gdemo.take 16)).d.handles = [⟨0, 0, 3, 1⟩] := by decide +kernel

/-- two `finish_cycle` calls: object 2 (last handle dropped) is destructed and released; object 3
(handle alive, set reachable through object 0) survives -/
example : ((GSys.init 1).run (gdemo.take 19)).a.ctx.heap.get 2 = none ∧
    ((GSys.init 1).run (gdemo.take 19)).a.ctx.log = [.freed 2, .dropped 2] ∧
    ((GSys.init 1).run (gdemo.take 19)).a.ctx.heap.get 3 = some ⟨.white, true, true, [none]⟩ := by
  decide +kernel

/-- once the set is unlinked, the next cycles sweep the set object: the set is destroyed in that
step; the handle outlives it; the stashed object 3 goes with the set -/
example : ((GSys.init 1).run gdemo).a.ctx.heap.get 1 = none ∧
    ((GSys.init 1).run gdemo).a.ctx.heap.get 3 = none ∧
    ((GSys.init 1).run gdemo).d.liveSet 0 = none ∧
    ((GSys.init 1).run gdemo).d.handles = [⟨0, 0, 3, 1⟩] ∧
    ((GSys.init 1).run gdemo).a.ctx.err = none := by decide +kernel

/-- `stashed_survives_while_handle` applied in the state after the `finalize` callback's stash, to
the set object 1, which the callback holds (it is not pinned: root → 0 → 1), and to object 3, stashed
white into the then black set: object 3 is `Safe`. -/
example : Safe ((GSys.init 1).run (gdemo.take 15)).a.ctx 3 := by
  have f := gdemo15_facts
  exact (stashed_survives_while_handle 1 (gdemo.take 15) _ rfl ⟨0, 0, 3, 1⟩ 1 f.1 f.2.1
    (.temp 1 f.2.2)).2.2 3 (.temp 3 (by simp))

/-- In `beforeDrop` every strong path from the root to object 2 goes through the edge 1 → 2. -/
theorem beforeDrop_only_via_set : ¬ ReachAvoiding beforeDrop.a.ctx beforeDrop.a.root 1 2 2 := by
  obtain ⟨hroot, h0, h1, _⟩ := beforeDrop_facts
  intro h
  have key : (2 : Nat) = 0 ∨ (2 : Nat) = 1 := by
    refine ReachAvoiding.closed (fun j => j = 0 ∨ j = 1) (fun t ht => ?_) (fun i t hi e hne => ?_) h
    · rw [hroot] at ht; simp at ht; exact .inl ht
    · obtain ⟨o, ho, hp⟩ := e
      rcases hi with rfl | rfl
      · rw [h0] at ho; cases ho; simp at hp; exact .inr hp
      · rw [h1] at ho; cases ho; simp at hp; exact absurd ⟨rfl, hp⟩ hne
  rcases key with h | h <;> cases h

/-- `collectable_after_last_drop` applies across that drop: afterwards object 2 is not strongly
reachable, and two `finish_cycle` calls leave it neither allocated nor undestructed. -/
example :
    ¬ ∃ o, (((beforeDrop.step (.dropHandle ⟨0, 0, 2, 0⟩)).step gfc).step gfc).a.ctx.heap.get 2 = some o ∧
      o.live = true := by
  obtain ⟨_, _, _, hh, hloc, hal, hcb⟩ := beforeDrop_facts
  exact (collectable_after_last_drop 1 (gdemo.take 9) beforeDrop rfl ⟨0, 0, 2, 0⟩ 1 (by rw [hh]; decide)
    hloc (by rw [hh]; decide) hal hcb beforeDrop_only_via_set).2.2

/-- environment: a set of another arena, a stash into it, a foreign handle presented to this arena's
set is refused (`C14.fetch_identity`), and the relation is unaffected -/
example :
    let S := (GSys.init 1).run (gdemo.take 8 ++ [.envNewSet, .envStash 1 77])
    S.loc = [some 1, none] ∧ S.d.handles = [⟨1, 0, 77, 1⟩, ⟨0, 0, 2, 0⟩] ∧
    DynRoots.step S.d (.fetch 0 ⟨1, 0, 77, 1⟩) = .panic .mismatchedRootSet ∧
    S.a.ctx.heap.get 1 = some ⟨.white, true, true, [some (.strong 2)]⟩ := by decide +kernel

end General

/-! # Existing ops only: the pinned system of Proofs/DynCompose.lean.  Every `…_partial` theorem holds
under the restrictions R1–R6 of that module's docstring. -/

/-- After every coupled operation sequence from the initial coupled state (a
fresh arena with `n` root slots, `DynRoots.State.init`, no sets — sets are created by the coupled
op `newSet`, which allocates the set object and stores it in a root slot): both sides are runs of
the two existing models, and every set object mirrors its slot table.
Full strength: `coupled_run`. -/
theorem coupled_run_partial (n : Nat) (ops : List COp) : Coupled n ((Sys.init n).run ops) :=
  (Coupled.init n).run ops

private theorem live_partial {n : Nat} {ops : List COp} {S : Sys} (hS : S = (Sys.init n).run ops)
    {s : Nat} {rs : RootSet} (hl : S.d.liveSet s = some rs) : Live n S :=
  (hS ▸ coupled_run_partial n ops).live_of_liveSet hl

/-- `Coupled`, spelled out for one alive set: the root slot holds the set object; the set object is
allocated, undestructed, has `cap` slots; **slot `i` is `some (strong r)` iff table slot `i` is
`Occupied { root = r, .. }`**, else `none`; hence its strong slots are exactly `Slots.traced`.
Full strength: `set_object_mirrors_table`. -/
theorem set_object_mirrors_table_partial (n : Nat) (ops : List COp) (S : Sys) (hS : S = (Sys.init n).run ops)
    (s : Nat) (rs : RootSet) (hl : S.d.liveSet s = some rs) :
    ∃ l o, S.loc[s]? = some l ∧ S.a.root[l.slot]? = some (some (.strong l.id)) ∧
      S.a.ctx.heap.get l.id = some o ∧ o.live = true ∧ o.slots.length = l.cap ∧
      rs.slots.slots.length ≤ l.cap ∧
      (∀ i r : Nat, o.slots[i]? = some (some (Ptr.strong r)) ↔
        ∃ c, rs.slots.slots[i]? = some (DynRoots.Slot.occupied r c)) ∧
      (∀ i : Nat, i < l.cap →
        (o.slots[i]? = some none ↔ ∀ r c, rs.slots.slots[i]? ≠ some (DynRoots.Slot.occupied r c))) ∧
      (∀ p, some (Ptr.strong p) ∈ o.slots ↔ p ∈ rs.slots.traced) := by
  subst hS
  have hc := (coupled_run_partial n ops).live_of_liveSet hl
  obtain ⟨hsets, _⟩ := DynRoots.liveSet_eq_some.1 hl
  obtain ⟨l, hloc⟩ := hc.loc_of_set hsets
  obtain ⟨hh, hle⟩ := hc.sets s l rs hloc hsets
  obtain ⟨o, ho, hlive, _, hslots⟩ := hh.obj
  refine ⟨l, o, hloc, hh.root, ho, hlive, by rw [hslots, mirror_length], hle,
    ?_, ?_, ?_⟩
  · intro i r
    rw [hslots]; exact mirror_strong_iff hle i r
  · intro i hi
    rw [hslots, mirror_getElem?, if_pos hi]
    cases rs.slots.slots[i]? with
    | none => simp [image]
    | some x => cases x <;> simp [image]
  · intro p; rw [hslots]; exact mem_mirror hle

/-- While the arena exists, every set object is strongly reachable from the root (restriction R2
makes this hold by construction; it is the property's premise "a DynamicRootSet that is reachable
from the root"). -/
theorem set_reachable_partial (n : Nat) (ops : List COp) (S : Sys) (hS : S = (Sys.init n).run ops)
    (halive : S.a.alive = true) (s : Nat) (l : SetLoc) (hl : S.loc[s]? = some l) :
    StrongReach S.a l.id := by
  subst hS
  have hc := (coupled_run_partial n ops).live halive
  obtain ⟨rs, hrs⟩ := hc.set_of_loc hl
  exact (hc.sets s l rs hl hrs).1.reach

/-- In every state of every coupled history — any
interleaving of `newSet` / `stash` / `clone` / `dropHandle` / `fetch` with allocation, stores,
barriers and collection calls of every kind, in every phase: if `h` is a live handle of an alive
set, then the stashed object `h.ptr` is strongly reachable from the root, and it and everything
strongly reachable from it is allocated, undestructed and not condemned by the running sweep.
No hypothesis about slots: that the set object holds `h.ptr` is `Coupled` + `C14.traced_while_handle`.
Full strength: `stashed_survives_while_handle`. -/
theorem stashed_survives_while_handle_partial (n : Nat) (ops : List COp) (S : Sys)
    (hS : S = (Sys.init n).run ops) (h : Handle) (hm : h ∈ S.d.handles) (rs : RootSet)
    (hl : S.d.liveSet h.set = some rs) :
    StrongReach S.a h.ptr ∧ ∀ j, AccessibleC S.a.ctx [] [Ptr.strong h.ptr] j → Safe S.a.ctx j := by
  obtain ⟨l, o, hloc, _, ho, _, _, _, _, _, hmem⟩ := set_object_mirrors_table_partial n ops S hS h.set rs hl
  have hc := live_partial hS hl
  have htr : h.ptr ∈ rs.slots.traced := C14.traced_while_handle S.dops S.d hc.dyn h hm rs hl
  have hp : some (Ptr.strong h.ptr) ∈ o.slots := (hmem h.ptr).2 htr
  have hreach := set_reachable_partial n ops S hS hc.alive h.set l hloc
  exact ⟨.edge l.id h.ptr hreach ⟨o, ho, hp⟩, stashed_safe hc.inv hreach.accessible ⟨o, ho, hp⟩⟩

/-- Once no live handle of set `s` has pointer `p`, the set object holds `p` in none of its slots
(`C14.untraced_after_last_drop` + `Coupled`).
Full strength: `not_in_set_after_last_drop`. -/
theorem not_in_set_after_last_drop_partial (n : Nat) (ops : List COp) (S : Sys) (hS : S = (Sys.init n).run ops)
    (s p : Nat) (rs : RootSet) (hl : S.d.liveSet s = some rs)
    (hnone : ∀ h ∈ S.d.handles, h.set = s → h.ptr ≠ p) (l : SetLoc) (hloc : S.loc[s]? = some l)
    (o : Obj) (ho : S.a.ctx.heap.get l.id = some o) : some (Ptr.strong p) ∉ o.slots := by
  obtain ⟨l', o', hloc', _, ho', _, _, _, _, _, hmem⟩ := set_object_mirrors_table_partial n ops S hS s rs hl
  rw [hloc] at hloc'; cases hloc'
  rw [ho] at ho'; cases ho'
  have hc := live_partial hS hl
  intro hp
  exact C14.untraced_after_last_drop S.dops S.d hc.dyn s p rs hl hnone ((hmem p).1 hp)

/-- Outside callbacks, once no live handle of set `s` has pointer
`p`: if `p` is not strongly reachable from the root by any route other than the edge
"set object of `s` → `p`", then `p` is not strongly reachable at all, and after two
`arena.finish_cycle()` calls (the coupled ops `fc`, i.e. two `.collect .finishCycle` ops of the
collector model) `p` is no longer an allocated undestructed object (`C02.exactness_run`); the two
calls touch neither the slot tables nor the handles.
Full strength: `collectable_after_last_drop`. -/
theorem collectable_after_last_drop_partial (n : Nat) (ops : List COp) (S : Sys) (hS : S = (Sys.init n).run ops)
    (s p : Nat) (rs : RootSet) (hl : S.d.liveSet s = some rs)
    (hnone : ∀ h ∈ S.d.handles, h.set = s → h.ptr ≠ p) (l : SetLoc) (hloc : S.loc[s]? = some l)
    (hcb : S.a.cb = none) (hother : ¬ ReachAvoiding S.a.ctx S.a.root l.id p p) :
    ¬ StrongReach S.a p ∧
    ((S.step fc).step fc).a =
      S.a.run [.collect .finishCycle .drop none none, .collect .finishCycle .drop none none] ∧
    ((S.step fc).step fc).d = S.d ∧
    ¬ ∃ o, ((S.step fc).step fc).a.ctx.heap.get p = some o ∧ o.live = true := by
  have hc := live_partial hS hl
  have hnot := not_in_set_after_last_drop_partial n ops S hS s p rs hl hnone l hloc
  have hunreach : ¬ StrongReach S.a p := fun hr =>
    hother (reachAvoiding_of_strongReach (fun _ _ e => e) (fun ⟨o, ho, hp⟩ => hnot o ho hp) hr)
  have ha : ((S.step fc).step fc).a =
      S.a.run [.collect .finishCycle .drop none none, .collect .finishCycle .drop none none] := by
    simp [Sys.step, fc, Sys.allowed, Sys.doA, Arena.run]
  have hd : ((S.step fc).step fc).d = S.d := by
    simp [Sys.step, fc, Sys.allowed, Sys.doA]
  refine ⟨hunreach, ha, hd, ?_⟩
  rw [ha]
  have harena := hc.arena
  have hex := C02.exactness_run n S.aops
  simp only at hex
  rw [← harena] at hex
  intro hlive
  exact hunreach (((hex hc.alive hcb).2.2 p).mp hlive)

/-- For a live handle `h` of the alive set `s` that issued it:
`fetch` answers `h.ptr`, and `h.ptr` is what slot `h.index` of the set object holds
(`C14.fetch_identity` + `Coupled`).
Full strength: `fetch_is_the_stashed_object`. -/
theorem fetch_is_the_stashed_object_partial (n : Nat) (ops : List COp) (S : Sys) (hS : S = (Sys.init n).run ops)
    (s : Nat) (rs : RootSet) (h : Handle) (hl : S.d.liveSet s = some rs) (hm : h ∈ S.d.handles)
    (hs : h.set = s) :
    DynRoots.step S.d (.fetch s h) = .ok S.d (.ptr h.ptr) ∧
    ∃ l o, S.loc[s]? = some l ∧ S.a.ctx.heap.get l.id = some o ∧
      o.slots[h.index]? = some (some (.strong h.ptr)) := by
  have hc := live_partial hS hl
  obtain ⟨hf, _, _, hocc, _⟩ := (C14.fetch_identity S.dops S.d hc.dyn s rs h hl hm).1 hs
  obtain ⟨l, o, hloc, _, ho, _, _, _, hiff, _, _⟩ := set_object_mirrors_table_partial n ops S hS s rs hl
  exact ⟨hf, l, o, hloc, ho, (hiff h.index h.ptr).2 hocc⟩

/-- The coupled `fetch` inside a callback: both reads of its encoding are accepted, the second one
returns the stashed pointer (the client observes `s<h.ptr>`), that pointer is held by the callback
afterwards — hence accessible and `Safe` — and neither the heap, the root nor the tables change.
Full strength: `fetch_holds`. -/
theorem fetch_holds_partial (n : Nat) (ops : List COp) (S : Sys) (hS : S = (Sys.init n).run ops)
    (s : Nat) (rs : RootSet) (h : Handle) (hl : S.d.liveSet s = some rs) (hm : h ∈ S.d.handles)
    (hs : h.set = s) (hcb : S.a.cb ≠ none) :
    (S.step (.fetch s h)).a.holds (.strong h.ptr) = true ∧
    (S.step (.fetch s h)).a.ctx = S.a.ctx ∧ (S.step (.fetch s h)).a.root = S.a.root ∧
    (S.step (.fetch s h)).d = S.d ∧
    (∃ l, S.loc[s]? = some l ∧
      ((S.a.step (.readRoot l.slot)).1.step (.read l.id h.index)).2 = Arena.showPtr (.strong h.ptr)) ∧
    Safe (S.step (.fetch s h)).a.ctx h.ptr := by
  have hc := live_partial hS hl
  obtain ⟨hsets, _⟩ := DynRoots.liveSet_eq_some.1 hl
  obtain ⟨_, l, o, hloc, ho, hslot⟩ := fetch_is_the_stashed_object_partial n ops S hS s rs h hl hm hs
  obtain ⟨hh, _⟩ := hc.sets s l rs hloc hsets
  have hq : (mirror l.cap rs.slots.slots)[h.index]? = some (some (.strong h.ptr)) := by
    obtain ⟨o', ho', _, _, hs'⟩ := hh.obj
    rw [ho] at ho'; cases ho'
    rw [← hs']; exact hslot
  obtain ⟨f1, f2, f5, f7⟩ := fetch_net hc.alive hcb hh hq
  have hcs : S.a.cb.isSome = true := Option.isSome_iff_ne_none.2 hcb
  have hcont : DynRoots.containsB s h = true := by simp [DynRoots.containsB, hs]
  have e : S.step (.fetch s h) = (S.doA (fetchOps l h)).doD (.fetch s h) := by
    simp [Sys.step, Sys.fetchLike, hloc, hc.alive, hcs, hm, hl, hcont]
  have hc' : Live n (S.step (.fetch s h)) := hc.step _ (by intro e; cases e)
  rw [e] at hc' ⊢
  refine ⟨f5, f1, f2, DynRoots.next_fetch _ _ _, ⟨l, hloc, f7⟩, ?_⟩
  exact hc'.inv.ptrOK_of_holds (p := .strong h.ptr) f5

/-- Dropping the last handle of a slot **outside any callback** (in particular between two
collection increments, in any phase): the collector-side encoding — a pointer-free `mutate`
callback doing a barrier-less `.raw` store of `None` — is accepted, and its net effect on the arena
is exactly clearing that slot of the set object: colours, gray queues, phase, metrics, root, cover
and callback state are unchanged; the model's `marked` flag is reset (R6). -/
theorem drop_outside_callback_net_effect (n : Nat) (ops : List COp) (S : Sys)
    (hS : S = (Sys.init n).run ops) (h : Handle) (hm : h ∈ S.d.handles) (rs : RootSet) (r : Nat)
    (hl : S.d.liveSet h.set = some rs) (hv : rs.slots.slots[h.index]? = some (.occupied r 0))
    (hcb : S.a.cb = none) :
    ∃ l, S.loc[h.set]? = some l ∧
      (S.step (.dropHandle h)).a =
        { S.a with marked := false, ctx := Arena.setSlot S.a.ctx l.id h.index none } ∧
      (S.step (.dropHandle h)).d = DynRoots.next S.d (.dropHandle h) := by
  have hc := live_partial hS hl
  obtain ⟨hsets, _⟩ := DynRoots.liveSet_eq_some.1 hl
  obtain ⟨l, hloc⟩ := hc.loc_of_set hsets
  obtain ⟨hh, hle⟩ := hc.sets h.set l rs hloc hsets
  have hidx : h.index < rs.slots.slots.length := DynRoots.lt_of_getElem?_some hv
  refine ⟨l, hloc, ?_, ?_⟩
  · have e : (S.step (.dropHandle h)).a = S.a.run (clearOps S.a l h.index) := by
      simp [Sys.step, hm, hloc, hl, hv, Sys.doA, Sys.doD]
    rw [e]
    exact clear_net_outside hc.inv hcb hh (by rw [mirror_length]; omega)
  · simp [Sys.step, hm, hloc, hl, hv, Sys.doA, Sys.doD]

/-- `stash` inside a callback holding `r`, within capacity: the three collector-side ops are accepted
(the `.raw` store is licensed by the cover the barrier has just issued) and their net effect on the
context is `backward_barrier(set, Some(r))` followed by the slot store. -/
theorem stash_net_effect (n : Nat) (ops : List COp) (S : Sys) (hS : S = (Sys.init n).run ops)
    (s r idx : Nat) (rs : RootSet) (sl : DynRoots.Slots) (l : SetLoc) (hloc : S.loc[s]? = some l)
    (hl : S.d.liveSet s = some rs) (ha : rs.slots.add r = .ok (sl, idx)) (hcb : S.a.cb ≠ none)
    (hr : S.a.holds (.strong r) = true) (hidx : idx < l.cap) :
    (S.step (.stash s r)).a.ctx =
      Arena.setSlot (S.a.ctx.backwardBarrier l.id (some r)) l.id idx (some (.strong r)) ∧
    (S.step (.stash s r)).a.root = S.a.root ∧
    (S.step (.stash s r)).a.cover = .pair l.id r :: S.a.cover ∧
    (S.step (.stash s r)).d = DynRoots.next S.d (.stash s r) := by
  have hc := live_partial hS hl
  obtain ⟨hsets, _⟩ := DynRoots.liveSet_eq_some.1 hl
  obtain ⟨hh, _⟩ := hc.sets s l rs hloc hsets
  obtain ⟨t, en, _⟩ := stash_net hc.alive hcb hh hr (idx := idx) (by rw [mirror_length]; exact hidx)
  have hcs : S.a.cb.isSome = true := Option.isSome_iff_ne_none.2 hcb
  have e : S.step (.stash s r) = (S.doA (stashOps l r idx)).doD (.stash s r) := by
    simp [Sys.step, hloc, hl, ha, hc.alive, hcs, hr, hidx]
  rw [e]
  show (S.a.run (stashOps l r idx)).ctx = _ ∧ (S.a.run (stashOps l r idx)).root = _ ∧
    (S.a.run (stashOps l r idx)).cover = _ ∧ _
  rw [en]
  exact ⟨rfl, rfl, rfl, rfl⟩


/-- Dropping the arena (outside callbacks) is coupled with `destroySet` for every set: afterwards
the arena is gone and no set is alive; the handles are untouched. -/
theorem arena_drop_destroys_sets_partial (n : Nat) (ops : List COp) (S : Sys) (hS : S = (Sys.init n).run ops)
    (halive : S.a.alive = true) (hcb : S.a.cb = none) :
    (S.step .dropArena).a.alive = false ∧ (∀ s, (S.step .dropArena).d.liveSet s = none) ∧
    (S.step .dropArena).d = DynRoots.run S.d (destroyOps S.d.sets.length) ∧
    (S.step .dropArena).d.handles = S.d.handles := by
  have hc : Live n S := (show Coupled n S by rw [hS]; exact coupled_run_partial n ops).live halive
  have e : S.step .dropArena = (S.doA [.dropArena]).doDs (destroyOps S.d.sets.length) := by
    simp [Sys.step, halive, hcb]
  have hd := hc.dropArena hcb
  rw [e]
  obtain ⟨_, _, _, s4, _⟩ := (S.doA [.dropArena]).doDs_spec (destroyOps S.d.sets.length)
  refine ⟨hd.dead, hd.sets, s4, ?_⟩
  rw [s4]
  exact (run_destroy _ _).2.1

/-- Handles outlive their arena harmlessly: in every coupled state whose arena has been dropped, no
set is alive, so cloning or dropping any live handle only adds / removes the handle (no table is
touched, nothing can panic), `fetch` / `try_fetch` / `contains` have no alive set to be called on,
and every collector-model op is refused.
Full strength: `handles_outlive_arena`. -/
theorem handles_outlive_arena_partial (n : Nat) (ops : List COp) (S : Sys) (hS : S = (Sys.init n).run ops)
    (hdead : S.a.alive = false) (h : Handle) (hm : h ∈ S.d.handles) :
    (∀ s, S.d.liveSet s = none) ∧
    DynRoots.step S.d (.clone h) = .ok { S.d with handles := h :: S.d.handles } (.handle h) ∧
    DynRoots.step S.d (.dropHandle h) = .ok { S.d with handles := S.d.handles.erase h } .unit ∧
    (∀ s, DynRoots.step S.d (.fetch s h) = .illFormed) ∧
    (∀ op, (S.a.step op).1 = S.a) := by
  have hc : Coupled n S := by rw [hS]; exact coupled_run_partial n ops
  have hnone := hc.dead hdead
  obtain ⟨h1, h2⟩ := C14.outlive S.d h hm (hnone h.set)
  refine ⟨hnone, h1, h2, fun s => ?_, fun op => step_dead hdead op⟩
  simp [DynRoots.step, hm, hnone s]

/-! ## Non-vacuity: the coupled history `demo` (Proofs/DynReach.lean), evaluated by the kernel -/

/-- after `finish_marking`: "Marked", the set object is black and holds object 1 in slot 0 -/
example : ((Sys.init 1).run (demo.take 6)).a.collectionPhase = "Marked" ∧
    ((Sys.init 1).run (demo.take 6)).a.ctx.heap.get 0 =
      some ⟨.black, true, true, [some (.strong 1), none]⟩ := by decide +kernel

/-- the stash into the black set: the backward barrier re-grays the set object (so the white object 2
will be traced), the raw store is accepted, the table and the object agree -/
example : ((Sys.init 1).run (demo.take 9)).a.ctx.heap.get 0 =
      some ⟨.gray, true, true, [some (.strong 1), some (.strong 2)]⟩ ∧
    ((Sys.init 1).run (demo.take 9)).a.ctx.heap.get 2 = some ⟨.white, true, true, [none]⟩ ∧
    ((Sys.init 1).run (demo.take 9)).a.ctx.grayAgain = [0] ∧
    ((Sys.init 1).run (demo.take 9)).a.cover = [.pair 0 2] ∧
    ((Sys.init 1).run (demo.take 9)).d.sets =
      [⟨true, ⟨[.occupied 1 0, .occupied 2 0], DynRoots.nullIndex⟩⟩] ∧
    ((Sys.init 1).run (demo.take 9)).d.handles = [⟨0, 1, 2, 1⟩, ⟨0, 0, 1, 0⟩] := by decide +kernel

/-- the drop of the last handle of object 1, outside any callback, still in phase `Mark`: slot 0 of the
set object is cleared and vacated in the table; colours and queues are as before -/
example : afterDrop.a.ctx.heap.get 0 = some ⟨.gray, true, true, [none, some (.strong 2)]⟩ ∧
    afterDrop.a.ctx.heap.get 1 = some ⟨.black, true, true, [none]⟩ ∧
    afterDrop.a.ctx.phase = .mark ∧ afterDrop.a.ctx.grayAgain = [0] ∧
    afterDrop.a.cb = none ∧ afterDrop.a.temps = [] ∧
    afterDrop.d.sets = [⟨true, ⟨[.vacant DynRoots.nullIndex, .occupied 2 0], 0⟩⟩] ∧
    afterDrop.d.handles = [⟨0, 1, 2, 1⟩] :=
  afterDrop_facts.2.2.2.2

/-- two `finish_cycle` calls later object 1 has been destructed and released; the set object and the
still-stashed object 2 are alive -/
example : ((Sys.init 1).run demo).a.ctx.heap.get 1 = none ∧
    ((Sys.init 1).run demo).a.ctx.log = [.freed 1, .dropped 1] ∧
    ((Sys.init 1).run demo).a.ctx.heap.get 2 = some ⟨.white, true, true, [none]⟩ ∧
    ((Sys.init 1).run demo).a.ctx.heap.get 0 = some ⟨.white, true, true, [none, some (.strong 2)]⟩ ∧
    ((Sys.init 1).run demo).a.ctx.err = none := by decide +kernel

/-- the collector-model ops the coupled run executed (the encodings, in order) -/
example : ((Sys.init 1).run demo).aops = [
    .enter .mutateRoot, .alloc true [none, none], .rootStore 0 (some (.strong 0)), .alloc true [none],
    .readRoot 0, .barrier (.bb 0 (some 1)), .store .raw 0 0 (some (.strong 1)), .leave,
    .collect .finishMarking .drop none none,
    .enter .mutate, .alloc true [none],
    .readRoot 0, .barrier (.bb 0 (some 2)), .store .raw 0 1 (some (.strong 2)), .leave,
    .enter .mutate, .readRoot 0, .store .raw 0 0 none, .leave,
    .collect .finishCycle .drop none none, .collect .finishCycle .drop none none] := rfl

/-- The hypotheses of `collectable_after_last_drop_partial` hold in `afterDrop` for set 0 and object 1: no
handle of object 1 is left, and object 1 is reachable by no route avoiding the edge 0 → 1 … -/
theorem afterDrop_only_via_set : ¬ ReachAvoiding afterDrop.a.ctx afterDrop.a.root 0 1 1 := by
  obtain ⟨hroot, h2, _, _, h0, _⟩ := afterDrop_facts
  intro h
  have key : (1 : Nat) = 0 ∨ (1 : Nat) = 2 := by
    refine ReachAvoiding.closed (fun j => j = 0 ∨ j = 2) (fun t ht => ?_) (fun i t hi e _ => ?_) h
    · rw [hroot] at ht; simp at ht; exact .inl ht
    · obtain ⟨o, ho, hp⟩ := e
      rcases hi with rfl | rfl
      · rw [h0] at ho; cases ho; simp at hp; exact .inr hp
      · rw [h2] at ho; cases ho; simp at hp
  rcases key with h | h <;> cases h

/-- … so the theorem applies: two `finish_cycle` calls leave object 1 neither allocated nor
undestructed (and the kernel evaluation above shows it is in fact destructed and released). -/
example : ¬ ∃ o, ((afterDrop.step fc).step fc).a.ctx.heap.get 1 = some o ∧ o.live = true := by
  obtain ⟨_, _, hls, hloc, _, _, _, _, hcb, _, _, hh⟩ := afterDrop_facts
  exact (collectable_after_last_drop_partial 1 (demo.take 11) afterDrop rfl 0 1
    ⟨true, ⟨[.vacant DynRoots.nullIndex, .occupied 2 0], 0⟩⟩ hls (by rw [hh]; decide) ⟨0, 0, 2⟩ hloc
    hcb afterDrop_only_via_set).2.2.2

/-- `stashed_survives_while_handle_partial` applies in `afterDrop` to the remaining handle (object 2,
still white by `afterDrop_facts`, stashed into a set that was black): it is `Safe`. -/
example : Safe afterDrop.a.ctx 2 := by
  obtain ⟨_, _, hls, _, _, _, _, _, _, _, _, hh⟩ := afterDrop_facts
  exact (stashed_survives_while_handle_partial 1 (demo.take 11) afterDrop rfl ⟨0, 1, 2, 1⟩ (by rw [hh]; decide)
    ⟨true, ⟨[.vacant DynRoots.nullIndex, .occupied 2 0], 0⟩⟩ hls).2 2 (.temp 2 (by simp))

/-- `fetch` inside a callback: the two reads of the encoding put the stashed pointer among the held
pointers. -/
example : ((Sys.init 1).run (demo.take 5 ++ [.gc (.enter .mutate), .fetch 0 ⟨0, 0, 1, 0⟩])).a.temps =
    [.strong 1, .strong 0] := by decide +kernel

/-- Slot reuse: after the drop, a new stash reuses table slot 0, and slot 0 of the set object holds
the new pointer; the older handle (index 1) still resolves to object 2. -/
example :
    let S := (Sys.init 1).run (demo.take 11 ++
      [.gc (.enter .mutate), .gc (.alloc true [none]), .stash 0 3, .gc .leave])
    S.d.handles = [⟨0, 0, 3, 2⟩, ⟨0, 1, 2, 1⟩] ∧
    S.a.ctx.heap.get 0 = some ⟨.gray, true, true, [some (.strong 3), some (.strong 2)]⟩ := by decide +kernel

/-- Restriction R4 at work: a set object with capacity 1 accepts one stash; the second (index 1) is
not a coupled operation and changes neither side. -/
example :
    let S := (Sys.init 1).run [.gc (.enter .mutateRoot), .newSet 0 1, .gc (.alloc true [none]),
      .gc (.alloc true [none]), .stash 0 1, .stash 0 2]
    S.d.handles = [⟨0, 0, 1, 0⟩] ∧
    S.a.ctx.heap.get 0 = some ⟨.white, true, true, [some (.strong 1)]⟩ := by decide +kernel

/-- A clone keeps the slot occupied when the original is dropped (no arena-side op at all). -/
example :
    let S := (Sys.init 1).run (demo.take 5 ++ [.clone ⟨0, 0, 1, 0⟩, .dropHandle ⟨0, 0, 1, 0⟩])
    S.d.handles = [⟨0, 0, 1, 0⟩] ∧ S.d.sets = [⟨true, ⟨[.occupied 1 0], DynRoots.nullIndex⟩⟩] ∧
    S.a.ctx.heap.get 0 = some ⟨.white, true, true, [some (.strong 1), none]⟩ ∧
    S.aops.length = 8 := by decide +kernel

/-- Arena drop: the set is destroyed; the surviving handle can still be cloned and dropped, without
touching the (dead) table. -/
example :
    let S := (Sys.init 1).run (demo ++ [.dropArena, .clone ⟨0, 1, 2, 1⟩, .dropHandle ⟨0, 1, 2, 1⟩])
    S.a.alive = false ∧ S.d.liveSet 0 = none ∧ S.d.handles = [⟨0, 1, 2, 1⟩] ∧
    S.d.sets = [⟨false, ⟨[.vacant DynRoots.nullIndex, .occupied 2 0], 0⟩⟩] ∧
    S.dops.length = 7 := by decide +kernel

end GcArena.C14s
