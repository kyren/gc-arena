import GcArena.Proofs.LogRun
import GcArena.Proofs.PtrRefine
import GcArena.Proofs.PtrRun
import GcArena.Props.C05
/-!
# C04 — Every value is destructed exactly once and all memory is returned

Event discipline: `dropped i` / `freed i` are appended to the monotone log only by `sweep_one` and
by `DropAll` (`Ctx.dropAll`).  The history-level theorems are corollaries of the log invariant
`LInv` (Proofs/LogInv.lean) proved for every history by `linv_run`; ids are never reused
(`heap.size` only grows), so "the same id" means "the same allocation".
-/
namespace GcArena.C04

open GcArena

/-- A sweep step destructs only a value that is still live (the `is_live` test of `sweep_one`),
    so releasing the shell of an already destructed object does not destruct it again. -/
theorem sweep_destructs_live_only {c : Ctx} {root temps} (h : CInv c root temps) (hp : c.phase = .sweep) :
    ∃ evs, NewEvents c c.sweepOne.1 evs ∧
      ∀ i, Event.dropped i ∈ evs → ∃ o, c.heap.get i = some o ∧ o.live = true := by
  obtain ⟨evs, hn, he⟩ := sweepOne_events h hp
  refine ⟨evs, hn, fun i hi => ?_⟩
  obtain ⟨_, _, o, ho, hl⟩ := he _ hi
  exact ⟨o, ho, hl rfl⟩

/-- `DropAll` on one object: destruct iff live, then release. -/
theorem drop_one (c : Ctx) (i : Nat) (o : Obj) (ho : c.heap.get i = some o) :
    (c.dropOne i).heap.get i = none ∧
    (c.dropOne i).log = (if o.live then [Event.freed i, Event.dropped i] else [Event.freed i]) ++ c.log := by
  obtain ⟨hlog, hget, _⟩ := dropOne_at ho
  exact ⟨by rw [hget, if_pos rfl], by rw [hlog]; cases o.live <;> rfl⟩

/-- Every collector micro-step other than a sweep step emits nothing (E2; for the mutator
    operations see C03). -/
theorem only_sweep_emits {c c' : Ctx} {root} (h : CInv c root []) (m : Micro)
    (hs : c.micro root m = some c') (hm : m ≠ .sweepStep) : c'.log = c.log := by
  cases micro_iff.mp hs with
  | sweepStep => exact absurd rfl hm
  | markStep f hp => exact (markOne_spec h hp f).2.log
  | _ => rfl

/-- Over any history — any interleaving, any phase in which the arena is finally dropped, or
    not dropped at all — no value is destructed twice and no block is released twice (the log has
    no duplicates), and the value of every released block has been destructed (`freed i` in the log
    implies `dropped i` in it; which came first is not part of the statement). -/
theorem once (n : Nat) (ops : List Op) :
    ((Arena.new n).run ops).ctx.log.Nodup ∧
    ∀ i, Event.freed i ∈ ((Arena.new n).run ops).ctx.log → Event.dropped i ∈ ((Arena.new n).run ops).ctx.log :=
  ⟨(linv_run n ops).nodup, (linv_run n ops).freedDropped⟩

/-- A released block is gone for good and its id is never handed out again: every logged id is
    below the allocation counter. -/
theorem released_is_gone (n : Nat) (ops : List Op) (i : Nat)
    (h : Event.freed i ∈ ((Arena.new n).run ops).ctx.log) :
    ((Arena.new n).run ops).ctx.heap.get i = none ∧ i < ((Arena.new n).run ops).ctx.heap.size :=
  ⟨(linv_run n ops).freedGone i h, (linv_run n ops).bound _ h⟩

/-- `is_dropped` (the cleared `live` flag of an allocated block) is exact: it is set iff the
    destructor of that value has run, and — the log being monotone — it never reverts (C05). -/
theorem is_dropped_exact (n : Nat) (ops : List Op) (i : Nat) (o : Obj)
    (ho : ((Arena.new n).run ops).ctx.heap.get i = some o) :
    o.live = false ↔ Event.dropped i ∈ ((Arena.new n).run ops).ctx.log :=
  C05.is_dropped_exact n ops i o ho

/-- Dropping the arena at any point of any history (asleep, mid-mark, fully marked, mid-sweep,
    with shells): afterwards every id ever allocated is logged as destructed and as released —
    each exactly once (`once`) — nothing is allocated any more and the count reads zero. -/
theorem drop_arena (n : Nat) (ops : List Op) (halive : ((Arena.new n).run ops).alive = true)
    (hcb : ((Arena.new n).run ops).cb = none) :
    let a := (Arena.new n).run ops
    let a' := (a.step .dropArena).1
    a'.ctx.metrics.totalGcs = 0 ∧ a'.ctx.metrics.underflow = false ∧ a'.alive = false ∧
    (∀ j, a'.ctx.heap.get j = none) ∧
    (∀ i, i < a.ctx.heap.size → Event.freed i ∈ a'.ctx.log ∧ Event.dropped i ∈ a'.ctx.log) ∧
    a'.ctx.log.Nodup := by
  intro a a'
  have hi : Inv a := inv_run n ops halive
  have hl : LInv a.ctx := linv_run n ops
  have ha' : a' = { a with marked := false, ctx := a.ctx.dropAll, alive := false, root := [], cover := [] } := by
    rcases step_dropArena hi.alive with ⟨hne, _⟩ | ⟨_, e⟩
    · exact absurd hcb hne
    · exact e
  obtain ⟨d1, d2, d3, d4, d5⟩ := dropAll_spec hi.cinv hl
  rw [ha']
  refine ⟨d3, d4, rfl, d2, ?_, d1.nodup⟩
  intro i hi'
  have hf := d1.goneFreed i (by rw [d5]; exact hi') (d2 i)
  exact ⟨hf, d1.freedDropped i hf⟩

/-- Every id below the allocation counter is either still allocated or logged as released:
    nothing leaks from the collector's books in any state of any history. -/
theorem nothing_unaccounted (n : Nat) (ops : List Op) (i : Nat)
    (hi : i < ((Arena.new n).run ops).ctx.heap.size) :
    (∃ o, ((Arena.new n).run ops).ctx.heap.get i = some o) ∨ Event.freed i ∈ ((Arena.new n).run ops).ctx.log := by
  cases hg : ((Arena.new n).run ops).ctx.heap.get i with
  | some o => exact Or.inl ⟨o, rfl⟩
  | none => exact Or.inr ((linv_run n ops).goneFreed i hi hg)

/-! ### The pointer surgery on the intrusive `all` list implements the lists of the model

`PList` (Model/PtrList.lean) is the `next` field of every header plus `Context::{all, sweep,
sweep_prev}`, with the statements of `link`, the `Mark → Sweep` switch, `sweep_one` and `DropAll`
that touch them.  `Rep p pre rest` says that following `next` from `all` yields `pre ++ rest`
(each object once), from `sweep` yields `rest`, and `sweep_prev` is the last object of `pre`.
So no object ever drops off the list unreleased (what the seeded change `C04-weak-sweep-prev` breaks),
and nothing on the list points at a released block. -/

/-- Allocation in any phase — also mid-sweep, also when `sweep_prev` is `None`. -/
theorem list_surgery_link {p : PList} {c : Ctx} {root temps} (hinv : CInv c root temps)
    (h : Rep p c.pre c.rest) (o : Obj) :
    Rep (p.link (c.link o).2) (c.link o).1.pre (c.link o).1.rest :=
  link_refines hinv h o

/-- The `Mark → Sweep` switch. -/
theorem list_surgery_enter_sweep {p : PList} {pre : List Nat} (h : Rep p pre []) (hs : p.sweeping = false) :
    Rep p.enterSweep [] pre := h.enterSweep hs

/-- One `sweep_one` over an object of any colour, wherever the cursor and `sweep_prev` are. -/
theorem list_surgery_sweep {p : PList} {c : Ctx} {root temps} (hinv : CInv c root temps)
    (hp : c.phase = .sweep) (hs : p.sweeping = true) (h : Rep p c.pre c.rest) (s : Nat) (r : List Nat)
    (hr : c.rest = s :: r) :
    Rep (p.sweepOne c.isWhite).1 c.sweepOne.1.pre c.sweepOne.1.rest :=
  sweepOne_refines hinv hp hs h s r hr

/-- The end of the sweep: `sweep_prev` is reset, the list is whole. -/
theorem list_surgery_end_sweep {p : PList} {pre : List Nat} (h : Rep p pre []) (hs : p.sweeping = true)
    (remove : Nat → Bool) : Rep (p.sweepOne remove).1.endSweep pre [] := (h.endSweep hs remove).2

/-- After any of these steps no `next` field of an object on the list points outside the list —
    in particular not at a block `sweep_one` has just released. -/
theorem no_dangling_next {p : PList} {pre rest : List Nat} (h : Rep p pre rest) (i : Nat)
    (hi : i ∈ pre ++ rest) (t : Nat) (ht : p.next i = some t) : t ∈ pre ++ rest :=
  h.chain.next_mem i hi t ht

/-- `DropAll` (arena drop, in any phase) visits exactly the objects on the list, each once. -/
theorem drop_visits_all {p : PList} {pre rest : List Nat} (h : Rep p pre rest) :
    PList.walk p.next ((pre ++ rest).length + 1) p.all = pre ++ rest := h.walk

/-- Non-vacuity: three allocations, sweep started, middle object unlinked behind a kept one. -/
example :
    let p := (((PList.empty.link 0).link 1).link 2).enterSweep
    let p1 := (p.sweepOne (fun i => i == 1)).1      -- 2 kept: sweep_prev = 2
    let p2 := (p1.sweepOne (fun i => i == 1)).1     -- 1 unlinked through sweep_prev
    PList.walk p2.next 4 p2.all = [2, 0] ∧ p2.sweep = some 0 ∧ p2.sweepPrev = some 2 := by decide +kernel

/-! ### The pointer-level list along whole histories

`PRunFrom a p ops p'` (Proofs/PtrRun.lean): a pointer-level state threaded through the history —
`Context::link` at every allocation, the `Mark → Sweep` switch, `sweep_one` with the colour test of
the context at that moment, the end of the sweep — driven by the same operations; for a collection
call, by any sequence of micro-steps that takes the context where the call took it (the self-driven
loop is one, `C01.do_collection_is_micro_steps`). -/

/-- A pointer-level run coupled with the history `ops` of a fresh arena. -/
def PRun (n : Nat) (ops : List Op) (p : PList) : Prop := PRunFrom (Arena.new n) PList.empty ops p

/-- **Run-level refinement.**  For every history that leaves the arena alive a coupled
    pointer-level run exists, and *every* coupled run ends in a state that represents the model's
    lists: following `next` from `all` yields `pre ++ rest`, each object once; while sweeping, from
    `sweep` yields `rest` and `sweep_prev` is the last object in front of the cursor; outside the
    sweep both are `None` — and it is in sweep mode exactly when the model is in the sweep phase.
    So `Rep` is not an assumption of the `list_surgery_*` theorems along real histories: it holds in
    every state of every history. -/
theorem rep_run (n : Nat) (ops : List Op) (halive : ((Arena.new n).run ops).alive = true) :
    (∃ p, PRun n ops p) ∧
    ∀ p, PRun n ops p →
      Rep p ((Arena.new n).run ops).ctx.pre ((Arena.new n).run ops).ctx.rest ∧
      (p.sweeping = true ↔ ((Arena.new n).run ops).ctx.phase = .sweep) := by
  refine ⟨prun_exists ops _ _ (inv_init n) halive, fun p hp => ?_⟩
  have r := rep_run_from hp (inv_init n) halive (repC_init n)
  exact ⟨r.rep, r.mode⟩

/-- In every state of every history, no `next` field of an object on the list points anywhere but
    at an object on the list — which is allocated: never at a released block. -/
theorem no_dangling_next_run (n : Nat) (ops : List Op) (halive : ((Arena.new n).run ops).alive = true)
    (p : PList) (hp : PRun n ops p) (i : Nat) (hi : i ∈ ((Arena.new n).run ops).ctx.all) (t : Nat)
    (ht : p.next i = some t) :
    t ∈ ((Arena.new n).run ops).ctx.all ∧ ∃ o, ((Arena.new n).run ops).ctx.heap.get t = some o := by
  have hrep := ((rep_run n ops halive).2 p hp).1
  have hm := no_dangling_next hrep i hi t ht
  exact ⟨hm, ((inv_run n ops halive).cinv.memAll t).mp hm⟩

/-- In every state of every history, `DropAll` — dropping the arena there, in whatever phase —
    walks exactly the allocated objects, each once: its visit list is duplicate-free and an id is
    on it iff its block is allocated. -/
theorem drop_visits_all_run (n : Nat) (ops : List Op) (halive : ((Arena.new n).run ops).alive = true)
    (p : PList) (hp : PRun n ops p) :
    let visited := PList.walk p.next (((Arena.new n).run ops).ctx.all.length + 1) p.all
    visited = ((Arena.new n).run ops).ctx.all ∧ visited.Nodup ∧
    ∀ i, i ∈ visited ↔ ∃ o, ((Arena.new n).run ops).ctx.heap.get i = some o := by
  intro visited
  have hrep := ((rep_run n ops halive).2 p hp).1
  have hw : visited = ((Arena.new n).run ops).ctx.all := drop_visits_all hrep
  have hinv := (inv_run n ops halive).cinv
  refine ⟨hw, by rw [hw]; exact hinv.nodup, fun i => ?_⟩
  rw [hw]; exact hinv.memAll i

/-- The coupling takes the pointer statement `sweep_prev = None` of the end-of-list `sweep_one`
    (`'e'`) together with the `Sweep → Sleep` switch (`'Z'`).  That hides nothing: in every history
    whose collection calls are self-driven (`Context::do_collection` as written, any method, debt,
    pacing, fault) no state at an operation boundary has `'e'` as its newest step — the loop never
    returns between the two, so no `link`, callback or other call can run there.  (An oracle that cut
    a logged call between `'e'` and `'Z'` could; the harness logs whole calls.)  Also note:
    `PList.sweepOne` keeps (`sweep_prev := Some`) in every non-white arm, `Context::sweep_one`'s
    `Gray` arm does not touch `sweep_prev` — unreachable under the invariant (`sweepOne_refines`
    excludes gray under the cursor), so both agree on every reachable state. -/
theorem sweep_end_and_switch_adjacent_run (n : Nat) (ops : List Op)
    (hself : ∀ op, op ∈ ops → ∀ m k f o, op = .collect m k f o → o = none) :
    ((Arena.new n).run ops).ctx.steps.head? ≠ some 'e' :=
  selfdriven_run_never_stops_at_e n ops hself

example : ((Arena.new 2).run [.enter .mutateRoot, .alloc true [none], .leave,
    .collect .finishCycle .drop none none]).ctx.steps = ['Z', 'e', 'x', 'S', 'b', 'r', 'W'] := by decide +kernel

/-! ### Non-vacuity: dropping mid-sweep with a shell, a kept object and a condemned one -/

def demo : List Op := [
  .enter .mutateRoot, .alloc true [none], .alloc true [none], .alloc true [none], .downgrade 2,
  .rootStore 0 (some (.strong 0)), .rootStore 1 (some (.weak 2)), .leave,
  .collect .finishMarking .sweep none (some [.wake, .markStep none, .markStep none, .markBreak, .toSweep]),
  .collect .collectDebt .drop none (some [.sweepStep]),
  .dropArena ]

private theorem demo_facts :
    ((Arena.new 2).run demo).ctx.log = [.freed 0, .dropped 0, .freed 1, .dropped 1, .freed 2, .dropped 2] ∧
    ((Arena.new 2).run demo).ctx.metrics.totalGcs = 0 := by decide +kernel

example : ((Arena.new 2).run demo).ctx.log =
    [.freed 0, .dropped 0, .freed 1, .dropped 1, .freed 2, .dropped 2] := demo_facts.1
example : ((Arena.new 2).run demo).ctx.metrics.totalGcs = 0 := demo_facts.2

/-- `rep_run` and its corollaries on `demo` stopped mid-sweep (one object passed by the cursor, two
    not yet reached, a fourth allocated meanwhile): a coupled pointer-level run exists, represents the
    lists `pre = [3, 2]`, `rest = [1, 0]`, is in sweep mode, and `DropAll` would visit `[3, 2, 1, 0]`. -/
example :
    let ops := demo.take 10 ++ [.enter .mutate, .alloc true [none]]
    ((Arena.new 2).run ops).ctx.pre = [3, 2] ∧ ((Arena.new 2).run ops).ctx.rest = [1, 0] ∧
    ∃ p, PRun 2 ops p ∧ Rep p [3, 2] [1, 0] ∧ p.sweeping = true ∧
      PList.walk p.next 5 p.all = [3, 2, 1, 0] := by
  intro ops
  obtain ⟨hal, hpre, hrest, hph, hall'⟩ : ((Arena.new 2).run ops).alive = true ∧
      ((Arena.new 2).run ops).ctx.pre = [3, 2] ∧ ((Arena.new 2).run ops).ctx.rest = [1, 0] ∧
      ((Arena.new 2).run ops).ctx.phase = .sweep ∧ ((Arena.new 2).run ops).ctx.all = [3, 2, 1, 0] := by
    decide +kernel
  obtain ⟨⟨p, hp⟩, hall⟩ := rep_run 2 ops hal
  obtain ⟨hrep, hmode⟩ := hall p hp
  have hw := (drop_visits_all_run 2 ops hal p hp).1
  rw [hpre, hrest] at hrep
  rw [hall'] at hw
  exact ⟨hpre, hrest, p, hp, hrep, hmode.mpr hph, hw⟩

end GcArena.C04
