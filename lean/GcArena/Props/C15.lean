import GcArena.Proofs.DeriveLemmas
/-!
# C15 — `derive(Collect)` traces every field and rejects unsound uses (property theorems)

Model: `GcArena.Model.Derive` (hand-written from `/repo/derive/src/lib.rs`, `src/collect.rs`
`Trace::trace`, `src/no_drop.rs`), tied to the real proc-macro by the shape differential of
`/verif/harness_collect` (`lib/eng_collect.py`).  The theorems about the derive quantify over ALL
declarations (any number of variants and fields, any nesting of provided containers and derived
ADTs, any attribute lists) and all values; they are proved by structural induction, none by
enumeration.  Evaluation (`decide`) is used only on concrete terms: the witnesses of the two
`…_literal_false` refutations, the census `probe_corpus_covers_every_constructor`, the examples.

`*_generic` versions are about a generic declaration instantiated at an arbitrary exact
environment `ρ` (dictionary passing); the unsuffixed ones are the closed case `ρ = []`.

Naming.  `X_statement : Prop` = a clause of the property at full strength that is NOT proved
(reported as pending by lib/vcheck.py); `X_partial` = the part of it that is proved, under a
restriction the property text does not have.  `X_literal : Prop` with `X_literal_false : ¬ X_literal`
= a clause that, read literally, is FALSE of the derive (concrete witness, checked by `decide`, and
listed in /verif/known_findings.txt); `X_partial` again is what holds.  Theorems without a suffix
are proved exactly as stated.  This reading of `X_statement` is this file's alone: in the other
Props files every `def X_statement` is proved by a `theorem X` next to it.

Rejection theorems: `Rejected x` = the check fails with some error; `RejectedByMacro x` = it fails
inside the macro (`panic!` or `compile_error!`, see `Reject.stage`).  A theorem that concludes
`RejectedByMacro` leaves the class open, also where its docstring says which one the macro uses;
`rejects_duplicate_attr` and `rejects_type_attr_error` state the class (`.compileError`).
-/
namespace GcArena.C15

open GcArena.Derive

/-! ## Exactness of the generated `trace` -/

/-- Generic form: for an accepted derive at an instantiation whose parameters are exact, the
generated `Collect::trace` of a well-typed value reports exactly (as a list, in declaration order)
the `Gc`/`GcWeak` pointers the value holds — every field of the active variant, `require_static`
fields being `'static` hence pointer-free (hypothesis inside `HasTypeIn`). -/
theorem exact_generic_list (ρ : List Sem) (hρ : EnvGood ρ) (d : Decl) (v : Val)
    (hc : deriveCheckIn ρ d = .ok ()) (ht : HasTypeIn ρ v d) : traceIn ρ d v = ptrsOf v :=
  traceR_eq ρ d.resolveDef (d.resolve ρ) (Decl.resolve_good d ρ hρ) hc v ht

theorem exact_generic (ρ : List Sem) (hρ : EnvGood ρ) (d : Decl) (v : Val)
    (hc : deriveCheckIn ρ d = .ok ()) (ht : HasTypeIn ρ v d) : (traceIn ρ d v).Perm (ptrsOf v) := by
  rw [exact_generic_list ρ hρ d v hc ht]

/-- C15, first sentence, at full strength (literal): for every accepted shape and every value of
that shape, the derived `trace` reports every `Gc` / `GcWeak` held in every field of the active
variant except the fields marked `require_static` — with NO assumption on what `'static` parts
hide.  PENDING, and not provable inside this model: `heldInTracedFields` includes pointers hidden
in `require_static` fields of NESTED derived types and in the fields of a type-level
`require_static` type, which the generated code deliberately skips because such parts are
`'static`; the clause is true of the implementation exactly if a `'static` type cannot hold an
arena pointer (the brand property, C12).  The proved part is `exact_partial`, where that
assumption is the explicit hypothesis inside `HasType`. -/
def exact_statement : Prop :=
  ∀ (d : Decl) (v : Val), deriveCheck d = .ok () → HasShape v d →
    (traceDerived d v).Perm (heldInTracedFields d v)

/-- C15, first half, proved part (`HasType` = `HasShape` + "`require_static` fields / `require_static` types are `'static`, hence
pointer-free", so `ptrsOf v` is exactly what the traced fields hold). -/
theorem exact_partial (d : Decl) (v : Val) (hc : deriveCheck d = .ok ()) (ht : HasType v d) :
    (traceDerived d v).Perm (ptrsOf v) :=
  exact_generic [] envGood_nil d v hc ht

/-- A generic declaration instantiated at ANY closed type arguments of the universe (no semantic
hypothesis left: the arguments' exactness is `Ty.sems_good`). -/
theorem exact_instantiated (d : Decl) (args : List Ty) (v : Val)
    (hc : deriveCheckIn (Ty.sems [] args) d = .ok ()) (ht : HasTypeIn (Ty.sems [] args) v d) :
    (traceIn (Ty.sems [] args) d v).Perm (ptrsOf v) :=
  exact_generic _ (Ty.sems_good args [] envGood_nil) d v hc ht

/-- The same through `Trace::trace` (with the `NEEDS_TRACE` short-circuit), which is how a derived
value is visited when it is a field of something else or the pointee of a `Gc`. -/
theorem exact_through_trace (ρ : List Sem) (hρ : EnvGood ρ) (d : Decl) (v : Val)
    (hc : deriveCheckIn ρ d = .ok ()) (ht : HasTypeIn ρ v d) :
    ((Decl.sem ρ d).visit v).Perm (ptrsOf v) := by
  have hg : Good (Decl.sem ρ d) := good_derived ρ d.resolveDef (d.resolve ρ) (Decl.resolve_good d ρ hρ)
  have hcol : (Decl.sem ρ d).collect = true := by
    simp only [Decl.sem, derivedSem]
    unfold deriveCheckIn at hc
    rw [hc]; rfl
  rw [hg hcol v ht]

/-- Every type of the universe — arbitrary nesting of provided containers, derived ADTs (accepted
by the derive), pointers and leaves — is traced exactly by `Trace::trace`. -/
theorem every_type_exact (t : Ty) (ρ : List Sem) (hρ : EnvGood ρ) (hcol : (t.sem ρ).collect = true)
    (v : Val) (hv : (t.sem ρ).check v = true) : ((t.sem ρ).visit v).Perm (ptrsOf v) := by
  rw [Ty.sem_good t ρ hρ hcol v hv]

/-! ## `NEEDS_TRACE` -/

/-- C15, second half: the generated `NEEDS_TRACE` is `true` exactly when the derive is in a tracing
mode and some field that survives the `require_static` filter — in ANY variant — has a type whose
`NEEDS_TRACE` is `true`. -/
theorem needs_trace_exact_generic (ρ : List Sem) (d : Decl) :
    needsTraceIn ρ d = true ↔
      (∃ o m, parseTypeAttrs d.attrs = .ok o ∧ o.mode = some m ∧ m ≠ .requireStatic) ∧
      ∃ f ∈ d.fields, f.traced = true ∧ (f.ty.sem ρ).needsTrace = true := by
  -- in a tracing mode the generated constant is `any` of `needsTrace` over the kept (traced) fields
  -- (`needsTraceR_eq_any`), under `require_static` it is `false`; the rest carries mode and fields
  -- through `Decl.resolve`
  unfold needsTraceIn
  constructor
  · intro h
    cases hm : modeOf (d.resolve ρ) with
    | none => simp [needsTraceR, hm] at h
    | some m =>
      by_cases hrs : m = .requireStatic
      · subst hrs; rw [needsTraceR_requireStatic _ hm] at h; cases h
      · rw [needsTraceR_eq_any _ m hm hrs, List.any_eq_true] at h
        obtain ⟨rf, hrf, hn⟩ := h
        rw [List.mem_filter, Decl.resolve_fields, List.mem_map] at hrf
        obtain ⟨⟨f, hf, hfe⟩, hk⟩ := hrf
        subst hfe
        refine ⟨?_, f, hf, by simpa using hk, by simpa using hn⟩
        unfold modeOf at hm
        simp only [Decl.resolve_attrs] at hm
        cases hp : parseTypeAttrs d.attrs with
        | error e => simp [hp] at hm
        | ok o => simp only [hp] at hm; exact ⟨o, m, rfl, hm, hrs⟩
  · rintro ⟨⟨o, m, hp, hm, hrs⟩, f, hf, hk, hn⟩
    have hmode : modeOf (d.resolve ρ) = some m := by
      simp [modeOf, hp, hm]
    rw [needsTraceR_eq_any _ m hmode hrs, List.any_eq_true]
    refine ⟨f.resolve ρ, ?_, by simpa using hn⟩
    rw [List.mem_filter, Decl.resolve_fields]
    exact ⟨List.mem_map.mpr ⟨f, hf, rfl⟩, by simpa using hk⟩

theorem needs_trace_exact (d : Decl) :
    needsTraceDerived d = true ↔
      (∃ o m, parseTypeAttrs d.attrs = .ok o ∧ o.mode = some m ∧ m ≠ .requireStatic) ∧
      ∃ f ∈ d.fields, f.traced = true ∧ (f.ty.sem []).needsTrace = true :=
  needs_trace_exact_generic [] d

/-- One traced field whose type needs tracing is enough: the generated constant is `true` whatever
the other fields are, in whichever variant and position the field sits, and however its type is
spelled. -/
theorem needs_trace_of_traced_field (ρ : List Sem) (d : Decl) (o : Opts) (m : Mode)
    (hp : parseTypeAttrs d.attrs = .ok o) (hm : o.mode = some m) (hne : m ≠ .requireStatic)
    (f : Field) (hf : f ∈ d.fields) (hk : f.traced = true)
    (hn : (f.ty.sem ρ).needsTrace = true) : needsTraceIn ρ d = true :=
  (needs_trace_exact_generic ρ d).mpr ⟨⟨o, m, hp, hm, hne⟩, f, hf, hk, hn⟩

/-- Pointer types need tracing regardless of their pointee (`Gc<'gc, Self>`, `GcWeak<'gc, Self>`,
`Gc<'gc, RefLock<Self>>` are `Ty.gc` / `Ty.weak`), and every provided container of a type that
needs tracing does (`Option<Gc<'gc, Self>>`, `Vec<Gc<'gc, Self>>`, `[Option<Gc<'gc, Self>>; 2]`). So a
recursive node whose only pointer fields are links to `Self` still has `NEEDS_TRACE = true`. -/
theorem pointer_types_need_trace (ρ : List Sem) :
    (Ty.gc.sem ρ).needsTrace = true ∧ (Ty.weak.sem ρ).needsTrace = true ∧
    ∀ (c : Con) (args : List Ty), (∃ a ∈ args, (a.sem ρ).needsTrace = true) →
      ((Ty.con c args).sem ρ).needsTrace = true := by
  refine ⟨rfl, rfl, ?_⟩
  rintro c args ⟨a, ha, hn⟩
  show (Ty.sems ρ args).any (·.needsTrace) = true
  rw [Ty.sems_eq]
  exact List.any_eq_true.2 ⟨a.sem ρ, List.mem_map_of_mem ha, hn⟩

/-- `NEEDS_TRACE = false` is sound: a well-typed value of an accepted derive whose generated
constant is `false` holds no arena pointer at all (so skipping it in `Trace::trace` loses nothing). -/
theorem needs_trace_sound_generic (ρ : List Sem) (hρ : EnvGood ρ) (d : Decl) (v : Val)
    (hc : deriveCheckIn ρ d = .ok ()) (ht : HasTypeIn ρ v d) (hn : needsTraceIn ρ d = false) :
    ptrsOf v = [] := by
  rw [← exact_generic_list ρ hρ d v hc ht]
  exact traceR_nil_of_not_needs _ hn v

theorem needs_trace_sound (d : Decl) (v : Val) (hc : deriveCheck d = .ok ()) (ht : HasType v d)
    (hn : needsTraceDerived d = false) : ptrsOf v = [] :=
  needs_trace_sound_generic [] envGood_nil d v hc ht hn

/-! ## Rejections performed by the macro itself -/

/-- Missing mode (no `#[collect]` attribute at all, or one without `require_static` / `no_drop` /
`unsafe_drop`): the macro `panic!`s. -/
theorem rejects_missing_mode (ρ : List Sem) (d : Decl) (o : Opts)
    (hp : parseTypeAttrs d.attrs = .ok o) (hm : o.mode = none) :
    deriveCheckIn ρ d = .error .missingMode ∧ Reject.missingMode.stage = .macroPanic := by
  refine ⟨?_, rfl⟩
  apply deriveCheckR_of_macro_error
  simp [macroCheck, hp, hm]

/-- No `#[collect(...)]` attribute at all. -/
theorem rejects_no_attribute (ρ : List Sem) (d : Decl) (h : d.attrs = []) :
    deriveCheckIn ρ d = .error .missingMode :=
  (rejects_missing_mode ρ d {} (by rw [h]; rfl) rfl).1

/-- Two or more `#[collect]` attributes on the type: `compile_error!`. -/
theorem rejects_duplicate_attr (ρ : List Sem) (d : Decl) (h : 2 ≤ d.attrs.length) :
    deriveCheckIn ρ d = .error .duplicateAttr ∧ Reject.duplicateAttr.stage = .compileError := by
  refine ⟨?_, rfl⟩
  apply deriveCheckR_of_parse_error
  simp only [Decl.resolve_attrs]
  match hd : d.attrs, h with
  | _ :: _ :: _, _ => rfl

/-- Any failure of the type-level option parser is the result of the check, and is a
`compile_error!`. -/
theorem rejects_type_attr_error (ρ : List Sem) (d : Decl) (e : Reject)
    (h : parseTypeAttrs d.attrs = .error e) :
    deriveCheckIn ρ d = .error e ∧ e.stage = .compileError :=
  ⟨deriveCheckR_of_parse_error ρ _ _ e (by simpa using h), parseTypeAttrs_error_stage _ e h⟩

theorem rejected_of_parse_not_ok (ρ : List Sem) (d : Decl)
    (h : ∀ o, parseTypeAttrs d.attrs ≠ .ok o) : RejectedByMacro (deriveCheckIn ρ d) := by
  apply rejectedByMacro_of_macroCheck
  intro o m hmc
  exact h o (by simpa using (macroCheck_spec hmc).1)

/-- Two or more modes in the attribute (`#[collect(no_drop, unsafe_drop)]`, also the same mode
twice) is rejected inside the macro (by a `compile_error!`). -/
theorem rejects_multiple_modes (ρ : List Sem) (d : Decl) (a : Attr) (h : d.attrs = [a])
    (h2 : 2 ≤ (a.filter Opt.isMode).length) : RejectedByMacro (deriveCheckIn ρ d) := by
  apply rejected_of_parse_not_ok
  intro o hp
  rw [h] at hp
  have := (parseTypeAttrs_counts hp).2.1
  omega

/-- Two or more `bound = "…"` options: rejected inside the macro (by a `compile_error!`). -/
theorem rejects_multiple_bounds (ρ : List Sem) (d : Decl) (a : Attr) (h : d.attrs = [a])
    (h2 : 2 ≤ (a.filter Opt.isBound).length) : RejectedByMacro (deriveCheckIn ρ d) := by
  apply rejected_of_parse_not_ok
  intro o hp
  rw [h] at hp
  have := (parseTypeAttrs_counts hp).2.2.1
  omega

/-- Two or more `gc_lifetime = …` options: rejected inside the macro (by a `compile_error!`). -/
theorem rejects_multiple_gc_lifetimes (ρ : List Sem) (d : Decl) (a : Attr) (h : d.attrs = [a])
    (h2 : 2 ≤ (a.filter Opt.isGcLifetime).length) : RejectedByMacro (deriveCheckIn ρ d) := by
  apply rejected_of_parse_not_ok
  intro o hp
  rw [h] at hp
  have := (parseTypeAttrs_counts hp).2.2.2
  omega

/-- An option that is neither a mode nor `bound` nor `gc_lifetime`: rejected inside the macro (by a
`compile_error!`). -/
theorem rejects_unknown_option (ρ : List Sem) (d : Decl) (a : Attr) (h : d.attrs = [a])
    (h2 : Opt.unknown ∈ a) : RejectedByMacro (deriveCheckIn ρ d) := by
  apply rejected_of_parse_not_ok
  intro o hp
  rw [h] at hp
  exact (parseTypeAttrs_counts hp).1 h2

/-- Shared shape of the macro-level rejections that happen after the options parsed. -/
theorem rejected_by_macro_of (ρ : List Sem) (d : Decl)
    (hmode : ∀ o, parseTypeAttrs d.attrs = .ok o → o.mode ≠ some .requireStatic)
    (hbad : ∀ o, parseTypeAttrs d.attrs = .ok o →
      (o.gcLifetime.isNone && decide (2 ≤ d.lifetimes)) = true ∨
      (∃ e, fieldErrors (d.resolve ρ) = some e) ∨ (∃ e, variantErrors (d.resolve ρ) = some e)) :
    RejectedByMacro (deriveCheckIn ρ d) := by
  apply rejectedByMacro_of_macroCheck
  intro o m hmc
  obtain ⟨hp, hm, hlooked⟩ := macroCheck_spec hmc
  rw [Decl.resolve_attrs] at hp
  obtain ⟨hl, hf, hv⟩ := hlooked fun e => hmode o hp (e ▸ hm)
  rw [Decl.resolve_lifetimes] at hl
  rcases hbad o hp with h | ⟨e, h⟩ | ⟨e, h⟩
  · exact hl h
  · rw [hf] at h; cases h
  · rw [hv] at h; cases h

/-- A field attribute other than exactly `#[collect(require_static)]` (another option, several
options, or several `#[collect]` attributes on the field), in a tracing mode: rejected inside the
macro (by a `compile_error!`).
(In type-level `require_static` mode the macro does not look at fields.) -/
theorem rejects_field_attr (ρ : List Sem) (d : Decl)
    (hmode : ∀ o, parseTypeAttrs d.attrs = .ok o → o.mode ≠ some .requireStatic)
    (f : Field) (hf : f ∈ d.fields) (hbad : fieldAttrError f.attrs ≠ none) :
    RejectedByMacro (deriveCheckIn ρ d) := by
  apply rejected_by_macro_of ρ d hmode
  intro o _
  right; left
  refine Option.ne_none_iff_exists'.1 fun hn => hbad ?_
  simpa using (firstSome_eq_none_iff _).1 hn (fieldAttrError (f.resolve ρ).attrs)
    (List.mem_map.2 ⟨_, by rw [Decl.resolve_fields]; exact List.mem_map.2 ⟨f, hf, rfl⟩, rfl⟩)

/-- The property's clause "the derive refuses to compile `require_static` on an enum variant",
literally: every enum with a `#[collect(..)]` attribute on a variant is rejected. -/
def rejects_variant_attr_literal : Prop :=
  ∀ (ρ : List Sem) (d : Decl), d.isEnum = true → (∃ v ∈ d.variants, v.attrs ≠ []) →
    Rejected (deriveCheckIn ρ d)

/-- The literal clause is FALSE of the derive (known finding
`derive-require-static-mode-accepts-variant-attr`): in type-level `require_static` mode the macro
inspects no inner attribute, `#[collect(require_static)] enum E { #[collect(require_static)] A(u8) }`
compiles (probe `require_static_mode_ignores_variant_attr.accepted`). -/
theorem rejects_variant_attr_literal_false : ¬ rejects_variant_attr_literal := by
  intro h
  have hok : deriveCheckIn [] Examples.staticModeVariantAttr = .ok () := by decide
  obtain ⟨e, he⟩ := h [] Examples.staticModeVariantAttr (by decide)
    ⟨.mk .tuple [[.mode .requireStatic]] [.mk [] .leaf], List.mem_cons_self, by decide⟩
  rw [hok] at he
  cases he

/-- Proved part: `#[collect(require_static)]` (or any `#[collect]`) on an enum VARIANT is refused
inside the macro (by a `compile_error!`) in the tracing modes (`no_drop`, `unsafe_drop`). -/
theorem rejects_variant_attr_partial (ρ : List Sem) (d : Decl)
    (hmode : ∀ o, parseTypeAttrs d.attrs = .ok o → o.mode ≠ some .requireStatic)
    (he : d.isEnum = true) (v : Variant) (hv : v ∈ d.variants) (hbad : v.attrs ≠ []) :
    RejectedByMacro (deriveCheckIn ρ d) := by
  apply rejected_by_macro_of ρ d hmode
  intro o _
  right; right
  refine ⟨.variantAttr, ?_⟩
  unfold variantErrors
  have : (d.resolve ρ).variants.any (fun v => !v.attrs.isEmpty) = true := by
    rw [List.any_eq_true]
    refine ⟨v.resolve ρ, ?_, ?_⟩
    · rw [Decl.resolve_variants]; exact List.mem_map.mpr ⟨v, hv, rfl⟩
    · simpa [List.isEmpty_iff] using hbad
  simp only [Decl.resolve_isEnum, he, this, Bool.and_self, if_true]

/-- The property's clause "the derive refuses to compile several lifetime parameters without an
explicit `gc_lifetime`", literally: every declaration with two or more lifetime parameters and no
`gc_lifetime` option is refused by the macro. -/
def rejects_multiple_lifetimes_literal : Prop :=
  ∀ (ρ : List Sem) (d : Decl) (o : Opts), parseTypeAttrs d.attrs = .ok o → o.gcLifetime = none →
    2 ≤ d.lifetimes → RejectedByMacro (deriveCheckIn ρ d)

/-- The literal clause is FALSE of the derive (known finding
`derive-require-static-mode-accepts-two-lifetimes`): in type-level `require_static` mode the macro
never counts lifetimes, `#[collect(require_static)] struct S<'a, 'b>(&'a u8, &'b u8);` derives
`impl<'gc> Collect<'gc> for S<'a, 'b> where Self: 'static` without `gc_lifetime` (probe
`require_static_mode_two_lifetimes.accepted`).  (In the model every lifetime ARGUMENT is
non-`'static`, so the instantiation is then refused by the other clause, `Self: 'static` — a rustc
error, not the macro's refusal; at `S<'static, 'static>` rustc accepts.) -/
theorem rejects_multiple_lifetimes_literal_false : ¬ rejects_multiple_lifetimes_literal := by
  intro h
  have hr : deriveCheckIn [] Examples.staticModeTwoLifetimes = .error .notStatic := by decide
  obtain ⟨e, he, hs⟩ := h [] Examples.staticModeTwoLifetimes { mode := some .requireStatic } rfl rfl
    (by decide)
  rw [hr] at he
  cases he
  exact hs (by decide)

/-- Proved part: two or more lifetime parameters without `gc_lifetime = …`, in a tracing mode: the
macro `panic!`s (this is what the user sees even if field attributes are wrong too). -/
theorem rejects_multiple_lifetimes_partial (ρ : List Sem) (d : Decl) (o : Opts) (m : Mode)
    (hp : parseTypeAttrs d.attrs = .ok o) (hm : o.mode = some m) (hne : m ≠ .requireStatic)
    (hg : o.gcLifetime = none) (hl : 2 ≤ d.lifetimes) :
    deriveCheckIn ρ d = .error .multipleLifetimes ∧ Reject.multipleLifetimes.stage = .macroPanic := by
  refine ⟨?_, rfl⟩
  apply deriveCheckR_of_macro_error
  simp [macroCheck, hp, hm, hne, hg, hl]

/-! ## Rejections raised by rustc on the generated impls -/

/-- `no_drop` on a type that implements `Drop`: the generated `impl __MustNotImplDrop for T`
conflicts with the blanket `impl<T: Drop> __MustNotImplDrop for T` (E0119). If the macro itself
accepts the declaration, that is the error. -/
theorem rejects_drop_with_no_drop (ρ : List Sem) (d : Decl) (hd : d.hasDrop = true)
    (hm : ∀ o, parseTypeAttrs d.attrs = .ok o → o.mode = some .noDrop) :
    Rejected (deriveCheckIn ρ d) ∧
    (∀ o m, macroCheck (d.resolve ρ) = .ok (o, m) → deriveCheckIn ρ d = .error .dropConflict) := by
  have key : ∀ o m, macroCheck (d.resolve ρ) = .ok (o, m) →
      rustcDef o m d.resolveDef = .error .dropConflict := by
    intro o m hmc
    obtain ⟨hp, hmo, _⟩ := macroCheck_spec hmc
    obtain rfl : m = .noDrop := Option.some.inj (hmo.symm.trans (hm o (by simpa using hp)))
    simp [rustcDef, Decl.resolveDef, hd, firstErr]
  constructor
  · apply rejected_of_def
    intro o m hmc
    exact ⟨_, key o m hmc⟩
  · intro o m hmc
    simp [deriveCheckIn, deriveCheckR, hmc, key o m hmc]

/-- The clause "the derive refuses `require_static` on a non-`'static` type" for a FIELD attribute,
at full strength: whatever the type-level mode.  PENDING: in type-level `require_static` mode the
field attribute is ignored and the refusal comes from `Self: 'static` instead (a non-`'static`
field type makes `Self` non-`'static`), which needs lifetime scoping of field types that the model
does not have.  Proved: `rejects_require_static_not_static_partial` (tracing modes) and
`rejects_require_static_type_not_static` (the type-level attribute). -/
def rejects_require_static_not_static_statement : Prop :=
  ∀ (ρ : List Sem) (d : Decl) (f : Field), f ∈ d.fields → attrsStatic f.attrs = true →
    (f.ty.sem ρ).static = false → Rejected (deriveCheckIn ρ d)

/-- Proved part: `#[collect(require_static)]` on a field whose type is not `'static`, in a tracing
mode: the generated where-predicate `FieldTy: 'static` fails (region error). -/
theorem rejects_require_static_not_static_partial (ρ : List Sem) (d : Decl)
    (hmode : ∀ o, parseTypeAttrs d.attrs = .ok o → o.mode ≠ some .requireStatic)
    (f : Field) (hf : f ∈ d.fields) (hs : attrsStatic f.attrs = true)
    (hns : (f.ty.sem ρ).static = false) : Rejected (deriveCheckIn ρ d) :=
  rejected_of_field ρ d hmode f hf (.inl ⟨hs, hns⟩)

/-- Type-level `#[collect(require_static)]` on a type that is not `'static` (it has a lifetime
parameter, or a type argument that is not `'static`): the generated `where Self: 'static` fails. -/
theorem rejects_require_static_type_not_static (ρ : List Sem) (d : Decl)
    (hmode : ∀ o, parseTypeAttrs d.attrs = .ok o → o.mode = some .requireStatic)
    (hns : d.lifetimes ≠ 0 ∨ ∃ s ∈ ρ, s.static = false) : Rejected (deriveCheckIn ρ d) := by
  apply rejected_of_use
  intro o m hmc
  obtain ⟨hp, hm, _⟩ := macroCheck_spec hmc
  obtain rfl : m = .requireStatic := Option.some.inj (hm.symm.trans (hmode o (by simpa using hp)))
  unfold rustcUse
  simp only [beq_self_eq_true, if_true]
  apply firstErr_error _ (((d.resolve ρ).lifetimes == 0 && ρ.all (·.static)), Reject.notStatic)
  · exact List.mem_append_right _ List.mem_cons_self
  · simp only [Decl.resolve_lifetimes, Bool.and_eq_false_iff, beq_eq_false_iff_ne, ne_eq]
    rcases hns with h | ⟨s, hs, hst⟩
    · left; exact h
    · right
      rw [List.all_eq_false]
      exact ⟨s, hs, by simp [hst]⟩

/-- A traced field (one that survives the `require_static` filter) whose type is not `Collect`:
`FieldTy: Collect<'gc>` required by `cc.trace(bi)` / `<FieldTy as Collect>::NEEDS_TRACE` fails
(E0277).

Quantified over EVERY type shape of the model, i.e. every `Ty` constructor (coverage of the probe
corpus: `probe_corpus_covers_every_constructor`).  How the syntactic forms a field type can have
(`syn::Type`) map to `Ty`: `Path` → `leaf` / `gc` / `weak` / `opaque` / `param` / `con` (provided
container applied to arguments) / `adt`; `Reference` (`&'lt T`, `&'lt mut T`) → `ref` (`Collect`
iff `'lt = 'static` and `T: 'static`; `reference_is_collect_iff`, `rejects_reference_field`);
`Tuple` → `con tuple`; `Array` → `con (array n)`; `Slice` (behind `Box`/`Rc`/`&`) → `con vec`;
`Paren` / `Group` → the inner type; `Ptr` (`*const T`, `*mut T`), `BareFn`, `TraitObject` (other
than `dyn DynCollect`), `Never` → `opaque` (no provided `Collect` impl).  `ImplTrait`, `Infer`,
`Macro`, `Verbatim` cannot be field types (rustc rejects them before the derive matters).  The
derive itself never inspects the form (`needs_trace_expr`, `trace_body` and `filter` look only at
attributes), which is what `macroCheck` / `traceR` model. -/
theorem rejects_field_not_collect (ρ : List Sem) (d : Decl)
    (hmode : ∀ o, parseTypeAttrs d.attrs = .ok o → o.mode ≠ some .requireStatic)
    (f : Field) (hf : f ∈ d.fields) (hk : f.traced = true)
    (hnc : (f.ty.sem ρ).collect = false) : Rejected (deriveCheckIn ρ d) :=
  rejected_of_field ρ d hmode f hf (.inr ⟨hk, hnc⟩)

/-- A reference type is `Collect` exactly when it is `&'static T` with `T: 'static` (the referent
need not be `Collect`); it never needs tracing. -/
theorem reference_is_collect_iff (ρ : List Sem) (st : Bool) (t : Ty) :
    ((Ty.ref st t).sem ρ).collect = (st && (t.sem ρ).static) ∧
    ((Ty.ref st t).sem ρ).needsTrace = false :=
  ⟨rfl, rfl⟩

/-- A traced field of reference type whose lifetime is not `'static` (`view: &'gc T` obtained from
`Gc::as_ref`, `&'a T`, `&'gc mut T`) or whose referent is not `'static` is refused in the tracing
modes, in every variant and position. -/
theorem rejects_reference_field (ρ : List Sem) (d : Decl)
    (hmode : ∀ o, parseTypeAttrs d.attrs = .ok o → o.mode ≠ some .requireStatic)
    (f : Field) (hf : f ∈ d.fields) (hk : f.traced = true) (st : Bool) (t : Ty)
    (hty : f.ty = .ref st t) (hns : (st && (t.sem ρ).static) = false) :
    Rejected (deriveCheckIn ρ d) := by
  apply rejects_field_not_collect ρ d hmode f hf hk
  rw [hty, (reference_is_collect_iff ρ st t).1, hns]

/-- Lower bound on the probe corpus: the not-`Collect` field types of the rejection probes and the
`Collect` control twins (mirrored in `Examples.probeNotCollectFieldTypes` /
`probeCollectFieldTypes`; lib/eng_collect.py re-checks the same census on the descriptions it
actually sends) together exhibit EVERY constructor of `Ty` as the outermost constructor of a field type,
every not-`Collect` entry is indeed not `Collect` in the model and every control is. -/
theorem probe_corpus_covers_every_constructor :
    (List.range Ty.nctors).all (fun c =>
      (Examples.probeNotCollectFieldTypes ++ Examples.probeCollectFieldTypes).any (fun t => t.ctor == c)) = true ∧
    Examples.probeNotCollectFieldTypes.all (fun t => !(t.sem [Sem.abstractParam false false]).collect) = true ∧
    Examples.probeCollectFieldTypes.all (fun t => (t.sem [Sem.abstractParam true false]).collect) = true := by
  decide +kernel

/-- Conversely, an accepted derive in a tracing mode has no such field: every field is either
traced with a `Collect` type or filtered with a `'static` type — nothing is silently skipped. -/
theorem accepted_fields_covered (ρ : List Sem) (d : Decl) (hc : deriveCheckIn ρ d = .ok ())
    (hmode : ∀ o, parseTypeAttrs d.attrs = .ok o → o.mode ≠ some .requireStatic)
    (f : Field) (hf : f ∈ d.fields) :
    (f.traced = true ∧ (f.ty.sem ρ).collect = true) ∨
    (attrsStatic f.attrs = true ∧ (f.ty.sem ρ).static = true) := by
  by_cases hk : f.traced = true
  · left
    refine ⟨hk, ?_⟩
    cases hcol : (f.ty.sem ρ).collect with
    | true => rfl
    | false => exact absurd hc (rejected_not_ok (rejects_field_not_collect ρ d hmode f hf hk hcol))
  · right
    have hs : attrsStatic f.attrs = true := by
      simpa [Field.traced, attrsKept] using hk
    refine ⟨hs, ?_⟩
    cases hst : (f.ty.sem ρ).static with
    | true => rfl
    | false =>
      exact absurd hc (rejected_not_ok (rejects_require_static_not_static_partial ρ d hmode f hf hs hst))

/-! ## Non-vacuity: the declarations of `tests/tests.rs::derive_collect` and `tests/ui/*.rs` -/

section Examples
open GcArena.Derive.Examples

example : deriveCheck test1 = .ok () := by decide +kernel
example : needsTraceDerived test1 = true := by decide +kernel
example : HasType (.adt 0 [.leaf, .gc 7]) test1 := by decide +kernel
example : traceDerived test1 (.adt 0 [.leaf, .gc 7]) = [(7, false)] := by decide +kernel
example : deriveCheck test3 = .ok () ∧ needsTraceDerived test3 = true := by decide +kernel
-- the inactive variant's pointer type still makes NEEDS_TRACE true; the active arm reports nothing
example : HasType (.adt 1 [.leaf]) test3 ∧ traceDerived test3 (.adt 1 [.leaf]) = [] := by decide +kernel
example : deriveCheck test7 = .ok () ∧ needsTraceDerived test7 = false := by decide +kernel
example : HasType (.adt 0 [.opaque []]) test7 := by decide +kernel
-- the explicit hypothesis: a `require_static` field hiding a pointer is NOT well-typed
example : ¬ HasType (.adt 0 [.opaque [(1, false)]]) test7 := by decide +kernel
example : deriveCheckIn [Sem.gc] test9 = .ok () ∧ needsTraceIn [Sem.gc] test9 = true := by decide +kernel
example : deriveCheckIn [Sem.leaf] test9 = .ok () ∧ needsTraceIn [Sem.leaf] test9 = false := by decide +kernel
example : deriveCheckIn [Sem.opaque true] test9 = .error .boundUnsatisfied := by decide +kernel
example : deriveCheckIn (Ty.sems [] [.con .vec [.weak]]) test9 = .ok () ∧
    HasTypeIn (Ty.sems [] [.con .vec [.weak]]) (.adt 0 [.con [(0, .weak 4), (0, .weak 2)]]) test9 ∧
    traceIn (Ty.sems [] [.con .vec [.weak]]) test9 (.adt 0 [.con [(0, .weak 4), (0, .weak 2)]])
      = [(4, true), (2, true)] := by decide +kernel
example : deriveCheck outer = .ok () ∧ HasType outerVal outer := by decide +kernel
example : traceDerived outer outerVal = [(1, false), (2, true), (3, false)] := by decide +kernel
example : ptrsOf outerVal = [(1, false), (2, true), (3, false)] := by decide +kernel

-- a list node whose only pointer field is the link to `Self`:
-- `struct Node<'gc> { value: u32, #[collect(require_static)] token: Token, next: Option<Gc<'gc, Self>> }`
example : deriveCheck selfNode = .ok () ∧ needsTraceDerived selfNode = true := by decide +kernel
example : HasType (.adt 0 [.leaf, .opaque [], .con [(0, .gc 5)]]) selfNode ∧
    traceDerived selfNode (.adt 0 [.leaf, .opaque [], .con [(0, .gc 5)]]) = [(5, false)] := by decide +kernel
-- `enum Tree<'gc> { Empty, Leaf(#[collect(require_static)] Token, u32), Branch { #[collect(require_static)]
-- token: Token, children: Vec<Gc<'gc, Self>> } }`: the inactive variants do not hide the link
example : deriveCheck selfTree = .ok () ∧ needsTraceDerived selfTree = true ∧
    traceDerived selfTree (.adt 2 [.opaque [], .con [(0, .gc 1), (0, .gc 2)]]) = [(1, false), (2, false)] := by
  decide +kernel

-- `exact_statement` vs `exact_partial`: a value whose nested `require_static` field hides a pointer has
-- the SHAPE of a `Holder` but is not well-typed; the generated code (correctly, the field being
-- `'static`) reports nothing, while the literal clause counts the hidden pointer as "held in a field
-- not marked require_static" — the literal clause holds exactly if `'static` data cannot hide one
example : HasShape (.adt 0 [.adt 0 [.opaque [(1, false)]]]) holder ∧
    ¬ HasType (.adt 0 [.adt 0 [.opaque [(1, false)]]]) holder ∧
    traceDerived holder (.adt 0 [.adt 0 [.opaque [(1, false)]]]) = [] ∧
    heldInTracedFields holder (.adt 0 [.adt 0 [.opaque [(1, false)]]]) = [(1, false)] := by decide +kernel
-- on well-typed values the two right-hand sides coincide
example : HasShape outerVal outer ∧ heldInTracedFields outer outerVal = ptrsOf outerVal := by decide +kernel

-- the borrowed view: `#[collect(no_drop)] struct View<'gc> { serial: u32, view: &'gc Tracked }` is refused,
-- `&'static Tracked` is accepted, never traced, NEEDS_TRACE false
example : deriveCheck (strct [[.mode .noDrop]] 1 0 false .named [fld .leaf, fld (.ref false .leaf)])
    = .error .notCollect := by decide +kernel
example : deriveCheck (strct [[.mode .noDrop]] 0 0 false .named [fld .leaf, fld (.ref true (.opaque true))])
    = .ok () ∧
    needsTraceDerived (strct [[.mode .noDrop]] 0 0 false .named [fld .leaf, fld (.ref true (.opaque true))])
    = false := by decide +kernel

-- tests/ui/bad_collect_bound.rs
example : deriveCheck (strct [[.mode .noDrop]] 0 0 false .named [fld (.opaque true)])
    = .error .notCollect := by decide +kernel
-- tests/ui/invalid_collect_field.rs
example : deriveCheck (strct [[.mode .noDrop]] 0 0 false .named [.mk [[.unknown]] .leaf])
    = .error .fieldAttrNotRequireStatic := by decide +kernel
-- tests/ui/multiple_require_static.rs
example : deriveCheck (strct [[.mode .noDrop]] 0 0 false .named
    [.mk [[.mode .requireStatic], [.mode .requireStatic]] .leaf]) = .error .duplicateAttr := by decide +kernel
-- tests/ui/no_drop_and_drop_impl.rs
example : deriveCheck (strct [[.mode .noDrop]] 0 0 true .named []) = .error .dropConflict := by decide +kernel
-- tests/ui/require_static_enum_variant.rs
example : deriveCheck (.mk true [[.mode .noDrop]] 0 0 false
    [.mk .named [[.mode .requireStatic]] [fld .leaf]]) = .error .variantAttr := by decide +kernel
-- tests/ui/require_static_not_static.rs
example : deriveCheck (strct [[.mode .noDrop]] 1 0 false .named [sfld (.opaque false)])
    = .error .notStatic := by decide +kernel
-- missing / duplicated mode, unknown option, multiple bounds, two lifetimes
example : deriveCheck (strct [] 0 0 false .unit []) = .error .missingMode := by decide +kernel
example : deriveCheck (strct [[.bound []]] 0 0 false .unit []) = .error .missingMode := by decide +kernel
example : deriveCheck (strct [[.mode .noDrop, .mode .unsafeDrop]] 0 0 false .unit [])
    = .error .multipleModes := by decide +kernel
example : deriveCheck (strct [[.mode .noDrop], [.mode .noDrop]] 0 0 false .unit [])
    = .error .duplicateAttr := by decide +kernel
example : deriveCheck (strct [[.unknown]] 0 0 false .unit []) = .error .unknownOption := by decide +kernel
example : deriveCheck (strct [[.mode .noDrop, .bound [], .bound []]] 0 0 false .unit [])
    = .error .multipleBounds := by decide +kernel
example : deriveCheck (strct [[.mode .noDrop]] 2 0 false .tuple [fld .gc])
    = .error .multipleLifetimes := by decide +kernel
-- `Test5<'gc, 'a>` with `gc_lifetime = 'gc` is accepted
example : deriveCheck (strct [[.mode .noDrop, .gcLifetime 0]] 2 0 false .tuple [fld .gc]) = .ok () := by
  decide +kernel
-- `bound = ""` with a traced field of parameter type: rejected at the definition site
example : deriveCheckIn [Sem.gc] (strct [[.mode .noDrop, .bound []]] 1 1 false .tuple [fld (.param 0)])
    = .error .notCollect := by decide +kernel
-- `unsafe_drop` with a `Drop` impl is accepted; type-level `require_static` yields `false`
example : deriveCheck (strct [[.mode .unsafeDrop]] 1 0 true .tuple [fld .gc]) = .ok () := by decide +kernel
example : deriveCheck (strct [[.mode .requireStatic]] 0 0 false .tuple [fld (.opaque true)]) = .ok () ∧
    needsTraceDerived (strct [[.mode .requireStatic]] 0 0 false .tuple [fld (.opaque true)]) = false := by
  decide +kernel

end Examples

end GcArena.C15
