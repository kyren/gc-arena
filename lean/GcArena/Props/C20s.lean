import GcArena.Proofs.CallGraphDefs
/-!
# C20 (structural half) — no state is shared between arenas

Facts extracted from the current source tree: the crate declares no global state, and the two
constructors of per-arena state call nothing but fresh-value constructors.  The dynamic half
(`GcArena.Props.C20`) is about the multi-arena model and its correspondence runs.
-/
namespace GcArena.C20s
open GcArena.CallGraphM GcArena.Generated.CallGraph

/-- No `static`, `thread_local!` or `lazy_static!` in the source files … -/
theorem statics : rawStatics = [] := by decide

/-- … and the only `static` items of the macro-expanded crate (all features on) are the immutable
call-site metadata records that `tracing`'s logging macros generate. -/
theorem expanded_statics_are_tracing_callsites :
    expandedStatics.all (fun s => s.tracingCallsite && !s.isMut) = true := by decide

/-- The constructors of `Context` and of `Metrics` (inherent functions without receiver returning
the type — `Context::new`, `Metrics::new` today; tagged structurally) exist and, with what they call
by path (`Queue::new`, the `tracing` span helper), call only external functions that build a fresh
value (`Cell::new`, `Vec::new`, `Default::default`, …) or belong to `tracing` (logging only). -/
theorem fresh_state :
    count (maskWhere fns (fun f => f.tag == .contextNew)) fns.length ≥ 1 ∧
    count (maskWhere fns (fun f => f.tag == .metricsNew)) fns.length ≥ 1 ∧
    freshRoots.all (fun n => freshFns.contains n) = true ∧
    maskOf freshRoots = maskWhere fns (fun f => f.tag == .contextNew || f.tag == .metricsNew) ∧
    freshExternal.all pureExternal = true := by decide +kernel

/-- Lower bounds (a translator that silently skips files or functions cannot make `statics` /
`fresh_state` vacuous): the `static` scan visited at least 15 source files with at least 100
top-level items, the expanded crate's scan met the `tracing` call-site records, and the two
constructors call at least 3 external functions through at least 2 crate functions. -/
theorem required_scan_coverage :
    rawFilesScanned ≥ 15 ∧ rawItemsScanned ≥ 100 ∧ expandedStatics.length ≥ 1 ∧
    freshExternal.length ≥ 3 ∧ freshFns.length ≥ 2 ∧ fns.length ≥ 300 := by decide +kernel

/-- Non-vacuity: the allow-list rejects global-state APIs. -/
example : pureExternal "std::thread::current" = false ∧ pureExternal "std::env::var" = false ∧
    pureExternal "core::cell::Cell::new" = true := by decide +kernel

/-! ## The clause, structural half

"Operations on one arena never affect another" — the part a source scan can say: the crate has no
global state through which two arenas could communicate, and per-arena state is built from fresh
values.  The behavioural statement is `Props/C20` (multi-arena model + correspondence runs). -/
def no_state_shared_between_arenas_statement : Prop :=
  rawStatics = [] ∧ expandedStatics.all (fun s => s.tracingCallsite && !s.isMut) = true ∧
    freshExternal.all pureExternal = true

theorem no_state_shared_between_arenas : no_state_shared_between_arenas_statement :=
  ⟨statics, expanded_statics_are_tracing_callsites, fresh_state.2.2.2.2⟩

end GcArena.C20s
