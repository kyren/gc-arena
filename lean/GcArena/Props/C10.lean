import GcArena.Proofs.LogRun
import GcArena.Proofs.DebtMono
import GcArena.Proofs.Pacing
import GcArena.Proofs.LegacyLemmas
/-!
# C10 — Metrics are truthful (property theorems)

Model: `GcArena.Model.Metrics` (src/metrics.rs) and the counter updates performed by
`GcArena.Model.Context` / `Arena`.  Exact rational arithmetic; f64 rounding is modelled, not
verified (DESIGN §9).
-/
namespace GcArena.C10

open GcArena

/-! "`allocation_debt` is always finite": the model computes the debt in exact rationals (`Rat`),
    where every value is finite by construction, so there is nothing to state; finiteness of the
    implementation's `f64` (no `inf` / `NaN`: the counters are `usize`, the factors whatever
    finite `f64`s `set_pacing` / `adjust_debt` were given) is outside the model — f64 arithmetic
    is modelled, not verified (DESIGN §9). -/

/-- `allocation_debt` is never negative. -/
theorem debt_nonneg (m : Metrics) : 0 ≤ m.allocationDebt := GcArena.debt_nonneg m

/-- An arena holding no allocations reports zero debt. -/
theorem debt_zero_of_empty (m : Metrics) (h : m.totalGcs = 0) : m.allocationDebt = 0 := by
  simp [Metrics.allocationDebt, h]

/-- While positive before and after, `adjust_debt x` moves the debt by exactly `x` — the
    property's "grows by exactly x after adjust_debt(x) while positive"; the two side conditions
    *are* "while positive" (at zero the reported debt is clamped, so no exact law can hold
    there). -/
theorem adjust_exact (m : Metrics) (x : Rat) (h1 : 0 < m.allocationDebt)
    (h2 : 0 < (m.adjustDebt x).allocationDebt) :
    (m.adjustDebt x).allocationDebt = m.allocationDebt + x := by
  -- a positive debt is debits minus credits, and `adjust_debt` adds `x` to the debits only
  have hd : (m.adjustDebt x).cycleDebits = m.cycleDebits + x := (Rat.add_assoc ..).symm
  rw [debt_eq_of_pos h1, debt_eq_of_pos h2, hd,
    show (m.adjustDebt x).cycleCredits = m.cycleCredits from rfl]
  grind

/-- `total_gc_count` equals the number of allocations made and not yet released — inside and
    outside callbacks, in every state of every history — and no counter update ever underflowed
    (including write barriers on objects of non-tracing types: `Op.barrier` is in `inv_run`). -/
theorem count_exact (n : Nat) (ops : List Op) (halive : ((Arena.new n).run ops).alive = true) :
    let c := ((Arena.new n).run ops).ctx
    c.metrics.totalGcs = c.all.length ∧ c.all.Nodup ∧ (∀ i, i ∈ c.all ↔ ∃ o, c.heap.get i = some o) ∧
    c.metrics.underflow = false := by
  have h := (inv_run n ops halive).cinv
  exact ⟨h.count, h.nodup, h.memAll, h.noUnderflow⟩

/-- … and it reads zero after the arena is dropped, whatever the phase. -/
theorem count_zero_after_drop (n : Nat) (ops : List Op) (halive : ((Arena.new n).run ops).alive = true)
    (hcb : ((Arena.new n).run ops).cb = none) :
    (((Arena.new n).run ops).step .dropArena).1.ctx.metrics.totalGcs = 0 := by
  have hi : Inv ((Arena.new n).run ops) := inv_run n ops halive
  rw [step_eq hi.alive]
  simp only [Arena.stepBody]
  rw [hcb]
  exact (dropAll_spec hi.cinv (linv_run n ops)).2.2.1

/-! ### The debt is never decreased by allocation, mutation or write barriers

Operations are classified in Proofs/MutStep.lean (`Op.isMutator`, `Op.isKnob`) and Proofs/DebtMono.lean:
* `Op.isKnob`: `set_pacing`, `adjust_debt` — explicit adjustment (`adjust_exact` above);
* `Op.isForwardLike`: forward barriers (`Op.barrier (.fb ..)`, `(.fbw ..)`) and
  `Finalization::resurrect` — they *perform marking work themselves* (`Context::trace` /
  `trace_weak`), for which `mark_factor` is credited: collection work in the property's sense;
* every other mutator operation (`Op.isMutator`: everything but collection calls and dropping the
  arena) is *plain*: `plain_ops` lists them.

The clause as literally worded (`debt_never_decreased_literal`) is false — the forward-like
operations pay `mark_factor` — so what is proved is `debt_never_decreased_partial` (plain
operations) together with `debt_forward_work` (forward-like ones pay at most `mark_factor`, the
marking work they perform themselves). -/

/-- The plain mutator operations: callbacks, allocation, reads, `downgrade`, `upgrade`, the
    `is_dropped` / `is_dead` queries, backward (write) barriers — strong and weak —, every store
    path (`Gc::write`-style, raw-after-barrier, store-then-barrier) and root stores. -/
theorem plain_ops (op : Op) :
    (op.isMutator = true ∧ op.isKnob = false ∧ op.isForwardLike = false) ↔
    (match op with
     | .enter _ | .leave | .alloc _ _ | .readRoot _ | .read _ _ | .downgrade _ | .upgrade _
     | .isDropped _ | .isDead _ | .barrier (.bb _ _) | .barrier (.bbw _ _) | .store _ _ _ _
     | .rootStore _ _ => True
     | _ => False) := by
  cases op with
  | barrier b => cases b <;> simp [Op.isMutator, Op.isKnob, Op.isForwardLike]
  | _ => simp [Op.isMutator, Op.isKnob, Op.isForwardLike]

/-- **Never decreased by allocation, mutation or write barriers.**  For every arena state
    whatsoever (no invariant needed), every plain mutator operation leaves the reported debt
    equal or larger — including allocation into an empty arena, every corner of
    `allocation_debt` (`total_gcs = 0`, `cycle_debits ≤ 0`, clamping at zero) and write barriers on
    objects whose type needs no tracing (`mark_gc_untraced` saturates: repair of defect D1).
    `trace_factor` must not be negative: a write barrier that re-grays a black object takes one
    `traced` credit back, which *raises* the debt by `trace_factor`; a negative factor would turn
    that into a payment. -/
theorem debt_never_decreased_partial (a : Arena) (op : Op) (hop : op.isMutator = true)
    (hk : op.isKnob = false) (hf : op.isForwardLike = false)
    (htf : 0 ≤ a.ctx.metrics.pacing.traceFactor) :
    a.ctx.metrics.allocationDebt ≤ (a.step op).1.ctx.metrics.allocationDebt := by
  rcases (step_metStep a op hop hk).plain hf with h | ⟨_, h⟩ | h <;> rw [h]
  · exact Rat.le_refl
  · exact debt_le_allocated _
  · exact debt_le_untraced _ htf

/-- The clause as the property words it, literally: *no* mutator operation other than the explicit
    adjustments — allocation, mutation, **every** barrier, forward barriers and `resurrect`
    included — ever lowers the reported debt (in a state satisfying the invariant, with
    non-negative factors).  It is **false** of the model and of the implementation
    (`debt_never_decreased_literal_false`): a forward barrier that marks a white object is credited
    `mark_factor`.  That is the known finding `forward-like-barrier-pays-mark-credit`; the reading
    adopted (DESIGN §8) counts that credit as collection work, which `debt_forward_work` makes
    precise, and what remains of the clause is `debt_never_decreased_partial`: missing from the
    literal clause are exactly the forward-like operations (`Op.isForwardLike`). -/
def debt_never_decreased_literal : Prop :=
  ∀ (a : Arena), Inv a → ∀ (op : Op), op.isMutator = true → op.isKnob = false →
    0 ≤ a.ctx.metrics.pacing.traceFactor → 0 ≤ a.ctx.metrics.pacing.markFactor →
    a.ctx.metrics.allocationDebt ≤ (a.step op).1.ctx.metrics.allocationDebt

/-- `finish_marking`, then inside `finalize` one allocation (under `Pacing::DEFAULT`: debt 1). -/
def fwdOps : List Op := [
  .collect .finishMarking .finalize none (some [.wake, .markStep none, .markBreak]),
  .enter .finalize, .alloc false [] ]

/-- The literal clause is false: in the reachable state after `fwdOps`, the forward barrier
    `forward_barrier(None, 0)` marks the fresh white object and the reported debt drops from `1`
    to `1 - mark_factor = 0.9`. -/
theorem debt_never_decreased_literal_false : ¬ debt_never_decreased_literal := by
  intro hlit
  have facts : ∀ a, a = (Arena.new 4).run fwdOps →
      a.alive = true ∧ 0 ≤ a.ctx.metrics.pacing.traceFactor ∧ 0 ≤ a.ctx.metrics.pacing.markFactor ∧
      ¬ a.ctx.metrics.allocationDebt ≤ (a.step (.barrier (.fb none 0))).1.ctx.metrics.allocationDebt := by
    intro a h; subst h; decide +kernel
  obtain ⟨hal, htf, hmf, hlt⟩ := facts _ rfl
  exact hlt (hlit _ (inv_run 4 fwdOps hal) (.barrier (.fb none 0)) rfl rfl htf hmf)

/-- What a plain mutator operation can do to the metrics at all: nothing, count one allocation
    (only `Op.alloc`), or take back one `traced` (a write barrier re-graying a black object). -/
theorem plain_metrics (a : Arena) (op : Op) (hop : op.isMutator = true) (hk : op.isKnob = false)
    (hf : op.isForwardLike = false) :
    (a.step op).1.ctx.metrics = a.ctx.metrics ∨
    (op.isAlloc = true ∧ (a.step op).1.ctx.metrics = a.ctx.metrics.markGcAllocated) ∨
    (a.step op).1.ctx.metrics = a.ctx.metrics.markGcUntraced :=
  (step_metStep a op hop hk).plain hf

/-- **Only collection work pays debt**: a forward barrier or `resurrect` marks at most one object
    (the one traced pointer), so it lowers the reported debt by at most `mark_factor` — the
    marking work it performed itself — and never raises it. -/
theorem debt_forward_work (a : Arena) (op : Op) (hf : op.isForwardLike = true)
    (hmf : 0 ≤ a.ctx.metrics.pacing.markFactor) :
    ((a.step op).1.ctx.metrics = a.ctx.metrics ∨
      (a.step op).1.ctx.metrics = a.ctx.metrics.markGcMarked) ∧
    a.ctx.metrics.allocationDebt - a.ctx.metrics.pacing.markFactor
      ≤ (a.step op).1.ctx.metrics.allocationDebt ∧
    (a.step op).1.ctx.metrics.allocationDebt ≤ a.ctx.metrics.allocationDebt := by
  have hmk : op.isMutator = true ∧ op.isKnob = false := by
    cases op with
    | barrier | resurrect => exact ⟨rfl, rfl⟩
    | _ => cases hf
  rcases (step_metStep a op hmk.1 hmk.2).fwd hf with h | h <;> rw [h]
  · exact ⟨.inl rfl, by grind, Rat.le_refl⟩
  · exact ⟨.inr rfl, debt_sub_le_marked _ hmf, debt_marked_le _ hmf⟩

/-- No credit counter can outgrow the arena: in every state of every history, `marked`, `traced`
    and `remembered` are at most `total_gc_count` (and `dropped ≤ remembered + freed`).  With
    `count_exact` this bounds every counter the debt formula multiplies by the number of
    allocations that exist or were released in the running cycle — the model's counters are
    naturals, and this is why the implementation's `usize` counters cannot overflow before the
    address space is exhausted. -/
theorem counters_bounded (n : Nat) (ops : List Op) (halive : ((Arena.new n).run ops).alive = true) :
    let m := ((Arena.new n).run ops).ctx.metrics
    m.marked ≤ m.totalGcs ∧ m.traced ≤ m.totalGcs ∧ m.remembered ≤ m.totalGcs ∧
      m.dropped ≤ m.remembered + m.freed :=
  counters_le (acc_run n ops) (inv_run n ops halive).cinv

/-- The shape of corpus/C10-D1-untraced-underflow.ops: `finish_marking`, then inside `finalize` a
    value of a non-tracing type is allocated and a forward barrier blackens it (`mark_one` never
    traces it: `traced` stays 0). -/
def d1Ops : List Op := [
  .collect .finishMarking .finalize none (some [.wake, .markStep none, .markBreak]),
  .enter .finalize, .alloc false [], .barrier (.fb none 0) ]

/-- **Witness of the repaired defect D1.**  In the state after `d1Ops` (Mark phase; object 0 held,
    black, of a non-tracing type; `traced = 0`; no underflow so far) the backward (write) barrier
    on object 0
    * over the **pre-repair** `mark_gc_untraced` (`Metrics.markGcUntracedLegacy`,
      Model/Legacy.lean: a plain `usize` subtraction) underflows — the debug build panics, the
      release build wraps and wipes the debt;
    * over the repaired, saturating one does not — at the level of `Context::backward_barrier`
      and of the API operation alike (and never does, in any history: `count_exact`).
    A regression of the repair makes the implementation agree with the first half again. -/
theorem pinned_underflow_witness :
    ((Arena.new 4).run d1Ops).alive = true ∧ ((Arena.new 4).run d1Ops).holds (.strong 0) = true ∧
    ((Arena.new 4).run d1Ops).ctx.phase = .mark ∧
    (((Arena.new 4).run d1Ops).ctx.heap.get 0).map (fun o => (o.color, o.needsTrace))
      = some (.black, false) ∧
    ((Arena.new 4).run d1Ops).ctx.metrics.traced = 0 ∧
    ((Arena.new 4).run d1Ops).ctx.metrics.underflow = false ∧
    (((Arena.new 4).run d1Ops).ctx.backwardBarrierLegacy 0 none).metrics.underflow = true ∧
    (((Arena.new 4).run d1Ops).ctx.backwardBarrier 0 none).metrics.underflow = false ∧
    (((Arena.new 4).run d1Ops).step (.barrier (.bb 0 none))).1.ctx.metrics.underflow = false := by
  decide +kernel

/-- Non-vacuity: a concrete metrics state with positive debt. -/
example : (0 : Rat) < ({ Metrics.new with totalGcs := 3, allocated := 3 } : Metrics).allocationDebt := by
  decide +kernel

/-- The hypothesis `0 ≤ trace_factor` of `debt_never_decreased_partial` is needed: with a negative factor
    the `traced` credit a write barrier takes back lowers the debt (here 11 → 10). -/
example :
    let m : Metrics := { Metrics.new with pacing := { Pacing.default with traceFactor := -1 },
                                          totalGcs := 10, allocated := 10, traced := 1 }
    m.markGcUntraced.allocationDebt < m.allocationDebt := by
  decide +kernel

/-- Non-vacuity of `debt_forward_work`: marking one object under `Pacing::DEFAULT` pays exactly
    `mark_factor` (3 → 2.9). -/
example :
    let m : Metrics := { Metrics.new with totalGcs := 3, allocated := 3 }
    m.markGcMarked.allocationDebt = m.allocationDebt - m.pacing.markFactor := by
  decide +kernel

end GcArena.C10
