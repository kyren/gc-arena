import GcArena.Proofs.CallGraphLemmas
/-!
# C03 (structural half) — collection work is out of reach of a running callback

Statements about the call graph extracted from the current source tree
(`GcArena/Generated/CallGraph.lean`: explicit calls resolved by name — an over-approximation —,
calls through the vtable's fn-pointer fields, implicit `Drop` calls).  Node sets are bit masks
(`GcArena.CallGraphM`).  The dynamic half (`GcArena.Props.C03`) is about the collector model.
Trusted: Rust's borrow rules (a callback of arena `A` cannot hold `&mut A`, `A` by value or a
`MarkedArena` of `A`), and the translator's name resolution.
-/
namespace GcArena.C03s
open GcArena.CallGraphM GcArena.Generated.CallGraph GcArena.CallGraphDefs

/-- The extraction classified everything it met, and the structural anchors of the statements
below exist (so that a refactoring makes the check fail rather than pass vacuously): at least one
collector driver, at least one node calling a primitive destructor outside the builder `Drop`
impls, at least one builder `Drop` impl and one callback-side entry point.  No function *name* is
required (pinned identifiers: the type names `Arena`, `MarkedArena`, `Context`, and the
`…Builder` suffix of the builder types). -/
theorem names_present :
    unclassified = [] ∧ fns.length = adj.length ∧
    count doCollection fns.length ≥ 1 ∧
    (maskOf primDestructive &&& (maskOf primDestructive ^^^ builderDrops)) ≠ 0 ∧
    builderDrops ≠ 0 ∧ callbackRoots ≠ 0 := by
  obtain ⟨-, hroots, -, -, hdrops⟩ := callbackClosure_checked.2
  exact ⟨by decide +kernel, by decide +kernel, collectorClosure_checked.2.2.1, by decide +kernel,
    ne_zero_of_count_pos hdrops, ne_zero_of_count_pos (Nat.le_trans (by decide) hroots)⟩

/-- The collector driver (`do_collection`) and every function that directly calls a primitive
destructor / deallocator (the vtable's `drop_value` / `dealloc` entries among them — hence
`sweep_one`, the arena destructor, `GcPtr::drop_in_place` / `dealloc`, whatever they are called) are
unreachable from every function that client code can call (or implicitly run) while a callback is
running.  Those are: everything public except `&mut self` / by-value methods of `Arena`, everything
on `MarkedArena`, and the constructors of *other* arenas.  The outgoing edges of the builder types' `Drop` impls are
cut: they release a block that was never linked (property C18). -/
theorem callgraph (r d : Nat) (hr : callbackRoots.testBit r = true)
    (hd : destructive.testBit d = true) : ¬ Reach adj builderDrops r d := by
  intro h
  obtain ⟨hclosed, hroots, hdis, -⟩ := callbackClosure_checked.1
  have hr' : callbackClosure.testBit r = true := mask_sub _ _ r hroots hr
  have hd' := reach_in_closed adj builderDrops callbackClosure hclosed r d hr' h
  have : (destructive &&& callbackClosure).testBit d = true := by
    simp only [Nat.testBit_and, hd, hd', Bool.and_self]
  rw [hdis] at this
  simp at this

/-- The private helpers of the driver (functions a refactoring splits the driver loop into; none
in the pinned tree, where both conjuncts hold of the empty set) are private: none is client-callable or a `Drop` impl, and every edge into one of
them starts at the driver or at another helper — they only ever run as part of a driver call. -/
theorem driver_parts_private :
    allIn fns driverParts (fun f => !f.clientCallable && !f.isDropImpl && f.selfKind == .other) = true ∧
    ∀ a b : Nat, Edge adj 0 a b → driverParts.testBit b = true → driver.testBit a = true := by
  obtain ⟨honly, hprivate⟩ := collectorClosure_checked.2.1
  exact ⟨hprivate, edge_into_parts adj driver driverParts honly⟩

/-- Every function from which the collector driver (`Context::do_collection`) is reachable (full
graph, nothing cut) is the driver itself, one of its private helpers (`driver_parts_private`), or
takes `&mut self` on `Arena` or consumes a `MarkedArena`. -/
theorem collection_needs_exclusive_arena (a d : Nat) (hd : doCollection.testBit d = true)
    (h : Reach adj 0 a d) :
    (maskWhere fns (fun f => f.tag == .doCollection || f.tag == .driverPart || exclusiveEntry f)).testBit a = true := by
  obtain ⟨hclosed, hstart, hall⟩ := collectorClosure_checked.1
  have hd' : collectorClosure.testBit d = true := mask_sub _ _ d hstart hd
  have ha := reach_into_back_closed adj collectorClosure hclosed a d hd' h
  exact mask_sub _ _ a hall ha

/-- Lower bounds on the extracted graph (a translator that silently drops functions or edges cannot
make `callgraph` / `collection_needs_exclusive_arena` vacuous): at least 300 functions, 150
callback-side entry points, a callback closure at least 100 nodes larger than its roots (edges are
there: the callback side does reach the allocation / barrier / upgrade paths), the driver is reached
from at least one other function, at least 3 destructive nodes, a builder `Drop` impl. -/
theorem required_graph_rows :
    fns.length ≥ 300 ∧ count callbackRoots fns.length ≥ 150 ∧
    count callbackClosure fns.length ≥ count callbackRoots fns.length + 100 ∧
    closure adj builderDrops callbackRoots 64 = callbackClosure ∧
    count collectorClosure fns.length ≥ 2 ∧ count destructive fns.length ≥ 3 ∧
    count builderDrops fns.length ≥ 1 ∧ constructsMarkedArena.length ≥ 1 := by
  obtain ⟨hfns, hroots, hreached, hdestr, hdrops⟩ := callbackClosure_checked.2
  exact ⟨hfns, hroots, hreached, callbackClosure_checked.1.2.2.2, collectorClosure_checked.2.2.2, hdestr,
    hdrops, by decide +kernel⟩

/-- `MarkedArena` holds `&mut Arena`, and is only constructed by `&mut self` methods of `Arena`. -/
theorem marked_arena_exclusive :
    markedArenaField = "&mut Arena" ∧ constructsMarkedArena ≠ [] ∧
    allIn fns (maskOf constructsMarkedArena) (fun f => f.selfKind == .arena && f.recv == .refMut) = true := by
  decide +kernel

/-- Non-vacuity: the certificate is what `closure` computes from the roots; it is much larger than
the root set (the callback side does reach the allocation / barrier / upgrade paths of the
collector); and the driver is reached from somewhere (the `&mut self` collection methods of
`Arena`, `MarkedArena::start_sweeping`). -/
example :
    closure adj builderDrops callbackRoots 64 = callbackClosure ∧
    count callbackRoots fns.length ≥ 100 ∧
    count callbackClosure fns.length ≥ count callbackRoots fns.length + 100 ∧
    count collectorClosure fns.length ≥ 2 ∧ count destructive fns.length ≥ 3 := by
  obtain ⟨-, hroots, hreached, hclosure, hcoll, hdestr, -⟩ := required_graph_rows
  exact ⟨hclosure, Nat.le_trans (by decide) hroots, hreached, hcoll, hdestr⟩

/-! ## The clause, structural half

"While a callback runs, no value of that arena is destructed and no allocation is released" — as
far as a call graph can say it: nothing that client code can call or implicitly run during a
callback reaches a destructor / deallocator call or the collector driver.  Not contained: that the
extracted graph over-approximates the real calls (name resolution of the translator, trusted), and
Rust's borrow rules excluding the `&mut Arena` / by-value entry points (trusted).  The dynamic half
(`Props/C03`) is about the collector model.  The statement is that of `callgraph`. -/
def callbacks_cannot_reach_reclamation_statement : Prop :=
  ∀ r d : Nat, callbackRoots.testBit r = true → destructive.testBit d = true →
    ¬ Reach adj builderDrops r d

theorem callbacks_cannot_reach_reclamation : callbacks_cannot_reach_reclamation_statement :=
  fun r d hr hd => callgraph r d hr hd

end GcArena.C03s
