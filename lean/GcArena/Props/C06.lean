import GcArena.Proofs.Quiet
/-!
# C06 — Every documented write-barrier path makes adoption safe in every phase

The four barriers of src/context.rs and the stores that follow them.  Phase, colour of parent and
colour of child are universally quantified inside every statement (no hypothesis mentions them).
`Cover`: which barrier was issued; `CoverOK c cv`: what it guarantees in state `c`;
`Arena.coverOK a p v`: "a barrier issued since the last collection call licenses storing `v` into
`p` without a further barrier" — the premise of the unsafe `as_cell` / `as_ref_cell` accessors and
of `Write`.
-/
namespace GcArena.C06

open GcArena

/-- `backward_barrier(parent, child?)`: invariant kept, every earlier barrier's guarantee kept,
    its own guarantee established — for every phase and every colour of `parent` and `child`. -/
theorem backward_barrier {c : Ctx} {root temps} (h : CInv c root temps) {p : Nat}
    (hp : ∃ o, c.heap.get p = some o) (child : Option Nat)
    (hc : ∀ ch, child = some ch → ∃ o, c.heap.get ch = some o) :
    CInv (c.backwardBarrier p child) root temps ∧
    (∀ cv, CoverOK c cv → CoverOK (c.backwardBarrier p child) cv) ∧
    CoverOK (c.backwardBarrier p child) (match child with | none => .parent p | some ch => .pair p ch) := by
  obtain ⟨h1, b1, c1⟩ := backwardBarrier_spec h hp child hc
  exact ⟨h1, fun _ hcv => b1.coverOK hcv, c1⟩

theorem backward_barrier_weak {c : Ctx} {root temps} (h : CInv c root temps) {p ch : Nat}
    (hp : ∃ o, c.heap.get p = some o) (hc : ∃ o, c.heap.get ch = some o) :
    CInv (c.backwardBarrierWeak p ch) root temps ∧
    (∀ cv, CoverOK c cv → CoverOK (c.backwardBarrierWeak p ch) cv) ∧
    CoverOK (c.backwardBarrierWeak p ch) (.weakPair p ch) := by
  obtain ⟨h1, b1, c1⟩ := backwardBarrierWeak_spec h hp hc
  exact ⟨h1, fun _ hcv => b1.coverOK hcv, c1⟩

/-- `forward_barrier(parent?, child)`, likewise; the child, which this barrier may gray
    (`Ctx.trace`), must be `Safe`, where the other three forms ask only that it is allocated. -/
theorem forward_barrier {c : Ctx} {root temps} (h : CInv c root temps) (parent : Option Nat) {ch : Nat}
    (hp : ∀ p, parent = some p → ∃ o, c.heap.get p = some o) (hc : Safe c ch) :
    CInv (c.forwardBarrier parent ch) root temps ∧
    (∀ cv, CoverOK c cv → CoverOK (c.forwardBarrier parent ch) cv) ∧
    CoverOK (c.forwardBarrier parent ch) (match parent with | none => .child ch | some p => .pair p ch) := by
  obtain ⟨h1, b1, c1⟩ := forwardBarrier_spec h parent hp hc
  exact ⟨h1, fun _ hcv => b1.coverOK hcv, c1⟩

theorem forward_barrier_weak {c : Ctx} {root temps} (h : CInv c root temps) (parent : Option Nat)
    {ch : Nat} (hp : ∀ p, parent = some p → ∃ o, c.heap.get p = some o)
    (hc : ∃ o, c.heap.get ch = some o) :
    CInv (c.forwardBarrierWeak parent ch) root temps ∧
    (∀ cv, CoverOK c cv → CoverOK (c.forwardBarrierWeak parent ch) cv) ∧
    CoverOK (c.forwardBarrierWeak parent ch)
      (match parent with | none => .weakChild ch | some p => .weakPair p ch) := by
  obtain ⟨h1, b1, c1⟩ := forwardBarrierWeak_spec h parent hp hc
  exact ⟨h1, fun _ hcv => b1.coverOK hcv, c1⟩

/-- Every sanctioned store path — `Gc::write`-then-store, an explicitly barriered raw store,
    store-then-barrier (`Gc<OnceLock>::set`) — preserves the invariant, in every phase and for
    every colour of holder and target.  (An instance of `inv_step`, spelled out.) -/
theorem store_path_preserves_inv {a : Arena} (h : Inv a) (path : StorePath) (p i : Nat) (v : Slot) :
    Inv (a.step (.store path p i v)).1 :=
  inv_step h _ (step_mutator_alive h.alive _ rfl)

private theorem cover_mem_of_mutStep {a a' : Arena} {fin : Bool} {op : Op} {out : String}
    (st : MutStep a fin op a' out)
    {cv : Cover} (h : cv ∈ a.cover) : cv ∈ a'.cover := by
  cases st with
  | alloc | hold | upgradeSome | resurrect => rw [Arena.push_cover]; exact h
  | barrier => exact List.mem_cons_of_mem _ h
  | store path => cases path <;> first | exact h | exact List.mem_cons_of_mem _ h
  | _ => exact h

/-- A barrier's licence lasts until the next collection call: every mutator op keeps the cover. -/
theorem cover_persists {a : Arena} (h : Inv a) (op : Op) (hop : op.isMutator = true) (cv : Cover)
    (hcv : cv ∈ a.cover) : cv ∈ (a.step op).1.cover :=
  cover_mem_of_mutStep (step_mutStep h.alive hop) hcv

/-- The general backward form: once `parent` is covered, *any* child may be stored, any number of
    times (`coverOK` does not look at the child). -/
theorem general_backward_licenses (a : Arena) (p : Nat) (h : Cover.parent p ∈ a.cover) (v : Slot) :
    a.coverOK p v = true := by
  cases v with
  | none => rfl
  | some q => cases q <;> simp [Arena.coverOK, h]

/-- The general forward form: once `child` is covered, *any* parent may adopt it. -/
theorem general_forward_licenses (a : Arena) (ch : Nat) (h : Cover.child ch ∈ a.cover) (p : Nat) :
    a.coverOK p (some (.strong ch)) = true ∧ a.coverOK p (some (.weak ch)) = true := by
  simp [Arena.coverOK, h]

theorem general_forward_weak_licenses (a : Arena) (ch : Nat) (h : Cover.weakChild ch ∈ a.cover)
    (p : Nat) : a.coverOK p (some (.weak ch)) = true := by
  simp [Arena.coverOK, h]

/-- Barriers are bookkeeping only: no event is logged, the root is untouched, every allocated object
    stays allocated with its liveness; and they never fault (`err`) nor break a counter
    (`underflow`) — including on non-tracing objects. -/
theorem barrier_bookkeeping_only {a : Arena} (h : Inv a) (b : BarrierOp) :
    let a' := (a.step (.barrier b)).1
    a'.ctx.log = a.ctx.log ∧ a'.root = a.root ∧ a'.ctx.err = none ∧ a'.ctx.metrics.underflow = false ∧
    (∀ i o, a.ctx.heap.get i = some o → ∃ o', a'.ctx.heap.get i = some o' ∧ o'.live = o.live) := by
  intro a'
  have hi := inv_step h (.barrier b) (step_mutator_alive h.alive _ rfl)
  have hq := step_quiet h (.barrier b) rfl
  refine ⟨hq.log, ?_, hi.cinv.noErr, hi.cinv.noUnderflow, hq.keep⟩
  rcases (step_mutStep h.alive (op := .barrier b) rfl).root with e | ⟨_, _, e, _⟩
  · exact e
  · cases e

/-- What a `Gc` stored in an accessible object points to is accessible, hence (C01) allocated,
    undestructed and out of the running sweep's reach. -/
theorem adopted_target_safe {a : Arena} (h : Inv a) {p t : Nat} {o : Obj} (hacc : Accessible a p)
    (ho : a.ctx.heap.get p = some o) (hs : some (Ptr.strong t) ∈ o.slots) : Safe a.ctx t :=
  h.safe_of_accessible (.edge p t hacc ⟨o, ho, hs⟩)

/-! ### The barrier-carrying store paths, at the API level and over whole histories -/

private theorem store_accepted {a : Arena} (h : Inv a) {p i t : Nat} {path : StorePath}
    (hpath : path ≠ .raw) (hcb : a.cb.isSome = true) (hp : a.holds (.strong p) = true)
    (ht : a.holds (.strong t) = true) (hslot : (Arena.slotOf a.ctx p i).isSome = true)
    (htr : Arena.isTracing a.ctx p = true) :
    (a.step (.store path p i (some (.strong t)))).2 = "ok" ∧
    (a.step (.store path p i (some (.strong t)))).1.temps = a.temps := by
  obtain ⟨s, hs⟩ := Option.isSome_iff_exists.mp hslot
  rw [step_eq h.alive, stepBody_store_accepted { a with marked := false } a.marked path p i
    (some (.strong t)) s hcb hp ht hs (fun _ => htr) (fun e => absurd e hpath)]
  exact ⟨rfl, rfl⟩

/-- **Every documented barrier-carrying store path is accepted in every phase, and adoption through
    it is safe** (`Gc::write` / `unlock` — barrier then store — and store-then-barrier): after any
    history, whatever the phase, the colours of holder and child, the queues and the debt, a
    callback that holds the holder `p` (a tracing object with a slot `i`) and the child `t` may
    store `t` into `p`; the operation is accepted, the collector invariant holds afterwards, and
    the adopted target is `Safe` (allocated, undestructed, not condemned by a running sweep).
    `Safe` holds because the callback still holds `t`; what the barrier contributes is that `Inv`
    holds with the new edge in place. -/
theorem barrier_store_accepted_and_safe_run (n : Nat) (pre : List Op) (p i t : Nat) (path : StorePath)
    (hpath : path ≠ .raw)
    (halive : ((Arena.new n).run pre).alive = true)
    (hcb : ((Arena.new n).run pre).cb.isSome = true)
    (hp : ((Arena.new n).run pre).holds (.strong p) = true)
    (ht : ((Arena.new n).run pre).holds (.strong t) = true)
    (hslot : (Arena.slotOf ((Arena.new n).run pre).ctx p i).isSome = true)
    (htr : Arena.isTracing ((Arena.new n).run pre).ctx p = true) :
    (((Arena.new n).run pre).step (.store path p i (some (.strong t)))).2 = "ok" ∧
    Inv (((Arena.new n).run pre).step (.store path p i (some (.strong t)))).1 ∧
    Safe (((Arena.new n).run pre).step (.store path p i (some (.strong t)))).1.ctx t := by
  have h := inv_run n pre halive
  obtain ⟨hok, htemps⟩ := store_accepted h hpath hcb hp ht hslot htr
  have h' := store_path_preserves_inv h path p i (some (.strong t))
  exact ⟨hok, h', h'.cinv.tempsOK (.strong t) (by rw [htemps]; simpa [Arena.holds] using ht)⟩

/-! ### Non-vacuity: black parent, white child; a general backward barrier with a raw store, and a `Gc::write` store -/

/-- root → 0 fully marked (black); a fresh white object 1; general backward barrier on 0, then a
    barrier-less store of 1 into 0; marking is finished again and the sweep runs: 1 survives. -/
def demo : List Op := [
  .enter .mutateRoot, .alloc true [none, none], .rootStore 0 (some (.strong 0)), .leave,
  .collect .finishMarking .drop none (some [.wake, .markStep none, .markStep none, .markBreak]),
  .enter .mutate, .readRoot 0, .alloc true [none, none],
  .barrier (.bb 0 none), .store .raw 0 0 (some (.strong 1)), .leave,
  .collect .finishCycle .drop none
    (some [.markStep none, .markStep none, .markBreak, .toSweep, .sweepStep, .sweepStep, .sweepEnd, .toSleep false]) ]

private theorem demo_facts :
    ((Arena.new 2).run demo).alive = true ∧ ((Arena.new 2).run demo).ctx.phase = .sleep ∧
    ((Arena.new 2).run demo).ctx.log = [] ∧ ((Arena.new 2).run demo).ctx.err = none := by
  decide +kernel

example : ((Arena.new 2).run demo).alive = true := demo_facts.1
example : ((Arena.new 2).run demo).ctx.phase = .sleep := demo_facts.2.1
example : ((Arena.new 2).run demo).ctx.log = [] := demo_facts.2.2.1
example : ((Arena.new 2).run demo).ctx.err = none := demo_facts.2.2.2
example : ((Arena.new 2).run (demo.take 9)).cover = [.parent 0] := by decide +kernel

/-- The premises of `barrier_store_accepted_and_safe_run` hold in the demo just before its barrier:
    phase Mark, holder 0 and the fresh child 1 both held by the running callback. -/
private theorem before_barrier_facts :
    ((Arena.new 2).run (demo.take 8)).cb.isSome = true ∧
    ((Arena.new 2).run (demo.take 8)).ctx.phase = .mark ∧
    ((Arena.new 2).run (demo.take 8)).holds (.strong 0) = true ∧
    ((Arena.new 2).run (demo.take 8)).holds (.strong 1) = true ∧
    (Arena.slotOf ((Arena.new 2).run (demo.take 8)).ctx 0 0).isSome = true ∧
    Arena.isTracing ((Arena.new 2).run (demo.take 8)).ctx 0 = true ∧
    (((Arena.new 2).run (demo.take 8)).step (.store .write 0 0 (some (.strong 1)))).2 = "ok" := by
  decide +kernel

example : ((Arena.new 2).run (demo.take 8)).cb.isSome = true := before_barrier_facts.1
example : ((Arena.new 2).run (demo.take 8)).ctx.phase = .mark := before_barrier_facts.2.1
example : ((Arena.new 2).run (demo.take 8)).holds (.strong 0) = true := before_barrier_facts.2.2.1
example : ((Arena.new 2).run (demo.take 8)).holds (.strong 1) = true := before_barrier_facts.2.2.2.1
example : (Arena.slotOf ((Arena.new 2).run (demo.take 8)).ctx 0 0).isSome = true :=
  before_barrier_facts.2.2.2.2.1
example : Arena.isTracing ((Arena.new 2).run (demo.take 8)).ctx 0 = true :=
  before_barrier_facts.2.2.2.2.2.1
example : (((Arena.new 2).run (demo.take 8)).step (.store .write 0 0 (some (.strong 1)))).2 = "ok" :=
  before_barrier_facts.2.2.2.2.2.2

end GcArena.C06
