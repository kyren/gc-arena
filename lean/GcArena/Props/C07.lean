import GcArena.Proofs.Quiet
import GcArena.Proofs.Exact
import GcArena.Proofs.RunBridge
import GcArena.Proofs.ProtRun
import GcArena.Proofs.TightRun
/-!
# C07 — Finalization: dead means unreachable, resurrection holds for the cycle

`is_dead` reads the colour (`Gc::is_dead`: white or white-weak).  A `MarkedArena` is handed out
exactly when `Arena.isMarked`: `phase == Mark && !gray_remaining()`.  `Op.isObserver`, of
`marked_exact_ops`, is defined in Proofs/TightRun.lean.
-/
namespace GcArena.C07

open GcArena

def isDead (c : Ctx) (i : Nat) : Prop :=
  ∃ o, c.heap.get i = some o ∧ (o.color = .white ∨ o.color = .whiteWeak)

/-- In a fully marked arena every strongly reachable object is black. -/
theorem reachable_black {c : Ctx} {root temps} (h : CInv c root temps) (hm : Arena.isMarked c = true)
    {i : Nat} (hr : StrongReachC c root i) : ∃ o, c.heap.get i = some o ∧ o.color = .black := by
  simp only [Arena.isMarked, Bool.and_eq_true, decide_eq_true_eq, Bool.not_eq_true',
    Ctx.grayRemaining, Bool.or_eq_false_iff, Bool.not_eq_false', List.isEmpty_iff] at hm
  obtain ⟨hph, ⟨hg, hga⟩, hrnt⟩ := hm
  have nogray : ∀ j o, c.heap.get j = some o → o.color ≠ .gray := by
    intro j o ho hgr
    have := h.grayQ j o ho hgr
    rw [hg, hga] at this; simp at this
  have black_of_marked : ∀ t, PtrMarked c (.strong t) → ∃ o, c.heap.get t = some o ∧ o.color = .black := by
    rintro t ⟨o, ho, hc⟩
    rcases hc with hc | hc
    · exact absurd hc (nogray t o ho)
    · exact ⟨o, ho, hc⟩
  induction hr with
  | root t ht => exact black_of_marked t (h.triRoot hph hrnt _ ht)
  | temp t ht => cases ht
  | edge j t _ e ih =>
    obtain ⟨oj, hoj, hb⟩ := ih
    obtain ⟨o2, ho2, hs⟩ := e
    rw [hoj] at ho2; cases ho2
    exact black_of_marked t (h.tri hph j oj hoj hb (by simp) _ hs)

/-- When a `MarkedArena` is handed out, no strongly reachable object reports `is_dead` — through a
    `Gc` or through any `GcWeak` to it (both read the target's colour). -/
theorem marked_sound {a : Arena} (h : Inv a) (hm : Arena.isMarked a.ctx = true) (i : Nat)
    (hr : StrongReach a i) : ¬ isDead a.ctx i := by
  rintro ⟨o, ho, hc⟩
  obtain ⟨o2, ho2, hb⟩ := reachable_black h.cinv hm hr
  rw [ho] at ho2; cases ho2
  exact Color.dead_not_marked hc (.inr hb)

/-- `GcWeak::resurrect` returns `None` exactly for destructed targets. -/
theorem resurrect_none_iff {a : Arena} (h : Inv a) (hcb : a.cb = some .finalize) (t : Nat) (o : Obj)
    (hw : Ptr.weak t ∈ a.temps) (ho : a.ctx.heap.get t = some o) :
    (a.step (.resurrect (.weak t))).2 = "none" ↔ o.live = false := by
  have hh : a.holds (.weak t) = true := (holds_iff a _).mpr hw
  rw [step_eq h.alive]
  simp only [Arena.stepBody, hcb, ne_eq, not_true_eq_false, decide_false, Bool.false_or, Arena.holds] at hh ⊢
  simp only [hh, Bool.not_true, Bool.false_eq_true, if_false, ho]
  cases hl : o.live <;> simp

/-- Reviving an object that reports dead leaves work for the marker (`gray_remaining()`), so that
    an arena in `Mark` reports Marking again. -/
theorem resurrect_marking (c : Ctx) (t : Nat) (o : Obj) (ho : c.heap.get t = some o)
    (hd : o.color = .white ∨ o.color = .whiteWeak) : (c.resurrect t).grayRemaining = true := by
  unfold Ctx.resurrect
  simp only [ho]
  have : (decide (o.color = .white) || decide (o.color = .whiteWeak)) = true := by
    rcases hd with hd | hd <;> simp [hd]
  simp only [this, if_true]
  split <;> simp [Ctx.grayRemaining]

/-- A resurrected object is marked at once (gray, hence queued, or black already), whether or not
    the returned pointer is stored anywhere, and the invariant is kept.  The sweep cannot start
    while it is queued: `sweep_waits_for_queue`. -/
theorem resurrect_queues {a : Arena} (h : Inv a) (hm : a.ctx.phase = .mark) (t : Nat)
    (hs : Safe a.ctx t) :
    PtrMarked (a.ctx.resurrect t) (.strong t) ∧ CInv (a.ctx.resurrect t) a.root a.temps :=
  ⟨(resurrect_spec h.cinv hm hs).2.2, (resurrect_spec h.cinv hm hs).1⟩

theorem sweep_waits_for_queue (c : Ctx) (root : List Slot) (h : c.grayRemaining = true) :
    c.micro root .toSweep = none := by
  simp [Ctx.micro, h]

private theorem isDead_iff_of_tight {c : Ctx} {root temps} (hc : CInv c root temps) (T : Tight c root)
    (hm : Arena.isMarked c = true) (i : Nat) (o : Obj) (ho : c.heap.get i = some o) :
    isDead c i ↔ ¬ StrongReachC c root i := by
  constructor
  · rintro ⟨o1, ho1, hcol⟩ hr
    obtain ⟨o2, ho2, hb⟩ := reachable_black hc hm hr
    rw [ho1] at ho2; cases ho2
    exact Color.dead_not_marked hcol (.inr hb)
  · intro hnr
    refine ⟨o, ho, ?_⟩
    cases hcol : o.color with
    | white => exact Or.inl rfl
    | whiteWeak => exact Or.inr rfl
    | gray => exact absurd ((T.tm i o ho).1 (Or.inl hcol)) hnr
    | black => exact absurd ((T.tm i o ho).1 (Or.inr hcol)) hnr

/-- "Exact if unmutated", general form: in any fully marked state reached from a sleeping state
    satisfying the invariant by collector micro-steps alone — any number of them, *including*
    `mark_one` calls whose `trace` unwinds part-way — an allocated object reports `is_dead`
    exactly when it is not strongly reachable from the root.  (Tightness invariant of
    Proofs/Tight: gray/black ⇒ strongly reachable while no mutator step intervenes.) -/
theorem marked_exact_of_micros {c0 c : Ctx} {root : List Slot} (h0 : CInv c0 root [])
    (hsl : c0.phase = .sleep) (ms : List Micro) (hs : c0.micros root ms = some c)
    (hm : Arena.isMarked c = true) (i : Nat) (o : Obj) (ho : c.heap.get i = some o) :
    isDead c i ↔ ¬ StrongReachC c root i := by
  have hph : c.phase = .mark := (isMarked_iff.mp hm).1
  exact isDead_iff_of_tight (micros_inv ms h0 hs)
    (micros_tight ms h0 (fun hne => absurd hsl hne) hs (by rw [hph]; simp)) hm i o ho

/-- **Exact if unmutated.**  Its last two hypotheses — the steps after the wake-up are mark steps,
    none faulted at slot 0 — are not used: see `marked_exact_of_micros`. -/
theorem marked_exact :
  ∀ (n : Nat) (pre : List Op) (ms : List Micro) (c : Ctx),
    let a := (Arena.new n).run pre
    a.alive = true → a.cb = none → a.ctx.phase = .sleep →
    a.ctx.micros a.root (.wake :: ms) = some c → Arena.isMarked c = true →
    (∀ m, m ∈ ms → ∃ f, m = .markStep f ∨ m = .markBreak) → (∀ m, m ∈ ms → m ≠ .markStep (some 0)) →
    ∀ i o, c.heap.get i = some o → (isDead c i ↔ ¬ StrongReachC c a.root i) := by
  intro n pre ms c a halive hcb hsl hs hm _ _ i o ho
  exact marked_exact_of_micros ((inv_run n pre halive).cinv0 hcb) hsl (.wake :: ms) hs hm i o ho

/-- **Exact if unmutated, over API histories.**  From any sleeping state an arena can
    reach, run any sequence of collection calls — `mark_debt` with any debt any number of times,
    `finish_marking`, whole cycles, self- or oracle-driven, with faults — interleaved with
    callbacks that only *observe* (`Op.isObserver`: enter / leave of every kind, reads, `downgrade`,
    `upgrade`, `is_dropped`, `is_dead`, pacing and debt knobs; no allocation, store, barrier, root
    replacement or resurrection).  Whenever the arena is then fully marked — a `MarkedArena` would be
    handed out — an allocated object reports `is_dead` exactly when it is not strongly reachable
    from the root; also from inside the `finalize` callback. -/
theorem marked_exact_ops (n : Nat) (pre ops : List Op) :
    let a := (Arena.new n).run pre
    let b := a.run ops
    a.alive = true → a.ctx.phase = .sleep →
    (∀ op, op ∈ ops → op.isObserver = true ∨ op.isMutator = false) →
    b.alive = true → Arena.isMarked b.ctx = true →
    ∀ i o, b.ctx.heap.get i = some o → (isDead b.ctx i ↔ ¬ StrongReach b i) := by
  intro a b halive hsl hops hbal hm i o ho
  have h : Inv a := inv_run n pre halive
  obtain ⟨t, hb⟩ := run_tightOrAsleep ops a h hbal hops (fun hne => absurd hsl hne)
  have hph : b.ctx.phase = .mark := (isMarked_iff.mp hm).1
  exact isDead_iff_of_tight hb.cinv (t (by rw [hph]; simp)) hm i o ho

/-- **Exact if unmutated, at the API**: on any sleeping state an arena can reach, outside
    callbacks, the self-driven `Arena::finish_marking()` returns `Some(MarkedArena)`, and in the
    arena it hands to `finalize` an allocated object reports `is_dead` exactly when it is not
    strongly reachable from the root. -/
theorem marked_exact_run (n : Nat) (pre : List Op) :
    let a := (Arena.new n).run pre
    a.alive = true → a.cb = none → a.ctx.phase = .sleep →
    let r := a.step (.collect .finishMarking .finalize none none)
    r.2 = "some" ∧ r.1.root = a.root ∧
    ∀ i o, r.1.ctx.heap.get i = some o → (isDead r.1.ctx i ↔ ¬ StrongReach r.1 i) := by
  intro a halive hcb hsl r
  have h : Inv a := inv_run n pre halive
  have h0 := h.cinv0 hcb
  have hm := finishMarking_isMarked h0 (root := a.root) (by rw [hsl]; simp)
  have e : r = (({ a with marked := true, cover := [],
                            ctx := (a.ctx.doCollection a.root .stop .fullyMarked none).1 } : Arena), "some") := by
    show a.step _ = _
    rw [step_selfDriven h hcb]
    simp only [Arena.marked?, Arena.methodArgs, hm, if_true]
  rw [e]
  refine ⟨rfl, rfl, fun i o ho => ?_⟩
  obtain ⟨ms, hms⟩ := doCollection_reaches (ru := .stop) (stop := .fullyMarked) (fault := none) h0
  exact marked_exact_of_micros h0 hsl ms hms hm i o ho

/-- **Resurrection protects for the cycle**: an object that is gray or black in the
    mark phase — in particular one just resurrected (`resurrect_queues`) — is, in every sweep-phase
    state the collector reaches before the cycle's `Sweep → Sleep` switch, allocated, undestructed
    and out of the sweep's reach, whether or not a pointer to it was stored anywhere. -/
theorem resurrect_protects :
  ∀ (a : Arena) (t : Nat) (ms : List Micro) (c : Ctx), Inv a → a.cb = none → a.ctx.phase = .mark →
    (∃ o, a.ctx.heap.get t = some o ∧ (o.color = .gray ∨ o.color = .black)) →
    a.ctx.micros a.root ms = some c → c.phase = .sweep → (∀ m, m ∈ ms → m ≠ .toSleep true ∧ m ≠ .toSleep false) →
    Safe c t := by
  intro a t ms c hinv hcb hp hmk hs hsw hno
  have h0 : CInv a.ctx a.root [] := hinv.cinv0 hcb
  have hno' : ∀ m, m ∈ ms → ∀ b, m ≠ .toSleep b := by
    intro m hm b
    cases b
    · exact (hno m hm).2
    · exact (hno m hm).1
  rcases micros_prot ms h0 hs hno' (Or.inl ⟨hp, hmk⟩) with ⟨hpm, _⟩ | ⟨_, hsafe⟩
  · rw [hsw] at hpm; cases hpm
  · exact hsafe

/-- …and so is everything strongly reachable from it in that state (the closure). -/
theorem resurrect_protects_closure (a : Arena) (t : Nat) (ms : List Micro) (c : Ctx) (hinv : Inv a)
    (hcb : a.cb = none) (hp : a.ctx.phase = .mark)
    (hmk : ∃ o, a.ctx.heap.get t = some o ∧ (o.color = .gray ∨ o.color = .black))
    (hs : a.ctx.micros a.root ms = some c) (hsw : c.phase = .sweep)
    (hno : ∀ m, m ∈ ms → m ≠ .toSleep true ∧ m ≠ .toSleep false) :
    ∀ j, AccessibleC c [] [Ptr.strong t] j → Safe c j := by
  have h0 : CInv a.ctx a.root [] := hinv.cinv0 hcb
  intro j hj
  exact safe_closure (micros_inv ms h0 hs) (resurrect_protects a t ms c hinv hcb hp hmk hs hsw hno) hj

/-- **Resurrection protects for the cycle, over every history.**  From a mark-phase
    state in which `t` is gray or black — in particular right after `GcWeak::resurrect` — run
    *any* sequence of API operations: further callbacks of every kind (`mutate`, `mutate_root`,
    `finalize`) with any allocations, stores, barriers, upgrades and resurrections, and collection
    calls of every method, self-driven or oracle-driven, with a `trace` unwinding anywhere.  As long
    as the arena exists and the cycle has not been completed (the step log has gained no `'Z'`, the
    `Sweep → Sleep` switch), `t` is allocated, undestructed and out of the running sweep's reach,
    and the collector has logged no event about it. -/
theorem resurrect_protects_run (a : Arena) (t : Nat) (ops : List Op) (hinv : Inv a)
    (hp : a.ctx.phase = .mark)
    (hmk : ∃ o, a.ctx.heap.get t = some o ∧ (o.color = .gray ∨ o.color = .black))
    (halive : (a.run ops).alive = true)
    (hcycle : ∃ new, (a.run ops).ctx.steps = new ++ a.ctx.steps ∧ 'Z' ∉ new) :
    Safe (a.run ops).ctx t ∧ (∃ o, (a.run ops).ctx.heap.get t = some o ∧ o.live = true) ∧
    ∃ evs, (a.run ops).ctx.log = evs ++ a.ctx.log ∧ Event.dropped t ∉ evs ∧ Event.freed t ∉ evs := by
  obtain ⟨new, hnew, hz⟩ := hcycle
  obtain ⟨⟨_, k⟩, hfin⟩ := run_protRel t ops a hinv halive
  obtain ⟨p, evs, hl, hav⟩ := k (zc_eq_of_suffix hnew hz) (Or.inl ⟨hp, hmk⟩)
  have hs : Safe (a.run ops).ctx t := p.safe hfin.cinv
  obtain ⟨o, ho, hlive, hsw⟩ := hs
  exact ⟨⟨o, ho, hlive, hsw⟩, ⟨o, ho, hlive⟩, evs, hl,
    fun hm => hav _ hm rfl, fun hm => hav _ hm rfl⟩

/-- …and so is everything strongly reachable from `t` in the state reached (the closure). -/
theorem resurrect_protects_run_closure (a : Arena) (t : Nat) (ops : List Op) (hinv : Inv a)
    (hp : a.ctx.phase = .mark)
    (hmk : ∃ o, a.ctx.heap.get t = some o ∧ (o.color = .gray ∨ o.color = .black))
    (halive : (a.run ops).alive = true)
    (hcycle : ∃ new, (a.run ops).ctx.steps = new ++ a.ctx.steps ∧ 'Z' ∉ new) :
    ∀ j, AccessibleC (a.run ops).ctx [] [Ptr.strong t] j →
      Safe (a.run ops).ctx j ∧ ∃ o, (a.run ops).ctx.heap.get j = some o ∧ o.live = true := by
  intro j hj
  have hfin := (run_protRel t ops a hinv halive).2
  have hs := safe_closure hfin.cinv (resurrect_protects_run a t ops hinv hp hmk halive hcycle).1 hj
  obtain ⟨o, ho, hl, hsw⟩ := hs
  exact ⟨⟨o, ho, hl, hsw⟩, o, ho, hl⟩

/-- `resurrect` answered `Some` (through a `GcWeak`) or was accepted (through a `Gc`): the guard as
    `Arena.step` decides it — inside `finalize`, the pointer held, a weak target allocated and
    undestructed — and what the call then does to the context. -/
private theorem resurrect_accepted {a : Arena} (h : Inv a) (p : Ptr)
    (hout : (a.step (.resurrect p)).2 = "some" ∨ (a.step (.resurrect p)).2 = "ok") :
    a.ctx.phase = .mark ∧ Safe a.ctx p.target ∧ (a.step (.resurrect p)).1.ctx = a.ctx.resurrect p.target := by
  rw [step_eq h.alive] at hout ⊢
  simp only [Arena.stepBody] at hout ⊢
  split at hout
  · simp [Arena.bad] at hout
  · rename_i hg
    rw [if_neg hg]
    simp only [Bool.or_eq_true, Bool.not_eq_true', not_or, Bool.not_eq_false, decide_eq_true_eq,
      Decidable.not_not] at hg
    have hmark : a.ctx.phase = .mark := h.finMark hg.1
    cases p with
    | strong t => exact ⟨hmark, h.ptrOK_of_holds hg.2, rfl⟩
    | weak t =>
      cases ho : a.ctx.heap.get t with
      | none => simp [ho] at hout
      | some o =>
        simp only [ho] at hout ⊢
        cases hl : o.live with
        | false => simp [hl] at hout
        | true => exact ⟨hmark, ⟨o, ho, hl, fun hp => by rw [hmark] at hp; cases hp⟩, Arena.push_ctx ..⟩

/-- What the rest of the cycle cannot do to a protected object and its strong closure. -/
def ProtectedThrough (a : Arena) (t : Nat) : Prop :=
  ∀ ops : List Op, (a.run ops).alive = true →
    (∃ new, (a.run ops).ctx.steps = new ++ a.ctx.steps ∧ 'Z' ∉ new) →
    (∀ j, AccessibleC (a.run ops).ctx [] [Ptr.strong t] j →
      Safe (a.run ops).ctx j ∧ ∃ o, (a.run ops).ctx.heap.get j = some o ∧ o.live = true) ∧
    ∃ evs, (a.run ops).ctx.log = evs ++ a.ctx.log ∧ Event.dropped t ∉ evs ∧ Event.freed t ∉ evs

private theorem protectedThrough_of_marked {a : Arena} (hinv : Inv a) (hp : a.ctx.phase = .mark) {t : Nat}
    (hmk : PtrMarked a.ctx (.strong t)) : ProtectedThrough a t := by
  intro ops hal hcycle
  exact ⟨resurrect_protects_run_closure a t ops hinv hp hmk hal hcycle,
    (resurrect_protects_run a t ops hinv hp hmk hal hcycle).2.2⟩

private theorem protectedThrough_of_resurrect {a : Arena} (h : Inv a) (p : Ptr)
    (hout : (a.step (.resurrect p)).2 = "some" ∨ (a.step (.resurrect p)).2 = "ok") :
    ProtectedThrough (a.step (.resurrect p)).1 p.target := by
  obtain ⟨hmark, hs, hctx⟩ := resurrect_accepted h p hout
  obtain ⟨_, mm, hmk⟩ := resurrect_spec h.cinv hmark hs
  have h1 := inv_step h (.resurrect p) ((step_mutStep h.alive rfl).alive.trans h.alive)
  exact protectedThrough_of_marked h1 (by rw [hctx, mm.phase]; exact hmark) (by rw [hctx]; exact hmk)

/-- **Resurrection, then protection — in one statement.**  On any state an arena can reach: if
    `GcWeak::resurrect` on the weak pointer to `t` returns `Some` (the guard exactly as `Arena.step`
    decides it: inside a `finalize` callback, the pointer is held, the target is allocated and
    undestructed), then through *every* continuation `ops` of the history — the rest of the
    finalizer, further callbacks of every kind with any mutation, whether or not the pointer is ever
    stored, collection calls of every method including the sweep of this cycle — for as long as the
    arena exists and the cycle has not been completed (no new `'Z'` in the step log): `t` and
    everything strongly reachable from `t` is allocated, undestructed and out of the sweep's reach,
    and no `dropped` / `freed` event about `t` has been logged.  The closure is taken **in the state
    reached** (`AccessibleC (r.1.run ops).ctx [] [strong t] j`: `j` is `t` or reachable from `t`
    through `Gc` pointers as the heap is *then* — what the mutator has unlinked from `t` meanwhile is
    not covered, what it has linked under `t` is).  The first conjunct is `ProtectedThrough r.1 t`
    written out.  Also: the arena reports Marking right after the call if `t` was dead. -/
theorem resurrect_then_protected (n : Nat) (pre : List Op) (t : Nat) :
    let a := (Arena.new n).run pre
    let r := a.step (.resurrect (.weak t))
    a.alive = true → r.2 = "some" →
    (∀ ops : List Op, (r.1.run ops).alive = true →
      (∃ new, (r.1.run ops).ctx.steps = new ++ r.1.ctx.steps ∧ 'Z' ∉ new) →
      (∀ j, AccessibleC (r.1.run ops).ctx [] [Ptr.strong t] j →
        Safe (r.1.run ops).ctx j ∧ ∃ o, (r.1.run ops).ctx.heap.get j = some o ∧ o.live = true) ∧
      ∃ evs, (r.1.run ops).ctx.log = evs ++ r.1.ctx.log ∧ Event.dropped t ∉ evs ∧ Event.freed t ∉ evs) ∧
    (isDead a.ctx t → r.1.collectionPhase = "Marking") := by
  intro a r halive hout
  have h : Inv a := inv_run n pre halive
  refine ⟨protectedThrough_of_resurrect h (.weak t) (.inl hout), ?_⟩
  rintro ⟨o, ho, hd⟩
  obtain ⟨hmark, _, (hctx : r.1.ctx = a.ctx.resurrect t)⟩ := resurrect_accepted h (.weak t) (.inl hout)
  unfold Arena.collectionPhase
  rw [hctx, (touch_resurrect (T := fun _ => True) a.ctx t trivial).phase, hmark]
  simp [resurrect_marking a.ctx t o ho hd]

/-- The same for `Gc::resurrect` on a held strong pointer (it returns nothing; accepted ⇔ inside
    `finalize` with the pointer held). -/
theorem resurrect_strong_then_protected (n : Nat) (pre : List Op) (t : Nat) :
    let a := (Arena.new n).run pre
    let r := a.step (.resurrect (.strong t))
    a.alive = true → r.2 = "ok" → ProtectedThrough r.1 t := by
  intro a r halive hout
  exact protectedThrough_of_resurrect (inv_run n pre halive) (.strong t) (.inr hout)

/-- root → 0; object 1 unreachable but weakly held by 0.  Fully marked: `is_dead(1)`; resurrect it:
    the arena reports Marking. -/
def demo : List Op := [
  .enter .mutateRoot, .alloc true [none], .alloc true [none], .downgrade 1,
  .store .write 0 0 (some (.weak 1)), .rootStore 0 (some (.strong 0)), .leave,
  .collect .finishMarking .finalize none (some [.wake, .markStep none, .markStep none, .markBreak]),
  .enter .finalize, .readRoot 0, .read 0 0, .isDead (.weak 1), .resurrect (.weak 1) ]

private theorem demo_facts :
    (((Arena.new 2).run demo).alive = true ∧ ((Arena.new 2).run demo).collectionPhase = "Marking") ∧
    Arena.isMarked ((Arena.new 2).run (demo.take 8)).ctx = true ∧
    (((Arena.new 2).run (demo.take 11)).step (.isDead (.weak 1))).2 = "true" := by decide +kernel

example : ((Arena.new 2).run demo).alive = true := demo_facts.1.1
example : Arena.isMarked ((Arena.new 2).run (demo.take 8)).ctx = true := demo_facts.2.1
example : (((Arena.new 2).run (demo.take 11)).step (.isDead (.weak 1))).2 = "true" := demo_facts.2.2
example : ((Arena.new 2).run demo).collectionPhase = "Marking" := demo_facts.1.2

/-- The state of `demo` before the collection call (asleep, outside callbacks). -/
def sleeping : Arena := (Arena.new 2).run (demo.take 7)

def markSteps : List Micro := [.markStep none, .markStep none, .markBreak]

theorem sleeping_marks : (sleeping.ctx.micros sleeping.root (.wake :: markSteps)).isSome = true := by decide +kernel

/-- The fully marked state the micro-steps lead to. -/
def markedCtx : Ctx := (sleeping.ctx.micros sleeping.root (.wake :: markSteps)).get sleeping_marks

private theorem sleeping_facts : sleeping.alive = true ∧ sleeping.cb = none ∧ sleeping.ctx.phase = .sleep ∧
    sleeping.root = [some (.strong 0), none] := by decide +kernel

/-- Where the root holds object 0 and object 0 holds a weak pointer only, nothing else is strongly
    reachable. -/
private theorem only_root {c : Ctx} {root : List Slot} (hroot : root = [some (.strong 0), none])
    (h0 : c.heap.get 0 = some ⟨.black, true, true, [some (.weak 1)]⟩) {j : Nat}
    (hj : StrongReachC c root j) : j = 0 :=
  hj.closed (S := (· = 0)) (fun t ht => by rw [hroot] at ht; simpa using ht) (fun _ h => by cases h)
    (fun i o t hi ho hs => by subst hi; rw [h0] at ho; cases ho; simp at hs)

/-- All hypotheses of `marked_exact` hold for `demo`; its conclusion then says: the unreachable,
    weakly held object 1 reports dead, the reachable object 0 does not. -/
example : isDead markedCtx 1 ∧ ¬ isDead markedCtx 0 := by
  obtain ⟨hal, hcb, hsl, hroot⟩ := sleeping_facts
  have facts : Arena.isMarked markedCtx = true ∧
      markedCtx.heap.get 0 = some ⟨.black, true, true, [some (.weak 1)]⟩ ∧
      markedCtx.heap.get 1 = some ⟨.whiteWeak, true, true, [none]⟩ := by decide +kernel
  obtain ⟨hm, h0, h1⟩ := facts
  have key := marked_exact 2 (demo.take 7) markSteps markedCtx hal hcb hsl
    (Option.some_get sleeping_marks).symm hm (by simp [markSteps]) (by decide)
  exact ⟨(key 1 _ h1).mpr (fun hr => by cases only_root hroot h0 hr),
    fun hd => (key 0 _ h0).mp hd (.root 0 (by show _ ∈ sleeping.root; rw [hroot]; simp))⟩

/-- `demo` continued: the finalizer callback returns *without storing* the resurrected pointer. -/
def resurrected : Arena := (Arena.new 2).run (demo ++ [.leave])

def toSweepSteps : List Micro := [.markStep none, .markBreak, .toSweep]

theorem resurrected_sweeps :
    (resurrected.ctx.micros resurrected.root toSweepSteps).isSome = true := by decide +kernel

def sweepingCtx : Ctx := (resurrected.ctx.micros resurrected.root toSweepSteps).get resurrected_sweeps

/-- All hypotheses of `resurrect_protects` hold: object 1 was resurrected (it is gray), it is
    still not strongly reachable from the root, and yet the sweep that follows will not touch it. -/
example : Safe sweepingCtx 1 := by
  have facts : (resurrected.alive = true ∧ resurrected.cb = none ∧ resurrected.ctx.phase = .mark ∧
      resurrected.ctx.heap.get 1 = some ⟨.gray, true, true, [none]⟩) ∧ sweepingCtx.phase = .sweep := by
    decide +kernel
  obtain ⟨⟨hal, hcb, hp, hgray⟩, hsw⟩ := facts
  exact resurrect_protects resurrected 1 toSweepSteps sweepingCtx (inv_run 2 _ hal) hcb hp
    ⟨_, hgray, Or.inl rfl⟩ (Option.some_get resurrected_sweeps).symm hsw (by decide)

/-- Object 1 is indeed not strongly reachable there (the root holds 0, which holds 1 only weakly). -/
example : ¬ StrongReachC sweepingCtx resurrected.root 1 := by
  have facts : resurrected.root = [some (.strong 0), none] ∧
      sweepingCtx.heap.get 0 = some ⟨.black, true, true, [some (.weak 1)]⟩ := by decide +kernel
  exact fun hr => by cases only_root facts.1 facts.2 hr

example : (sleeping.step (.collect .finishMarking .finalize none none)).2 = "some" :=
  (marked_exact_run 2 (demo.take 7) sleeping_facts.1 sleeping_facts.2.1 sleeping_facts.2.2.1).1

/-- `demo` ends inside the finalizer callback, right after `resurrect(weak 1)`: object 1 is gray. -/
def afterRes : Arena := (Arena.new 2).run demo

/-- What follows the resurrection: the finalizer callback returns without storing the pointer; a
    `mutate` callback allocates, *removes* the only (weak) pointer to object 1 and stores the new
    object instead; `finish_marking` (self-driven) completes the marking and the client starts the
    sweep; two sweep steps pass the new object and object 1. -/
def laterOps : List Op := [
  .leave, .enter .mutate, .alloc true [none], .readRoot 0, .store .write 0 0 none,
  .store .write 0 0 (some (.strong 2)), .leave,
  .collect .finishMarking .sweep none none,
  .collect .collectDebt .drop none (some [.sweepStep, .sweepStep]) ]

/-- All hypotheses of `resurrect_protects_run` hold for this history (the cycle is not completed:
    the new step-log entries are `g g g b b S x x`, oldest first), so object 1 — named by no pointer
    anywhere any more — has been passed by the sweep and kept, undestructed. -/
example : Safe (afterRes.run laterOps).ctx 1 ∧
    (∃ o, (afterRes.run laterOps).ctx.heap.get 1 = some o ∧ o.live = true) ∧
    ∃ evs, (afterRes.run laterOps).ctx.log = evs ++ afterRes.ctx.log ∧
      Event.dropped 1 ∉ evs ∧ Event.freed 1 ∉ evs := by
  have facts : (afterRes.alive = true ∧ afterRes.ctx.phase = .mark ∧
      afterRes.ctx.heap.get 1 = some ⟨.gray, true, true, [none]⟩) ∧ (afterRes.run laterOps).alive = true ∧
      (afterRes.run laterOps).ctx.steps = ['x', 'x', 'S', 'b', 'b', 'g', 'g', 'g'] ++ afterRes.ctx.steps := by
    decide +kernel
  obtain ⟨⟨hal, hp, hgray⟩, hal', hsteps⟩ := facts
  exact resurrect_protects_run afterRes 1 laterOps (inv_run 2 _ hal) hp ⟨_, hgray, Or.inl rfl⟩ hal'
    ⟨_, hsteps, by decide⟩

example : (afterRes.run laterOps).ctx.phase = .sweep ∧ (afterRes.run laterOps).ctx.pre = [2, 1] ∧
    (afterRes.run laterOps).ctx.rest = [0] := by decide +kernel

/-- `demo.take 12` is the state right before the `resurrect` op of `demo`; the op returns `some`,
    and through `laterOps` (mutation, marking, sweep — see above) object 1 stays safe. -/
example : Safe ((((Arena.new 2).run (demo.take 12)).step (.resurrect (.weak 1))).1.run laterOps).ctx 1 := by
  have facts :
      let r := ((Arena.new 2).run (demo.take 12)).step (.resurrect (.weak 1))
      ((Arena.new 2).run (demo.take 12)).alive = true ∧ r.2 = "some" ∧ (r.1.run laterOps).alive = true ∧
      (r.1.run laterOps).ctx.steps = ['x', 'x', 'S', 'b', 'b', 'g', 'g', 'g'] ++ r.1.ctx.steps := by decide +kernel
  obtain ⟨hal, hout, hal', hsteps⟩ := facts
  exact (((resurrect_then_protected 2 (demo.take 12) 1 hal hout).1 laterOps hal' ⟨_, hsteps, by decide⟩).1 1
    (.temp 1 (by simp))).1

/-- Marking in three `mark_debt`-style increments (oracle-driven) with a reading callback in
    between, then inside `finalize`: `is_dead` is exact there. -/
def incrementalMarking : List Op := [
  .collect .markDebt .drop none (some [.wake, .markStep none]),
  .enter .mutate, .readRoot 0, .read 0 0, .leave,
  .collect .markDebt .drop none (some [.markStep none]),
  .collect .markDebt .finalize none (some [.markBreak]),
  .enter .finalize, .readRoot 0, .read 0 0 ]

example : isDead (sleeping.run incrementalMarking).ctx 1 := by
  have facts :
      let b := sleeping.run incrementalMarking
      (∀ op, op ∈ incrementalMarking → op.isObserver = true ∨ op.isMutator = false) ∧ b.alive = true ∧
      Arena.isMarked b.ctx = true ∧ b.ctx.heap.get 1 = some ⟨.whiteWeak, true, true, [none]⟩ ∧
      b.root = [some (.strong 0), none] ∧ b.ctx.heap.get 0 = some ⟨.black, true, true, [some (.weak 1)]⟩ := by
    decide +kernel
  obtain ⟨hops, hal, hm, h1, hroot, h0⟩ := facts
  exact (marked_exact_ops 2 (demo.take 7) incrementalMarking sleeping_facts.1 sleeping_facts.2.2.1 hops hal hm
    1 _ h1).mpr (fun hr => by cases only_root hroot h0 hr)

end GcArena.C07
