import GcArena.Generated.PacingConsts
/-!
# C09 / C10 (source tie of the model's constants)

`Pacing.default`, `Pacing.stopTheWorld` and `Metrics.new` of `Model/Metrics.lean` are written by
hand after `Pacing::DEFAULT`, `Pacing::STOP_THE_WORLD`, `impl Default for Pacing` and
`Metrics::new` / the `Default` derives behind it in src/metrics.rs, and the collector harness
never observes them (it always installs a dyadic pacing).  `GcArena/Generated/PacingConsts.lean` is
regenerated from the current source on every check run (`/verif/extract`, `src/pacing.rs`): the
field initialisers of both constants parsed from the decimal literals as **exact rationals**
(`0.05 ↦ 5/100`; the f64 rounding of those literals is not modelled, DESIGN §9), the constant the
`Default` impl returns, and the value `Metrics::new()` gives every field.  The translator fails
closed (a non-literal initialiser, a missing / unknown field, another body shape becomes an
`unclassified` entry and an absurd value).  The theorems below are the tie: the pacing theorems
of `Props/C09` and the metric theorems of `Props/C10` that mention these constants are about the
values the code really uses.
-/
namespace GcArena.C09s
open GcArena

/-- Everything the translator met in `Pacing` / `MetricsInner` / `Metrics::new` was classified. -/
theorem pacing_consts_classified : Generated.pacingUnclassified = [] := by decide

/-- `Pacing::DEFAULT` in the source is the model's `Pacing.default`, field by field. -/
theorem pacing_default_matches_source : Generated.pacingDefault = Pacing.default := by decide +kernel

/-- `Pacing::STOP_THE_WORLD` in the source is the model's `Pacing.stopTheWorld`. -/
theorem pacing_stw_matches_source : Generated.pacingStw = Pacing.stopTheWorld := by decide +kernel

/-- `impl Default for Pacing` returns `Self::DEFAULT`. -/
theorem default_impl_is_default :
    Generated.defaultImplConst = "DEFAULT" ∧ Generated.pacingOfDefaultImpl = Pacing.default := by
  decide +kernel

/-- `Metrics::new()` in the source, evaluated structurally (every numeric state cell, however the
cells are grouped into private structs): each starts at zero, and the one `Pacing` cell starts at
what `<Pacing as Default>::default()` returns — which is what the model's `Metrics.new` says: the
default pacing and zero in every counter. -/
theorem metrics_new_matches_source :
    Generated.metricsNewCells.all (fun c => c.2 = 0) = true ∧
    Generated.metricsNewPacings.map (·.2) = [Metrics.new.pacing] ∧
    Metrics.new = { pacing := Pacing.default, totalGcs := 0, wakeup := 0, artificial := 0, allocated := 0,
                    dropped := 0, freed := 0, marked := 0, traced := 0, remembered := 0, underflow := false } := by
  decide +kernel

/-- Lower bounds (a translator that silently drops rows cannot make the theorems above vacuous):
the model's nine numeric counters each have a source cell, and there is exactly one pacing cell.
(The seven pacing fields of the two constants need no bound: they are compared as records.) -/
theorem required_metrics_cells :
    Generated.metricsNewCells.length ≥ 9 ∧ Generated.metricsNewPacings.length = 1 := by decide

end GcArena.C09s
