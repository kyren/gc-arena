import GcArena.Model.Sys
import GcArena.Proofs.InvRun
/-!
# C20 — Arenas are independent of one another

In the model this is true by construction (each arena is a separate value; an operation names the
one it acts on) and the proofs are short inductions — stated as such.  The assurance that the
*code* is like this comes from the ties: `C20s` (translator: no `static`, `thread_local!` or lazily
initialised global in `src/`; `Context::new` / `Metrics::new` read no globals) and the multi-arena
correspondence runs, in which the implementation's arenas — interleaved at operation granularity,
different pacing, one dropped while another is mid-cycle — are compared with this model run
component-wise: any shared state in the code makes the *other* arena's snapshot, drop log, count,
debt or phase diverge.
-/
namespace GcArena.C20

open GcArena

/-- Frame: an operation on arena `k` leaves every other arena bit-for-bit equal (heap, colours,
    queues, metrics, pacing, phase, root, log). -/
theorem frame (s : Sys) (k j : Nat) (op : Op) (hjk : j ≠ k) : (s.stepAt k op).1[j]? = s[j]? := by
  unfold Sys.stepAt
  split
  · rfl
  · simp [Ne.symm hjk]

/-- … and emits no event about another arena's objects (each arena carries its own log). -/
theorem frame_log (s : Sys) (k j : Nat) (op : Op) (hjk : j ≠ k) :
    ((s.stepAt k op).1[j]?).map (·.ctx.log) = (s[j]?).map (·.ctx.log) := by
  rw [frame s k j op hjk]

private theorem stepAt_self (s : Sys) (k : Nat) (op : Op) (a : Arena) (ha : s[k]? = some a) :
    (s.stepAt k op).1[k]? = some (a.step op).1 := by
  unfold Sys.stepAt
  simp only [ha]
  simp [(List.getElem?_eq_some_iff.mp ha).1]

/-- Projection: running an interleaved history and looking at arena `k` is the same as running
    only `k`'s operations on `k` alone — whatever is done to the others in between (including
    dropping one of them mid-cycle). -/
theorem projection (h : List (Nat × Op)) : ∀ (s : Sys) (k : Nat) (a : Arena), s[k]? = some a →
    (s.run h)[k]? = some (a.run (Sys.project k h)) := by
  induction h with
  | nil => intro s k a ha; simpa [Sys.run, Sys.project, Arena.run] using ha
  | cons p rest ih =>
    intro s k a ha
    obtain ⟨k', op⟩ := p
    show ((s.stepAt k' op).1.run rest)[k]? = _
    by_cases hk : k' = k
    · subst hk
      have hp : Sys.project k' ((k', op) :: rest) = op :: Sys.project k' rest := by simp [Sys.project]
      rw [hp]
      exact ih _ k' _ (stepAt_self s k' op a ha)
    · have hp : Sys.project k ((k', op) :: rest) = Sys.project k rest := by simp [Sys.project, hk]
      rw [hp]
      exact ih _ k a (by rw [frame s k' k op (Ne.symm hk)]; exact ha)

/-- Hence every per-arena guarantee (the invariant, and with it C01–C05) holds for each arena of
    a family regardless of what is done to the others. -/
theorem inv_per_arena (ns : List Nat) (h : List (Nat × Op)) (k n : Nat) (hk : ns[k]? = some n)
    (a : Arena) (ha : (Sys.run (ns.map Arena.new) h)[k]? = some a) (halive : a.alive = true) : Inv a := by
  have h0 : (ns.map Arena.new)[k]? = some (Arena.new n) := by simp [hk]
  have := projection h (ns.map Arena.new) k (Arena.new n) h0
  rw [this] at ha
  cases ha
  exact inv_run n _ halive

/-! ### Non-vacuity -/

example : ((Sys.run [Arena.new 1, Arena.new 2]
    [(0, .enter .mutate), (1, .collect .finishMarking .drop none (some [.wake, .markStep none, .markBreak])),
     (0, .alloc true [none]), (1, .dropArena), (0, .leave)])[1]?).map Arena.alive = some false := by decide +kernel

end GcArena.C20
