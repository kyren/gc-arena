import GcArena.Proofs.LogRun
/-!
# C05 — Weak pointers: upgrade is safe, never spuriously fails, never keeps values alive

`Ctx.upgrade` mirrors `Context::upgrade` (src/context.rs).  A weak pointer a client can present
is one it holds (`Ptr.weak t ∈ a.temps`: downgraded from a pointer it held, or read out of an
accessible object / the root).
-/
namespace GcArena.C05

open GcArena

/-- A successful upgrade yields a value that is allocated, undestructed and that the collection in
    progress will not destruct: the result can be used and stored like any other `Gc` (that it
    enters `temps`, so that C01 applies to it and to everything it is then stored in, is
    `upgraded_pointer_is_safe_run`). -/
theorem upgrade_sound {a : Arena} (h : Inv a) (t : Nat) (hw : Ptr.weak t ∈ a.temps)
    (hu : (a.ctx.upgrade t).2 = true) : Safe a.ctx t :=
  safe_of_upgrade (h.cinv.tempsOK _ hw) hu

/-- The verdict of `Context::upgrade` on an allocated target: it refuses a destructed value, and
    during the sweep a condemned (weakly marked) one. -/
private theorem upgrade_iff {c : Ctx} {t : Nat} {o : Obj} (ho : c.heap.get t = some o) :
    (c.upgrade t).2 = true ↔ o.live = true ∧ ¬ (c.phase = .sweep ∧ o.color = .whiteWeak) := by
  unfold Ctx.upgrade
  simp only [ho]
  cases o.live <;> by_cases hc : c.phase = .sweep ∧ o.color = .whiteWeak <;> simp [hc]

/-- Upgrade always succeeds for a target the client could also name strongly, in every phase. -/
theorem upgrade_complete {a : Arena} (h : Inv a) (t : Nat) (hacc : Accessible a t) :
    (a.ctx.upgrade t).2 = true := by
  obtain ⟨o, ho, hl, hb⟩ := h.safe_of_accessible hacc
  refine (upgrade_iff ho).mpr ⟨hl, fun ⟨hp, hc⟩ => ?_⟩
  -- a safe object is black while the sweep has not reached it (in `rest`) and white once it is in
  -- front of the cursor (in `pre`)
  by_cases hm : t ∈ a.ctx.rest
  · have := hb hp hm; rw [hc] at this; cases this
  · have hmem : t ∈ a.ctx.pre := (List.mem_append.mp ((h.cinv.memAll t).mpr ⟨o, ho⟩)).resolve_right hm
    have := h.cinv.preWhite hp t hmem o ho
    rw [hc] at this; cases this

/-- Upgrade fails only when the target has been destructed or the arena is Sweeping. -/
theorem upgrade_fails_only (c : Ctx) (t : Nat) (o : Obj) (ho : c.heap.get t = some o)
    (hu : (c.upgrade t).2 = false) : o.live = false ∨ c.phase = .sweep := by
  cases hl : o.live with
  | false => exact Or.inl rfl
  | true =>
    refine Or.inr (Decidable.byContradiction fun hp => ?_)
    have := (upgrade_iff ho).mpr ⟨hl, fun h => hp h.1⟩
    rw [hu] at this; cases this

/-- Every weak pointer the client can get hold of — held by the callback, by the root, or stored
    in an object it can name — refers to an allocated block in every phase, so `upgrade`,
    `is_dropped` and `is_dead` read a live header and never released memory. -/
theorem query_safe {a : Arena} (h : Inv a) (t : Nat)
    (hw : Ptr.weak t ∈ a.temps ∨ some (Ptr.weak t) ∈ a.root ∨
      ∃ i o, Accessible a i ∧ a.ctx.heap.get i = some o ∧ some (Ptr.weak t) ∈ o.slots) :
    ∃ o, a.ctx.heap.get t = some o := by
  have : WeakOK a.ctx t := by
    rcases hw with hw | hw | ⟨i, o, hacc, ho, hs⟩
    · exact h.cinv.tempsOK _ hw
    · exact h.cinv.rootOK _ hw
    · exact h.cinv.closed i o ho (h.safe_of_accessible hacc) _ hs
  obtain ⟨o, ho, _⟩ := this
  exact ⟨o, ho⟩

/-- … and no operation of any history, the `upgrade` / `is_dropped` queries among them, sets the
    model's fault flag (the statement of `C01.no_internal_fault`). -/
theorem queries_never_fault (n : Nat) (ops : List Op) (halive : ((Arena.new n).run ops).alive = true) :
    ((Arena.new n).run ops).ctx.err = none :=
  (inv_run n ops halive).cinv.noErr

/-- During a sweep, a target that is only weakly marked (what marks an object as condemned)
    refuses to upgrade. -/
theorem upgrade_condemned_fails (c : Ctx) (t : Nat) (o : Obj) (ho : c.heap.get t = some o)
    (hp : c.phase = .sweep) (hc : o.color = .whiteWeak) : (c.upgrade t).2 = false := by
  cases hu : (c.upgrade t).2 with
  | false => rfl
  | true => exact absurd ⟨hp, hc⟩ ((upgrade_iff ho).mp hu).2

/-- `is_dropped` reports exactly whether the target's destructor has run … -/
theorem is_dropped_exact (n : Nat) (ops : List Op) (i : Nat) (o : Obj)
    (ho : ((Arena.new n).run ops).ctx.heap.get i = some o) :
    o.live = false ↔ Event.dropped i ∈ ((Arena.new n).run ops).ctx.log :=
  ⟨(linv_run n ops).deadDropped i o ho, fun h => (linv_run n ops).droppedDead i h o ho⟩

/-- … and never reverts: once destructed, whatever happens later, any block still allocated under
    that id has its `live` flag clear. -/
theorem is_dropped_never_reverts (n : Nat) (ops later : List Op) (i : Nat)
    (h : Event.dropped i ∈ ((Arena.new n).run ops).ctx.log) (o : Obj)
    (ho : ((Arena.new n).run (ops ++ later)).ctx.heap.get i = some o) : o.live = false := by
  have hext : LogExtends ((Arena.new n).run ops).ctx ((Arena.new n).run (ops ++ later)).ctx := by
    rw [Arena.run_append]
    exact run_log_extends later _ (fun hal => inv_run n ops hal)
  obtain ⟨evs, he⟩ := hext
  exact (linv_run n (ops ++ later)).droppedDead i (by rw [he]; exact List.mem_append_right _ h) o ho

/-! ### The `upgrade` operation itself, over whole histories -/

private theorem stepBody_upgrade (b : Arena) (fin : Bool) (w : Nat) (hn : b.cb.isNone = false)
    (hw : b.holds (.weak w) = true) :
    (b.stepBody fin (.upgrade w)) =
      (if (b.ctx.upgrade w).2 then (({ b with ctx := (b.ctx.upgrade w).1 } : Arena).push (.strong w), "some")
       else (({ b with ctx := (b.ctx.upgrade w).1 } : Arena), "none")) := by
  simp only [Arena.stepBody, hn, hw, Bool.not_true, Bool.or_self, Bool.false_eq_true, if_false]

/-- What the `upgrade` *operation* answers in a reachable state, when a callback is running and
    holds the weak pointer: exactly the verdict of `Ctx.upgrade`. -/
theorem upgrade_op_answer {a : Arena} (h : Inv a) (w : Nat) (hcb : a.cb.isSome = true)
    (hw : a.holds (.weak w) = true) :
    (a.step (.upgrade w)).2 = (if (a.ctx.upgrade w).2 then "some" else "none") := by
  have hn : a.cb.isNone = false := by cases hc : a.cb <;> simp_all
  rw [step_eq h.alive, stepBody_upgrade { a with marked := false } _ w hn hw]
  split <;> rfl

/-- **Never spuriously fails, at the API level and over whole histories**: after any history, an
    `upgrade` call made by the running callback on a weak pointer it holds, whose target it could
    also name strongly (held, in the root, or reachable through strong edges), answers `Some` —
    in every phase, whatever the debt and the queues. -/
theorem upgrade_op_never_spuriously_fails_run (n : Nat) (ops : List Op) (w : Nat)
    (halive : ((Arena.new n).run ops).alive = true)
    (hcb : ((Arena.new n).run ops).cb.isSome = true)
    (hw : ((Arena.new n).run ops).holds (.weak w) = true)
    (hacc : Accessible ((Arena.new n).run ops) w) :
    (((Arena.new n).run ops).step (.upgrade w)).2 = "some" := by
  have h := inv_run n ops halive
  rw [upgrade_op_answer h w hcb hw, upgrade_complete h w hacc]; rfl

/-- **Fails only when destructed or Sweeping, at the API level**: if the call answers `None`, the
    target's block is still allocated (the query touched no released memory) and either its
    destructor has run (a `dropped` event is in the log) or the arena is in its sweep phase. -/
theorem upgrade_op_fails_only_run (n : Nat) (ops : List Op) (w : Nat)
    (halive : ((Arena.new n).run ops).alive = true)
    (hcb : ((Arena.new n).run ops).cb.isSome = true)
    (hw : ((Arena.new n).run ops).holds (.weak w) = true)
    (hnone : (((Arena.new n).run ops).step (.upgrade w)).2 = "none") :
    ∃ o, ((Arena.new n).run ops).ctx.heap.get w = some o ∧
      (Event.dropped w ∈ ((Arena.new n).run ops).ctx.log ∨
        ((Arena.new n).run ops).ctx.phase = .sweep) := by
  have h := inv_run n ops halive
  have hmem : Ptr.weak w ∈ ((Arena.new n).run ops).temps := by
    simpa [Arena.holds] using hw
  obtain ⟨o, ho⟩ := query_safe h w (Or.inl hmem)
  refine ⟨o, ho, ?_⟩
  rw [upgrade_op_answer h w hcb hw] at hnone
  have hu : (((Arena.new n).run ops).ctx.upgrade w).2 = false := by
    cases hx : (((Arena.new n).run ops).ctx.upgrade w).2 with
    | false => rfl
    | true => rw [hx] at hnone; simp at hnone
  rcases upgrade_fails_only _ w o ho hu with hl | hp
  · exact Or.inl ((is_dropped_exact n ops w o ho).mp hl)
  · exact Or.inr hp

/-- **The result may be used and stored like any other `Gc`**: after a call that answered `Some`
    the callback holds the strong pointer, and its target is `Safe` — allocated, undestructed and
    not condemned by the sweep in progress; from here on `C01.safety` / `C03.held_until_callback_returns`
    apply to it like to any other held pointer. -/
theorem upgraded_pointer_is_safe_run (n : Nat) (ops : List Op) (w : Nat)
    (halive : ((Arena.new n).run ops).alive = true)
    (hcb : ((Arena.new n).run ops).cb.isSome = true)
    (hw : ((Arena.new n).run ops).holds (.weak w) = true)
    (hsome : (((Arena.new n).run ops).step (.upgrade w)).2 = "some") :
    Ptr.strong w ∈ (((Arena.new n).run ops).step (.upgrade w)).1.temps ∧
    Safe (((Arena.new n).run ops).step (.upgrade w)).1.ctx w := by
  have h := inv_run n ops halive
  have hn : ((Arena.new n).run ops).cb.isNone = false := by
    cases hc : ((Arena.new n).run ops).cb <;> simp_all
  have hu : (((Arena.new n).run ops).ctx.upgrade w).2 = true := by
    rw [upgrade_op_answer h w hcb hw] at hsome
    cases hx : (((Arena.new n).run ops).ctx.upgrade w).2 with
    | true => rfl
    | false => rw [hx] at hsome; simp at hsome
  have h' := inv_step h (.upgrade w) (step_mutator_alive h.alive _ rfl)
  have hmem : Ptr.strong w ∈ (((Arena.new n).run ops).step (.upgrade w)).1.temps := by
    rw [step_eq h.alive, stepBody_upgrade { (Arena.new n).run ops with marked := false } _ w hn hw, hu]
    exact (Arena.mem_push _ _).mpr (.inl rfl)
  exact ⟨hmem, h'.cinv.tempsOK _ hmem⟩

/-! "A weak pointer never keeps its target alive" is `C02.exactness` (proved: reachability there is
    strong reachability only, so a target held only weakly is destructed by two `finish_cycle`
    calls) together with `C02.shells` / `C02.shell_release` for its shell. -/

/-! ### Non-vacuity -/

/-- root holds weak → 0 and strong → 1; object 0 otherwise unreferenced.  After a full mark and the
    start of the sweep, 0 is condemned (white-weak): upgrade fails while `is_dropped` is still false. -/
def demo : List Op := [
  .enter .mutateRoot, .alloc true [none], .alloc true [none], .downgrade 0,
  .rootStore 0 (some (.weak 0)), .rootStore 1 (some (.strong 1)), .leave,
  .collect .finishMarking .sweep none (some [.wake, .markStep none, .markStep none, .markBreak, .toSweep]),
  .enter .mutate, .readRoot 0, .upgrade 0, .isDropped 0 ]

private theorem demo_facts :
    ((Arena.new 2).run demo).alive = true ∧ ((Arena.new 2).run demo).ctx.phase = .sweep ∧
    (((Arena.new 2).run demo).ctx.upgrade 0).2 = false ∧ (((Arena.new 2).run demo).ctx.upgrade 1).2 = true ∧
    Ptr.weak 0 ∈ ((Arena.new 2).run demo).temps ∧ ((Arena.new 2).run demo).cb.isSome = true ∧
    ((Arena.new 2).run demo).holds (.weak 0) = true ∧
    (((Arena.new 2).run demo).step (.upgrade 0)).2 = "none" := by decide +kernel

example : ((Arena.new 2).run demo).alive = true := demo_facts.1
example : ((Arena.new 2).run demo).ctx.phase = .sweep := demo_facts.2.1
example : (((Arena.new 2).run demo).ctx.upgrade 0).2 = false := demo_facts.2.2.1
example : (((Arena.new 2).run demo).ctx.upgrade 1).2 = true := demo_facts.2.2.2.1
example : Ptr.weak 0 ∈ ((Arena.new 2).run demo).temps := demo_facts.2.2.2.2.1

/-- The API-level theorems are not vacuous: in the demo state a callback is running and holds the
    weak pointer; the call answers `None` in the sweep phase (the premises of
    `upgrade_op_fails_only_run`). -/
example : ((Arena.new 2).run demo).cb.isSome = true := demo_facts.2.2.2.2.2.1
example : ((Arena.new 2).run demo).holds (.weak 0) = true := demo_facts.2.2.2.2.2.2.1
example : (((Arena.new 2).run demo).step (.upgrade 0)).2 = "none" := demo_facts.2.2.2.2.2.2.2

/-- `some` branch: a weak pointer to the strongly held object 1, upgraded during the sweep. -/
example : (((Arena.new 2).run (demo ++ [.readRoot 1, .downgrade 1])).step (.upgrade 1)).2 = "some" := by
  decide +kernel

end GcArena.C05
