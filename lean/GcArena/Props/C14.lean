import GcArena.Proofs.DynRootsLemmas
/-!
# C14 — DynamicRootSet keeps stashed objects alive exactly while a handle exists

"An object stashed in a DynamicRootSet that is reachable from the root, and everything reachable
from it, survives every collection while at least one DynamicRoot handle for it (the original or any
clone) exists, and becomes collectable once the last such handle is dropped. fetch returns a pointer
to the very object that was stashed, a handle is accepted only by the set that issued it (try_fetch
fails, contains is false and fetch panics for a handle from another set, another arena or a
destroyed arena), slot reuse never changes what a live handle resolves to, and handles may outlive
their arena harmlessly."

The theorems below are about the literal model `GcArena.Model.DynRoots` of `src/dynamic_roots.rs`
(slot table with per-slot reference count and free list, handles, several sets, destroyed sets) and
hold after **every history** of `newSet / stash / clone / dropHandle / fetch / tryFetch / contains /
destroySet` calls — any interleaving, any number of sets, with slot reuse after frees
(`GcArena.DynRoots.inv_run`, induction over the operation list).

Division of labour.  The *set object* is an ordinary heap object of the collector model: its traced
slots are the occupied entries (`Slots.traced`), and `stash` is `backward_barrier(set, Some(root))`
followed by the slot store (`Op.barrier (.bb set (some root))`, `Op.store .raw …` of
Model/Arena.lean).  That is the same for every payload: barrier and slot store are unconditional in
the payload's `Collect::NEEDS_TRACE` — a leaf (`NEEDS_TRACE == false`: `Gc<i32>`, `Gc<Rc<_>>`,
`Gc<Static<_>>`, a zero-sized type) needs no *tracing* but still has to be *marked*, and only the
re-trace of the (black) set object marks it.  The correspondence harness therefore stashes node and
leaf payloads alike (ops `stashleaf` / `stashfin`).  By `traced` the set object reports exactly the pointers of the live handles, so
"survives while a handle exists / collectable afterwards" is C01 + C06 + C02 of the collector
development (`GcArena.inv_run`) applied to that object.  What is proved *here* is the part the
collector model takes for granted: the table really contains `h.ptr` for every live handle `h`,
nothing else, and none of its internal panics can fire.

Trusted (DESIGN §9): `Weak::as_ptr` of a dropped `Rc` never equals `Rc::as_ptr` of a live one —
modelled as set ids that are never reused; `usize` reference counts do not overflow.
The model is tied to the code by the correspondence check `lib/eng_dynroots.py`
(`harness_dynroots` drives the real crate, `dynmodel` runs these very definitions).
-/
namespace GcArena.C14

open GcArena.DynRoots

/-- After every history: for every live handle `h` whose set is alive, slot `h.index` of that set
is `Occupied { root = h.ptr, ref_count }` with `ref_count + 1` = the number of live handles with
that set and index; and two live handles have the same (set, index) pair **iff** they stem from
the same `stash` call — slot reuse never retargets a live handle. -/
theorem refine (ops : List Op) (st : State) (hst : st = run State.init ops) :
    (∀ h ∈ st.handles, ∀ rs, st.liveSet h.set = some rs →
      ∃ c, rs.slots.slots[h.index]? = some (.occupied h.ptr c) ∧
        c + 1 = (st.handles.filter
                  (fun h' => decide (h'.set = h.set ∧ h'.index = h.index))).length) ∧
    (∀ h1 ∈ st.handles, ∀ h2 ∈ st.handles,
      (h1.set = h2.set ∧ h1.index = h2.index) ↔ h1.stash = h2.stash) := by
  subst hst
  have inv := inv_run ops
  constructor
  · intro h hm rs hl
    obtain ⟨c, hv⟩ := (inv.live hl).occ h hm rfl
    rw [← List.countP_eq_length_filter]
    exact ⟨c, hv, ((inv.live hl).count _ _ _ hv).symm⟩
  · intro h1 hm1 h2 hm2
    constructor
    · rintro ⟨hs, hi⟩; exact inv.same h1 hm1 h2 hm2 hs hi
    · intro he
      cases inv.uniq h1 hm1 h2 hm2 he
      exact ⟨rfl, rfl⟩

/-- What the ghost stash id means, part 1: `stash` returns a handle for the given set and pointer
whose stash id differs from that of every live handle, and adds exactly that handle. -/
theorem stash_returns (ops : List Op) (st st' : State) (hst : st = run State.init ops)
    (s p : Nat) (h : Handle) (hs : step st (.stash s p) = .ok st' (.handle h)) :
    h.set = s ∧ h.ptr = p ∧ (∀ h' ∈ st.handles, h'.stash ≠ h.stash) ∧
      st'.handles = h :: st.handles := by
  subst hst
  cases Step.of_eq hs with
  | stash hl ha => exact ⟨rfl, rfl, fun h' hm => Nat.ne_of_lt ((inv_run ops).hstash h' hm), rfl⟩

/-- What the ghost stash id means, part 2: a clone is the same handle value (same set, index,
pointer and stash id), and one more copy of it is live. -/
theorem clone_returns (st st' : State) (h h2 : Handle)
    (hs : step st (.clone h) = .ok st' (.handle h2)) :
    h2 = h ∧ st'.handles = h :: st.handles := by
  cases Step.of_eq hs <;> exact ⟨rfl, rfl⟩

/-- After every history, in every alive set: following `next_free` from the head visits a
duplicate-free (hence acyclic, `NULL_INDEX`-terminated) list of indices, and an index is on it iff
its slot is `Vacant`. -/
theorem free_list (ops : List Op) (st : State) (hst : st = run State.init ops)
    (s : Nat) (rs : RootSet) (hl : st.liveSet s = some rs) :
    ∃ l, Chain rs.slots.slots rs.slots.nextFree l ∧ l.Nodup ∧
      ∀ i, i ∈ l ↔ ∃ nx, rs.slots.slots[i]? = some (.vacant nx) := by
  subst hst
  exact ((inv_run ops).live hl).free

/-- After every history, a call can panic in exactly two ways: the documented `fetch` of a
foreign handle, and `Vec::push` when `usize::MAX` slots exist — which needs at least `usize::MAX`
`stash` calls in the history.  In particular none of the `panic!`s of `Slots::add` / `inc` / `dec`
(nor their bounds checks) is reachable. -/
theorem no_panic (ops : List Op) (op : Op) (f : Fault)
    (hp : step (run State.init ops) op = .panic f) :
    (f = .mismatchedRootSet ∧ ∃ s h, op = .fetch s h ∧ h.set ≠ s) ∨
    (f = .capacityOverflow ∧ (∃ s p, op = .stash s p) ∧ nullIndex ≤ stashCount ops) := by
  have inv := inv_run ops
  cases Step.of_eq hp with
  | stashPanic hl ha =>
    -- a full table has `usize::MAX` slots, and every slot was made by a `stash`
    obtain ⟨rfl, hcap⟩ := (inv.live hl).add_error ha
    have := inv.cap _ _ (liveSet_eq_some.1 hl).1
    have : (run State.init ops).nextStash ≤ 0 + stashCount ops := nextStash_run_le State.init ops
    exact .inr ⟨rfl, ⟨_, _, rfl⟩, by omega⟩
  | clonePanic hm hl hi =>
    obtain ⟨sl, hi', _⟩ := (inv.live hl).inc hm rfl
    rw [hi] at hi'; cases hi'
  | dropPanic hm hl hi =>
    obtain ⟨sl, hi', _⟩ := (inv.live hl).dec hm rfl
    rw [hi] at hi'; cases hi'
  | fetchPanic _ _ hne => exact .inl ⟨rfl, _, _, rfl, hne⟩

/-- The three internal panics, spelled out. -/
theorem no_internal_panic (ops : List Op) (op : Op) :
    step (run State.init ops) op ≠ .panic .freeListCorrupted ∧
    step (run State.init ops) op ≠ .panic .improperlyFreed ∧
    step (run State.init ops) op ≠ .panic .indexOutOfBounds := by
  refine ⟨?_, ?_, ?_⟩ <;> intro hp <;>
    rcases no_panic ops op _ hp with ⟨h, _⟩ | ⟨h, _⟩ <;> cases h

/-- The same at the level of `Slots`: on the table of an alive set, `add` can only fail for lack
of indices, and `inc` / `dec` on the slot of any live handle succeed. -/
theorem no_panic_slots (ops : List Op) (st : State) (hst : st = run State.init ops)
    (s : Nat) (rs : RootSet) (hl : st.liveSet s = some rs) :
    (∀ p f, rs.slots.add p = .error f → f = .capacityOverflow) ∧
    (∀ h ∈ st.handles, h.set = s →
      (∃ sl, rs.slots.inc h.index = .ok sl) ∧ (∃ sl, rs.slots.dec h.index = .ok sl)) := by
  subst hst
  have ok := (inv_run ops).live hl
  refine ⟨fun p f he => (ok.add_error he).1, fun h hm hs => ?_⟩
  obtain ⟨sl, hi, _⟩ := ok.inc hm hs
  obtain ⟨sl', hd, _⟩ := ok.dec hm hs
  exact ⟨⟨sl, hi⟩, ⟨sl', hd⟩⟩

/-- After every history, for every alive set `s`: slot `i` is occupied by `r` iff some live handle
of `s` has index `i` and pointer `r` (with `refine`: occupied slots ↔ live stashes of `s`, one to
one); hence the pointers the set object's `trace` reports are exactly the pointers of the live
handles of `s`. -/
theorem traced (ops : List Op) (st : State) (hst : st = run State.init ops)
    (s : Nat) (rs : RootSet) (hl : st.liveSet s = some rs) :
    (∀ i r, (∃ c, rs.slots.slots[i]? = some (.occupied r c)) ↔
      ∃ h ∈ st.handles, h.set = s ∧ h.index = i ∧ h.ptr = r) ∧
    (∀ p, p ∈ rs.slots.traced ↔ ∃ h ∈ st.handles, h.set = s ∧ h.ptr = p) := by
  subst hst
  have ok := (inv_run ops).live hl
  refine ⟨fun i r => ok.occupied_iff, fun p => ?_⟩
  rw [Slots.mem_traced]
  constructor
  · rintro ⟨i, c, hi⟩
    obtain ⟨h, hm, hs, _, hp⟩ := ok.occupied_iff.1 ⟨c, hi⟩
    exact ⟨h, hm, hs, hp⟩
  · rintro ⟨h, hm, hs, rfl⟩
    obtain ⟨c, hv⟩ := ok.occ h hm hs
    exact ⟨_, c, hv⟩

/-- The multiset reading of `traced`: the list the set object's `trace` reports is, element by
element, the list of pointers of a family `reps` of live handles of `s` that contains exactly one
handle per live stash of `s` (one per occupied slot).  So a pointer is reported once per live stash
of it — not once per clone, and never for a stash whose handles are all gone. -/
theorem traced_multiset (ops : List Op) (st : State) (hst : st = run State.init ops)
    (s : Nat) (rs : RootSet) (hl : st.liveSet s = some rs) :
    ∃ reps : List Handle,
      (∀ r ∈ reps, r ∈ st.handles ∧ r.set = s) ∧
      (reps.map (·.index)).Nodup ∧ (reps.map (·.stash)).Nodup ∧
      (∀ h ∈ st.handles, h.set = s → ∃ r ∈ reps, r.stash = h.stash) ∧
      rs.slots.traced = reps.map (·.ptr) := by
  subst hst
  have inv := inv_run ops
  have ok := inv.live hl
  obtain ⟨reps, hmem, hnd, hall, htr⟩ := exists_reps rs.slots.slots 0 fun j r c hj => by
    rw [Nat.zero_add]; exact ok.occupied_iff.1 ⟨c, hj⟩
  refine ⟨reps, fun r hr => ⟨(hmem r hr).1, (hmem r hr).2.1⟩, hnd, ?_, fun h hm hs => ?_, htr⟩
  · -- representatives with one stash id are one handle, so they have one index
    rw [List.Nodup, List.pairwise_map] at hnd ⊢
    exact hnd.imp_of_mem fun hx hy hne he =>
      hne (congrArg _ (inv.uniq _ (hmem _ hx).1 _ (hmem _ hy).1 he))
  · obtain ⟨c, hv⟩ := ok.occ h hm hs
    obtain ⟨x, hx, hi⟩ := hall h.index h.ptr c hv
    exact ⟨x, hx, inv.same x (hmem x hx).1 h hm ((hmem x hx).2.1.trans hs.symm) (by omega)⟩

/-- A stashed object is traced while a handle exists … -/
theorem traced_while_handle (ops : List Op) (st : State) (hst : st = run State.init ops)
    (h : Handle) (hm : h ∈ st.handles) (rs : RootSet) (hl : st.liveSet h.set = some rs) :
    h.ptr ∈ rs.slots.traced :=
  ((traced ops st hst h.set rs hl).2 h.ptr).2 ⟨h, hm, rfl, rfl⟩

/-- … and no longer once the last handle for it is gone. -/
theorem untraced_after_last_drop (ops : List Op) (st : State) (hst : st = run State.init ops)
    (s p : Nat) (rs : RootSet) (hl : st.liveSet s = some rs)
    (hnone : ∀ h ∈ st.handles, h.set = s → h.ptr ≠ p) : p ∉ rs.slots.traced := by
  intro hmem
  obtain ⟨h, hm, hs, hp⟩ := ((traced ops st hst s rs hl).2 p).1 hmem
  exact hnone h hm hs hp

/-- After every history, for a live handle `h` and an alive set `s`: if `s` issued `h` then
`fetch`, `try_fetch` return `h.ptr` — the pointer given to `stash` — `contains` is true, and that
pointer is in slot `h.index` of `s` (so it is traced by `s`); otherwise `fetch` panics with
"mismatched root set", `try_fetch` fails and `contains` is false.  None of them changes the
state. -/
theorem fetch_identity (ops : List Op) (st : State) (hst : st = run State.init ops)
    (s : Nat) (rs : RootSet) (h : Handle) (hl : st.liveSet s = some rs) (hm : h ∈ st.handles) :
    (h.set = s →
      step st (.fetch s h) = .ok st (.ptr h.ptr) ∧
      step st (.tryFetch s h) = .ok st (.ptr h.ptr) ∧
      step st (.contains s h) = .ok st (.bool true) ∧
      (∃ c, rs.slots.slots[h.index]? = some (.occupied h.ptr c)) ∧
      h.ptr ∈ rs.slots.traced) ∧
    (h.set ≠ s →
      step st (.fetch s h) = .panic .mismatchedRootSet ∧
      step st (.tryFetch s h) = .ok st .mismatch ∧
      step st (.contains s h) = .ok st (.bool false)) := by
  constructor
  · rintro rfl
    have hc : containsB h.set h = true := containsB_iff.2 rfl
    have ht := traced_while_handle ops st hst h hm rs hl
    subst hst
    exact ⟨by simp [step, hm, hl, hc], by simp [step, hm, hl, hc], by simp [step, hm, hl, hc],
      ((inv_run ops).live hl).occ h hm rfl, ht⟩
  · intro hne
    have hc : containsB s h = false := by simp [containsB, hne]
    exact ⟨by simp [step, hm, hl, hc], by simp [step, hm, hl, hc], by simp [step, hm, hl, hc]⟩

/-- A handle whose set has been destroyed (collected, or its arena dropped) is foreign to every
alive set: set ids are never reused. -/
theorem destroyed_is_foreign (st : State) (s : Nat) (rs : RootSet) (h : Handle)
    (hl : st.liveSet s = some rs) (hd : st.liveSet h.set = none) : h.set ≠ s := by
  intro he
  rw [he, hl] at hd
  cases hd

/-- Cloning or dropping a handle whose set is destroyed only adds / removes the handle: no table
is touched, nothing can panic. -/
theorem outlive (st : State) (h : Handle) (hm : h ∈ st.handles) (hd : st.liveSet h.set = none) :
    step st (.clone h) = .ok { st with handles := h :: st.handles } (.handle h) ∧
    step st (.dropHandle h) = .ok { st with handles := st.handles.erase h } .unit := by
  simp [step, hm, hd]

/-- A destroyed set stays destroyed, whatever happens afterwards. -/
theorem destroyed_forever (st : State) (s : Nat) (hex : s < st.sets.length)
    (hd : st.liveSet s = none) (ops : List Op) :
    (run st ops).liveSet s = none ∧ s < (run st ops).sets.length := by
  induction ops generalizing st with
  | nil => exact ⟨hd, hex⟩
  | cons op ops ih =>
    have key := next_keeps_dead st s hex hd op
    exact ih (next st op) key.2 key.1

section Examples

/- `demo` (Proofs/DynRootsLemmas.lean): two stashes, a clone, drop the first stash completely, stash
again: slot 0 is reused, the handle of the second stash still resolves to pointer 8. -/

example : (run State.init demo).sets =
    [⟨true, ⟨[.occupied 9 0, .occupied 8 0], nullIndex⟩⟩] := by rw [run_demo]

example : (run State.init demo).handles = [⟨0, 0, 9, 2⟩, ⟨0, 1, 8, 1⟩] := by rw [run_demo]

/-- just before the reuse, slot 0 is vacant and heads the free list -/
example : (run State.init (demo.take 6)).sets =
    [⟨true, ⟨[.vacant nullIndex, .occupied 8 0], 0⟩⟩] := by decide

/-- the hypotheses of `refine` / `traced` / `fetch_identity` are satisfiable: a live handle of an
alive set, with a clone (count 1 = two handles) -/
example : (run State.init (demo.take 4)).liveSet 0 =
    some ⟨true, ⟨[.occupied 7 1, .occupied 8 0], nullIndex⟩⟩ := by decide

example : step (run State.init demo) (.fetch 0 ⟨0, 1, 8, 1⟩) =
    .ok (run State.init demo) (.ptr 8) := by rw [run_demo]; decide

/-- a handle of another set is refused in the three ways -/
example : step (run State.init (demo ++ [.newSet])) (.fetch 1 ⟨0, 1, 8, 1⟩) =
    .panic .mismatchedRootSet := by rw [run_append, run_demo]; decide

example : step (run State.init (demo ++ [.newSet])) (.tryFetch 1 ⟨0, 1, 8, 1⟩) =
    .ok (run State.init (demo ++ [.newSet])) .mismatch := by rw [run_append, run_demo]; decide

example : step (run State.init (demo ++ [.newSet])) (.contains 1 ⟨0, 1, 8, 1⟩) =
    .ok (run State.init (demo ++ [.newSet])) (.bool false) := by
  rw [run_append, run_demo]; decide

/-- the hypotheses of `outlive` are satisfiable: a live handle of a destroyed set; cloning and
dropping it leaves the (dead) table alone -/
example : (run State.init (demo ++ [.destroySet 0])).liveSet 0 = none ∧
    (⟨0, 1, 8, 1⟩ : Handle) ∈ (run State.init (demo ++ [.destroySet 0])).handles := by
  rw [run_append, run_demo]; decide

example : (run State.init (demo ++ [.destroySet 0, .clone ⟨0, 1, 8, 1⟩,
      .dropHandle ⟨0, 1, 8, 1⟩, .dropHandle ⟨0, 1, 8, 1⟩])).handles = [⟨0, 0, 9, 2⟩] := by
  rw [run_append, run_demo]; decide

/-- an operation safe Rust cannot write (dropping a handle twice) is rejected by the model -/
example : step (run State.init demo) (.dropHandle ⟨0, 0, 7, 0⟩) = .illFormed := by
  rw [run_demo]; decide

end Examples

end GcArena.C14
