import GcArena.Proofs.Quiet
/-!
# C03 — Mutation xor collection: nothing is reclaimed while a callback runs

Every operation a callback can perform (`Op.isMutator`, Proofs/MutStep.lean: everything except the
collection methods and dropping the arena) emits no `dropped` / `freed` event and keeps every allocation allocated
with its liveness, whatever the phase, the outstanding debt and the queues are — the statements
have no hypothesis on them beyond reachability of the state.

The static half (callbacks cannot *reach* the collection methods: they need `&mut Arena` or a
`MarkedArena`) is `GcArena.C03s` over the call graph extracted from the source.
-/
namespace GcArena.C03

open GcArena

/-- One mutator operation is silent. -/
theorem mutator_silent {a : Arena} (h : Inv a) (op : Op) (hop : op.isMutator = true) :
    (a.step op).1.ctx.log = a.ctx.log ∧
    ∀ i o, a.ctx.heap.get i = some o →
      ∃ o', (a.step op).1.ctx.heap.get i = some o' ∧ o'.live = o.live := by
  have q := step_quiet h op hop
  exact ⟨q.log, q.keep⟩

/-- … in every reachable state: for every history `ops` and every mutator operation after it. -/
theorem mutator_silent_run (n : Nat) (ops : List Op) (op : Op) (hop : op.isMutator = true)
    (halive : ((Arena.new n).run ops).alive = true) :
    (((Arena.new n).run ops).step op).1.ctx.log = ((Arena.new n).run ops).ctx.log ∧
    ∀ i o, ((Arena.new n).run ops).ctx.heap.get i = some o →
      ∃ o', (((Arena.new n).run ops).step op).1.ctx.heap.get i = some o' ∧ o'.live = o.live :=
  mutator_silent (inv_run n ops halive) op hop

/-- Hence every pointer obtained during the callback (fresh allocations not yet linked anywhere,
    pointers read from the graph, successful upgrades) is valid for the rest of the callback:
    what the callback holds stays allocated and undestructed after any further mutator op. -/
theorem held_pointers_stay_valid {a : Arena} (h : Inv a) (op : Op) (hop : op.isMutator = true)
    (t : Nat) (ht : Ptr.strong t ∈ a.temps) :
    ∃ o', (a.step op).1.ctx.heap.get t = some o' ∧ o'.live = true := by
  obtain ⟨o, ho, hl, _⟩ := h.cinv.tempsOK _ ht
  obtain ⟨o', ho', hl'⟩ := (mutator_silent h op hop).2 t o ho
  exact ⟨o', ho', hl'.trans hl⟩

/-- Allocation only links and counts (`Context::link`): it touches the fresh cell, the head of
    the list and the metrics; log, phase, sweep list, queues and root flag are as before. -/
theorem link_pure (c : Ctx) (o : Obj) :
    (c.link o).1.log = c.log ∧ (c.link o).1.phase = c.phase ∧ (c.link o).1.rest = c.rest ∧
    (c.link o).1.gray = c.gray ∧ (c.link o).1.grayAgain = c.grayAgain ∧
    (c.link o).1.rootNeedsTrace = c.rootNeedsTrace ∧ (c.link o).1.pre = (c.link o).2 :: c.pre ∧
    (∀ j, j ≠ (c.link o).2 → (c.link o).1.heap.get j = c.heap.get j) := by
  refine ⟨rfl, rfl, rfl, rfl, rfl, rfl, rfl, fun j hj => ?_⟩
  rw [link_get]; exact if_neg hj

/-- Events therefore come only from collection calls and from dropping the arena. -/
theorem events_only_in_collect {a : Arena} (h : Inv a) (op : Op)
    (hne : (a.step op).1.ctx.log ≠ a.ctx.log) : op.isMutator = false := by
  cases hop : op.isMutator with
  | false => rfl
  | true => exact absurd (mutator_silent h op hop).1 hne

/-! ### Whole callback bodies, over whole histories -/

/-- No operation a callback can perform makes the arena go away. -/
theorem mutator_keeps_arena {a : Arena} (ha : a.alive = true) (op : Op) (hop : op.isMutator = true) :
    (a.step op).1.alive = true :=
  step_mutator_alive ha op hop

/-- **A whole callback body.**  Any sequence of mutator operations — of any length, entered in any
    reachable state (phase, debt, queues: no hypothesis on them) — emits no `dropped` / `freed`
    event, leaves the phase alone, keeps the arena, and keeps every allocation that exists when
    it begins allocated with its liveness. -/
theorem callback_body_silent (body : List Op) : ∀ {a : Arena}, Inv a →
    (∀ op, op ∈ body → op.isMutator = true) →
    Inv (a.run body) ∧ (a.run body).ctx.log = a.ctx.log ∧ (a.run body).ctx.phase = a.ctx.phase ∧
    ∀ i o, a.ctx.heap.get i = some o →
      ∃ o', (a.run body).ctx.heap.get i = some o' ∧ o'.live = o.live := by
  intro a h hm
  have ⟨hI, q⟩ := run_total (P := fun b => Inv b ∧ Quiet a.ctx b.ctx) (ok := fun op => op.isMutator = true)
    (fun hop hb p => ⟨inv_step hb _ (mutator_keeps_arena hb.alive _ hop), p.2.trans (step_quiet hb _ hop)⟩)
    body hm (fun _ => h) ⟨h, Quiet.refl _⟩
  exact ⟨hI, q.log, q.phase, q.keep⟩

/-- … for every history: a pointer the callback holds at *any point* of its body (`body₁` done,
    `body₂` still to come) — a fresh allocation, a pointer read from the graph, a successful
    upgrade — is allocated and undestructed when the body ends, and no event was emitted. -/
theorem held_until_callback_returns (n : Nat) (pre body₁ body₂ : List Op)
    (halive : ((Arena.new n).run (pre ++ body₁)).alive = true)
    (hm : ∀ op, op ∈ body₂ → op.isMutator = true) (t : Nat)
    (ht : Ptr.strong t ∈ ((Arena.new n).run (pre ++ body₁)).temps) :
    ((Arena.new n).run (pre ++ body₁ ++ body₂)).alive = true ∧
    ((Arena.new n).run (pre ++ body₁ ++ body₂)).ctx.log = ((Arena.new n).run (pre ++ body₁)).ctx.log ∧
    ∃ o', ((Arena.new n).run (pre ++ body₁ ++ body₂)).ctx.heap.get t = some o' ∧ o'.live = true := by
  have h := inv_run n (pre ++ body₁) halive
  obtain ⟨o, ho, hl, _⟩ := h.cinv.tempsOK _ ht
  rw [Arena.run_append _ (pre ++ body₁) body₂]
  obtain ⟨hI, hlog, _, hk⟩ := callback_body_silent body₂ h hm
  obtain ⟨o', ho', hl'⟩ := hk t o ho
  exact ⟨hI.alive, hlog, o', ho', hl'.trans hl⟩

/-! ### Non-vacuity -/

/-- A callback entered mid-sweep with a huge artificial debt pending: it allocates, reads and
    stores; the log does not move. -/
def demo : List Op := [
  .enter .mutateRoot, .alloc true [none, none], .rootStore 0 (some (.strong 0)),
  .alloc true [none, none], .leave, .adjustDebt 1000000,
  .collect .finishMarking .sweep none (some [.wake, .markStep none, .markStep none, .markBreak, .toSweep]),
  .enter .mutate, .readRoot 0, .alloc true [some (.strong 0), none], .store .write 0 1 (some (.strong 2)) ]

private theorem demo_facts :
    ((Arena.new 2).run demo).alive = true ∧ ((Arena.new 2).run demo).ctx.phase = .sweep ∧
    ((Arena.new 2).run demo).ctx.log = [] ∧ ((Arena.new 2).run demo).ctx.rest = [1, 0] ∧
    Ptr.strong 2 ∈ ((Arena.new 2).run demo).temps := by decide +kernel

example : ((Arena.new 2).run demo).alive = true := demo_facts.1
example : ((Arena.new 2).run demo).ctx.phase = .sweep := demo_facts.2.1
example : ((Arena.new 2).run demo).ctx.log = [] := demo_facts.2.2.1
example : ((Arena.new 2).run demo).ctx.rest = [1, 0] := demo_facts.2.2.2.1

/-- The premises of the whole-body theorems on the demo: its last four operations (`enter`,
    `readRoot`, `alloc`, `store`), a callback body entered mid-sweep, are mutator operations, and
    the fresh allocation `2` made inside it is held at its end. -/
example : ∀ op, op ∈ demo.drop (demo.length - 4) → op.isMutator = true := by decide
example : Ptr.strong 2 ∈ ((Arena.new 2).run demo).temps := demo_facts.2.2.2.2

end GcArena.C03
