import GcArena.Model.Conjure
import GcArena.Generated.SigTable
/-!
# C19 (static half) — the safe API never conjures a `Gc<T>`

Partial: the step from "the signature takes a `T`" to "the returned pointer refers to a `T` the
caller constructed" is parametricity of safe generic Rust code, which is trusted (DESIGN §9), and
`rustc` is asked directly by the conjuring probes.  The dynamic half (identity of conversions) is
`GcArena.Props.C19`.
-/
namespace GcArena.C19s
open GcArena.Conjure

/-- What `Table.ok` means: every safe signature in the table that returns a handle on a
caller-chosen parameter has an input supplying that parameter at least as strongly. -/
theorem ok_spec (t : Table) (h : t.ok = true) (s : Sig) (hs : s ∈ t.sigs) (hsafe : s.isUnsafe = false)
    (r : Req) (hr : r ∈ s.reqs) (rp : List PathElem) (hrp : rp ∈ r.retPaths)
    (hh : rp.any PathElem.isHandle = true) :
    (retStrength rp).toNat ≤ r.supply := by
  simp only [Table.ok, Bool.and_eq_true, List.all_eq_true] at h
  have h1 := h.2 s hs
  simp only [Sig.ok, hsafe, Bool.false_or, List.all_eq_true] at h1
  have h2 := h1 r hr
  simp only [Req.ok, List.all_eq_true] at h2
  have h3 := h2 rp hrp
  simpa [hh] using h3

/-- The current signature table: no safe public function or exported macro returns a `Gc<T>` /
`GcWeak<T>` / `DynamicRoot<R>` for a caller-chosen parameter without being given a value of it, a
pointer or handle to one, or a closure producing one. Fails on a tree where
`ZstCache::alloc_zst::<T>()` is a safe function (defect D3). -/
theorem no_conjure : Generated.sigTable.ok = true := by decide +kernel

/-- Lower bounds on the extracted table (a translator that silently drops rows cannot make
`no_conjure` vacuous): at least 25 signatures returning a handle, 15 of them safe. -/
theorem required_sig_rows :
    Generated.sigTable.sigs.length ≥ 25 ∧
    (Generated.sigTable.sigs.filter (fun s => !s.isUnsafe)).length ≥ 15 ∧
    Generated.sigTable.unclassified = [] := by decide +kernel

/-- The pinned tree's `pub fn alloc_zst<T: 'gc>(&self) -> Option<Gc<'gc, T>>` is rejected by the
check; making it `unsafe fn` (the repair) is accepted. -/
theorem pinned_conjure_witness :
    Sig.ok { name := "ZstCache::alloc_zst", isUnsafe := false, isMacro := false,
             reqs := [{ param := "T", retPaths := [[.option, .gc]], inPaths := [] }] } = false ∧
    Sig.ok { name := "ZstCache::alloc_zst", isUnsafe := true, isMacro := false,
             reqs := [{ param := "T", retPaths := [[.option, .gc]], inPaths := [] }] } = true := by
  decide +kernel

/-- Non-vacuity: the check accepts `Gc::new(mc, t: T) -> Gc<T>` and `new_slice(mc, &[E])`, and
rejects a builder that would finish without a value (`GcBuilder<T> -> Gc<T>`). -/
example :
    Req.ok { param := "T", retPaths := [[.gc]], inPaths := [[]] } = true ∧
    Req.ok { param := "E", retPaths := [[.gc, .slice]], inPaths := [[.ref, .slice]] } = true ∧
    Req.ok { param := "T", retPaths := [[.gc]], inPaths := [[.self_, .uninitBuilder]] } = false ∧
    Req.ok { param := "T", retPaths := [[.gc]], inPaths := [[.option]] } = false := by decide +kernel

/-! ## The clause, as far as the signature model can express it

"Every `Gc<T>` obtainable without `unsafe` refers to a `T` that the caller actually constructed."
The signature model can only say that a handle on a caller-chosen parameter never comes out of a
safe function that was not given a value of it, a pointer / handle to one, or a closure producing
one; that such a function then returns *that* value (and not one made up from nothing) is
parametricity of safe generic Rust code, which is trusted and not expressible here. -/
def nothing_conjured_statement : Prop :=
  ∀ s, s ∈ Generated.sigTable.sigs → s.isUnsafe = false →
    ∀ r, r ∈ s.reqs → ∀ rp, rp ∈ r.retPaths → rp.any PathElem.isHandle = true →
      (retStrength rp).toNat ≤ r.supply

theorem nothing_conjured : nothing_conjured_statement :=
  fun s hs hsafe r hr rp hrp hh => ok_spec _ no_conjure s hs hsafe r hr rp hrp hh

end GcArena.C19s
