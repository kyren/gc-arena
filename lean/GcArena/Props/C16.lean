import GcArena.Proofs.CollectLemmas
import GcArena.Generated.CollectTable
import GcArena.Proofs.MacroImplsLemmas
import GcArena.Generated.MacroImpls
/-!
# C16 — provided `Collect` impls are exact in every position

`exact` is proved once for every table whose entries are complete; `table_complete` checks the
table extracted from the current source tree (every impl, tuples 0–16 and the optional crates
included) by kernel evaluation.
-/
namespace GcArena.C16
open GcArena.CollectTy

/-- For every complete table, every type shape built from its entries (any nesting, any argument
in any position) and every well-typed value (any number of elements in any stored position):
`Trace::trace` reports exactly the contained pointers — each `Gc` as strong, each `GcWeak` as
weak, in order — and a type whose `NEEDS_TRACE` is `false` contains none. -/
theorem exact (t : Table) (hc : t.complete = true) (ty : Ty) (v : Val) (h : HasType t v ty) :
    traceProvided t ty v = ptrsOf v ∧ (needsTrace t ty = false → ptrsOf v = []) := by
  obtain ⟨hb, hn⟩ := core t hc ty v h
  refine ⟨?_, hn⟩
  unfold traceProvided
  split
  · exact hb
  · rename_i hnt
    exact (hn (by simpa using hnt)).symm

/-- `NEEDS_TRACE` is true whenever a stored, non-`'static` parameter's is. -/
theorem needs_trace_mono (t : Table) (hc : t.complete = true) (e : Nat) (en : Entry)
    (he : t.entry? e = some en) (args : Nat → Ty) (k : Nat) (hk : k ∈ en.held)
    (hns : en.isStaticAt k = false) (hn : needsTrace t (args k) = true) :
    needsTrace t (.app e args) = true := by
  obtain ⟨hent, _, _⟩ := Table.complete_unpack hc
  have hcomp := hent en (Table.entry_mem he)
  simp only [needsTrace, he, Bool.or_eq_true, List.any_eq_true]
  rcases Entry.complete_stored hcomp k hk with ⟨_, hd⟩ | hs
  · rcases hd with hd | hd
    · exact Or.inl hd
    · exact Or.inr ⟨k, by simpa using hd, hn⟩
  · rw [hns] at hs; cases hs

/-- **Nothing branded hides from the tracer.**  For every table satisfying `Table.untracedStatic`
— every type parameter of every impl that can occur in a field of the value is traced or bounded by
`'static` (a bare `'gc` bound does not count), the others are phantom-only, no lifetime of the self
type is free — and every well-typed container value: each component the impl's `trace` does *not*
visit has a `'static` type, hence contains no arena pointer (and, `'static` being the absence of any
brand, no `&'gc T` either).  So the "contained pointers" of `exact` are *all* the contained
pointers: there is no component outside the reach of the statement. -/
theorem no_hidden_brand (t : Table) (hu : t.untracedStatic = true) (e : Nat) (en : Entry)
    (he : t.entry? e = some en) (args : Nat → Ty) (len : Nat) (pos : Nat → Nat) (elem : Nat → Val)
    (h : HasType t (.node len pos elem) (.app e args)) (j : Nat) (hj : j < len)
    (hnt : en.traced.contains (pos j) = false) :
    isStatic t (args (pos j)) = true ∧ ptrsOf (elem j) = [] := by
  exact CollectTy.no_hidden_brand t hu e en he args len pos elem h j hj hnt

/-- The table extracted from the current source tree satisfies the rule (every provided impl,
feature-gated ones included). -/
theorem untraced_static_ok : Generated.collectTable.untracedStatic = true := by decide +kernel

open GcArena.CollectTy.Example in
/-- The delivered mutant `S: 'static` ↦ `S: 'gc` on `Collect for HashMap<K, V, S>`: the crate's
entry is accepted, the mutated one is rejected by `untracedStatic` (and by `complete`), and under it
a hasher state holding `Gc` number 5 is a well-typed value whose pointer the impl never reports. -/
theorem mutant_witness :
    hmCurrent.untracedStatic = true ∧ hmCurrent.complete = true ∧
    hmMutant.untracedStatic = false ∧ hmMutant.complete = false ∧
    HasType (mini hmMutant) hasherHolds brandedHasher ∧
    traceProvided (mini hmMutant) brandedHasher hasherHolds = [] ∧
    ptrsOf hasherHolds = [(5, true)] ∧
    ¬ HasType (mini hmCurrent) hasherHolds brandedHasher := by
  refine ⟨by decide +kernel, by decide +kernel, by decide +kernel, by decide +kernel, ?_,
    by decide +kernel, by decide +kernel, ?_⟩
  · -- no position of `hmMutant` is `'static`, so the `'static` bounds ask nothing
    exact ⟨hmMutant, rfl, ⟨fun k hk _ => (Bool.false_ne_true hk).elim,
      fun _ _ => ⟨(by decide : 2 ∈ hmMutant.held), (by decide : 2 < hmMutant.nparams), trivial⟩⟩⟩
  · -- the entry is `hmCurrent`, whose position 2 is `'static`; `Gc` is not
    rintro ⟨en, hen, hb, _⟩
    cases hen
    exact Bool.false_ne_true (hb 2 rfl (by decide))

/-- The table extracted from the current source tree is complete. -/
theorem table_complete : Generated.collectTable.complete = true := by decide +kernel

/-- Lower bounds on the extracted table (a translator that silently drops rows cannot make
`table_complete` / `untraced_static_ok` vacuous): at least 50 impls, 30 of which trace a parameter,
at least one crate-internal pointer-holding type, and both exported macros' arms. -/
theorem required_collect_rows :
    Generated.collectTable.entries.length ≥ 50 ∧
    (Generated.collectTable.entries.filter (fun e => !e.traced.isEmpty)).length ≥ 30 ∧
    (Generated.collectTable.entries.filter (fun e => !e.ptrFields.isEmpty)).length ≥ 1 ∧
    Generated.collectTable.unclassified = [] ∧ Generated.macroImpls.length ≥ 2 := by decide +kernel

/-- Hence the current impls are exact. -/
theorem current_exact (ty : Ty) (v : Val) (h : HasType Generated.collectTable v ty) :
    traceProvided Generated.collectTable ty v = ptrsOf v ∧
      (needsTrace Generated.collectTable ty = false → ptrsOf v = []) :=
  exact _ table_complete ty v h

/-! Non-vacuity, on one-entry tables: `HashMap<K, V, S>` as extracted, and a mutant without the key
disjunct. -/

open GcArena.CollectTy.Example in
/-- The extracted `HashMap` entry is complete and reports a pointer held only as a key … -/
example : (mini (hm [0, 1] [0, 1])).complete = true ∧
    traceProvided (mini (hm [0, 1] [0, 1])) keyOnly oneKey = [(5, true)] ∧
    traceProvided (mini (hm [0, 1] [0, 1])) weakVal oneWeak = [(9, false)] := by decide +kernel

open GcArena.CollectTy.Example in
/-- … while the mutant `NEEDS_TRACE = V::NEEDS_TRACE` is rejected by `complete`, and indeed loses
the key (the short-circuit skips the whole map): `exact`'s hypothesis is not redundant. -/
example : (mini (hm [1] [0, 1])).complete = false ∧
    traceProvided (mini (hm [1] [0, 1])) keyOnly oneKey = [] ∧ ptrsOf oneKey = [(5, true)] := by decide +kernel

/-! ## Impls generated for clients: `dyn_collect!` (and `static_collect!`)

The generic arms of the exported macros are instantiated only by clients; their expansion templates
are read from the raw source into `GcArena/Generated/MacroImpls.lean`.  A `dyn Trait<'gc, T>` object
usually owns pointers: its impl forwards `trace` to the value (`DynCollect::dyn_trace`) and must not
claim `NEEDS_TRACE = false`, or every provided container holding it (`Box`, `Rc`, `Vec<Box<…>>`, …)
computes its own constant from a wrong leaf and `Trace::trace` skips the whole sub-tree. -/

/-- Every arm of `dyn_collect!` in the current source forwards `trace` to the value and leaves
`NEEDS_TRACE` at its default (`true`); every arm of every exported impl-generating macro was found,
classified and satisfies the template rule ("impls that claim no tracing is needed exist only for
types that cannot contain arena pointers"). -/
theorem dyn_collect_templates_ok :
    Generated.macroImplsUnclassified = [] ∧
    (Generated.macroImpls.filter (fun t => t.macroName == "__dyn_collect")).length ≥ 1 ∧
    (Generated.macroImpls.filter (fun t => t.macroName == "__dyn_collect")).all
      (fun t => t.ok && t.trace == .forwardsDyn && t.needsTraceValue == some true) = true ∧
    Generated.macroImpls.all MacroImpls.Template.ok = true := by decide +kernel

/-- **Client instantiations are covered by `exact`.**  Extend the crate's impl table by the impls
clients obtain from any arms of the exported macros in the current source (`Template.toEntry`: any
number of declared parameters, the user-supplied type mentioning the brand or not; any number of
instantiations): the extended table is still complete, so for every type shape built from provided
impls **and** macro-generated ones, `Trace::trace` reports exactly the contained pointers, and a type
whose `NEEDS_TRACE` is `false` contains none. -/
theorem template_instances_exact (is : List (MacroImpls.Template × MacroImpls.Inst))
    (hmem : ∀ p, p ∈ is → p.1 ∈ Generated.macroImpls) (ty : Ty) (v : Val)
    (h : HasType (MacroImpls.withInstances Generated.collectTable is) v ty) :
    traceProvided (MacroImpls.withInstances Generated.collectTable is) ty v = ptrsOf v ∧
      (needsTrace (MacroImpls.withInstances Generated.collectTable is) ty = false → ptrsOf v = []) :=
  exact _ ((MacroImpls.withInstances_ok _ _ dyn_collect_templates_ok.2.2.2 is hmem).1 table_complete) ty v h

/-- Non-vacuity of `template_instances_exact` on the generated rows 0 (`static_collect!` generic arm)
and 2 (`dyn_collect!` generic arm): both instantiate to complete rows at a brand-mentioning type with
one parameter; the `dyn` row traces its parameter position, the `static` row demands `'static`. -/
example :
    (Generated.macroImpls[0]?.map (fun t => (t.toEntry { brandFree := false, nparams := 1 }).complete)) = some true ∧
    (Generated.macroImpls[2]?.map (fun t => (t.toEntry { brandFree := false, nparams := 1 }).traced)) = some [0] ∧
    (Generated.macroImpls[2]?.map (fun t => (t.toEntry { brandFree := false, nparams := 1 }).ptrFields)) = some ["'gc"] ∧
    (Generated.macroImpls[0]?.map (fun t => (t.toEntry { brandFree := false, nparams := 1 }).selfStatic)) = some true := by
  decide +kernel

/-- The `Example` rows of the mutant-witness theorems are the generated rows (so the witnesses are
about the crate's templates, not about hand-written look-alikes). -/
example : Generated.macroImpls[0]? = some MacroImpls.Example.staticCollectArm0 ∧
    Generated.macroImpls[2]? = some MacroImpls.Example.dynCollectArm0 := by decide +kernel

/-- *Definitional reading of the rule* (re-reads conjuncts of `Template.ok`; the
semantic statement is `template_instances_exact`).
What the rule buys: a generated impl that is usable at a generative brand for a type mentioning
the brand reports through the value's own `trace` and has `NEEDS_TRACE = true`. -/
theorem template_impl_traces (t : MacroImpls.Template) (h : t.ok = true) (i : MacroImpls.Inst)
    (hb : i.brandFree = false) (hg : t.brandGeneric i = true) :
    t.reportsNothing = false ∧ t.needsTraceValue = some true := by
  rcases MacroImpls.ok_sound t h i hb with h1 | h1
  · rw [hg] at h1; cases h1
  · exact h1

/-- The seeded change (`const NEEDS_TRACE: bool = false;` added to the generic arm of
`dyn_collect!`) is rejected by the rule, the crate's arm is accepted. -/
theorem dyn_collect_mutant_witness :
    MacroImpls.Example.dynCollectArm0.ok = true ∧
    MacroImpls.Example.dynCollectArm0Mutant.ok = false ∧
    MacroImpls.Example.dynCollectArm0Mutant.needsTraceValue = some false ∧
    (MacroImpls.Example.dynCollectArm0Mutant.toEntry { brandFree := false, nparams := 1 }).complete = false ∧
    (MacroImpls.Example.dynCollectArm0Mutant.toEntry { brandFree := false, nparams := 0 }).complete = false := by
  decide +kernel

/-! ## The clause, over the type-shape model

"Tracing a value through a provided impl reports every contained `Gc` as strong and every contained
`GcWeak` as weak, in every type-parameter and element position; `NEEDS_TRACE` is false only for
types that cannot contain arena pointers" — rendered over `Model/CollectTy.lean` for the **current**
crate.  Not contained in this rendering: that the std / third-party iterators visit every element
and `Shape.stored` (trusted), the translator's reading of the `trace` bodies (validated by the
recording-tracer harness of `lib/eng_collect.py`), and client instantiations of the exported macros
beyond the template rule (`dyn_collect_templates_ok`). -/
def provided_impls_exact_statement : Prop :=
  ∀ (ty : Ty) (v : Val), HasType Generated.collectTable v ty →
    traceProvided Generated.collectTable ty v = ptrsOf v ∧
      (needsTrace Generated.collectTable ty = false → ptrsOf v = [])

theorem provided_impls_exact : provided_impls_exact_statement := current_exact

end GcArena.C16
