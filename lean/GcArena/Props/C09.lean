import GcArena.Proofs.Debt
import GcArena.Proofs.Sleep
import GcArena.Proofs.CycleRun
import GcArena.Proofs.NotParked
import GcArena.Proofs.LegacyLemmas
/-!
# C09 — Pacing: debt-driven calls pay their debt, cycles complete, sleep is honoured

Exact rational arithmetic (`Rat`); f64 rounding is modelled, not verified (DESIGN §9).

Helper lemmas of this file are `private` (they are not property obligations).  The statements use
`RhoPacing` (Proofs/Pacing.lean), `Acc` (Proofs/Accounting.lean), `Op.keepsCycle`
(Proofs/CycleRun.lean), `Op.selfDriven` (Proofs/NotParked.lean) and `Op.isSleepy` (Proofs/Sleep.lean).
-/
namespace GcArena.C09

open GcArena

/-- `collect_debt` returns with zero allocation debt — from every phase, for every pacing, every
    amount of real or artificial debt and every heap (whenever it returns normally, i.e. no
    `trace` call unwound). -/
theorem collect_debt_zero (c : Ctx) (root : List Slot) (fault : TraceFault) (c' : Ctx)
    (hinv : CInv c root []) (h : c.doCollection root .payDebt .full fault = (c', .returned)) :
    c'.metrics.allocationDebt = 0 :=
  doCollection_collectDebt_zero h ((doCollection_reaches_eq hinv h).inv hinv).notDrop

/-- `cycle_debt` returns with zero allocation debt or at its stopping phase (Sleeping, the cycle
    finished). -/
theorem cycle_debt_zero_or_asleep (c : Ctx) (root : List Slot) (fault : TraceFault) (c' : Ctx)
    (hinv : CInv c root []) (h : c.doCollection root .payDebt .finishCycle fault = (c', .returned)) :
    c'.metrics.allocationDebt = 0 ∨ c'.phase = .sleep := by
  by_cases hs : c'.phase = .sleep
  · exact Or.inr hs
  · -- the two `rfl`s: the call is debt-driven (`ru = .payDebt`) and returned (`ex = .returned`)
    exact Or.inl (debt_zero_of_not_hasDebt _ ((doCollection_cycle_frame hinv h hs).2 rfl rfl))

/-- `mark_debt` returns with zero allocation debt, or at its stopping phase (fully marked: it
    hands out the `MarkedArena`), or it was called while Sweeping, where it does nothing at all
    (`Stop::FullyMarked <= Stop::AtSweep`: the documented behaviour, C08.mark_from_sweeping). -/
theorem mark_debt_zero_or_marked (c : Ctx) (root : List Slot) (fault : TraceFault) (c' : Ctx)
    (hinv : CInv c root []) (h : c.doCollection root .payDebt .fullyMarked fault = (c', .returned)) :
    c'.metrics.allocationDebt = 0 ∨ Arena.isMarked c' = true ∨ (c.phase = .sweep ∧ c' = c) :=
  doCollection_markDebt hinv h

/-- The debt is never negative (shared with C10). -/
theorem debt_nonneg (m : Metrics) : 0 ≤ m.allocationDebt := GcArena.debt_nonneg m

private theorem doCollection_no_debt {c : Ctx} (h : c.metrics.hasDebt = false) (root : List Slot)
    (stop : Stop) (f : TraceFault) : c.doCollection root .payDebt stop f = (c, .returned) := by
  simp [Ctx.doCollection, h]

/-- An arena holding no allocations has no debt, hence every debt-driven call returns at once
    without a step — whatever phase it is in.  (On the pinned tree this was the mechanism behind
    defect D5: when a sweep released the last allocation, `collect_debt` / `cycle_debt` stopped one
    step before the `Sweep → Sleep` switch.) -/
theorem empty_arena_never_collects (c : Ctx) (root : List Slot) (stop : Stop) (f : TraceFault)
    (h : c.metrics.totalGcs = 0) : c.doCollection root .payDebt stop f = (c, .returned) :=
  doCollection_no_debt (Bool.eq_false_iff.mpr fun hd => hasDebt_total hd h) root stop f

private theorem run_cinv (n : Nat) (ops : List Op) (halive : ((Arena.new n).run ops).alive = true)
    (hcb : ((Arena.new n).run ops).cb = none) :
    CInv ((Arena.new n).run ops).ctx ((Arena.new n).run ops).root [] := by
  have hi := inv_run n ops halive
  have := hi.cinv; rw [hi.cbTemps hcb] at this; exact this

/-- Full statement of the stop-the-world clause as the property gives it.  On the pinned tree it
    was **false** in one corner (defect D5: a debt-driven call whose sweep released the arena's
    last allocation returned Sweeping, one step before the `Sweep → Sleep` switch, because an
    empty arena reports zero debt; replay corpus/C09-stw-empty-arena.ops).  After the repair — the
    loop never stops on the debt test in `Sweep` with nothing left to sweep, `Ctx.debtBreak` — it
    holds: `stop_the_world`. -/
def stop_the_world_statement : Prop :=
  ∀ (c : Ctx) (root : List Slot) (c' : Ctx), CInv c root [] →
    c.metrics.pacing.markFactor = 0 → c.metrics.pacing.traceFactor = 0 → c.metrics.pacing.keepFactor = 0 →
    c.metrics.pacing.dropFactor = 0 → c.metrics.pacing.freeFactor = 0 → 0 < c.metrics.allocationDebt →
    c.doCollection root .payDebt .full none = (c', .returned) → c'.phase = .sleep

/-- **Stop-the-world, `collect_debt`**: with all five work factors zero, a call made with positive
    debt does not return until the collector is Sleeping again. -/
theorem stop_the_world : stop_the_world_statement := by
  intro c root c' hinv h1 h2 h3 h4 h5 hd hr
  exact doCollection_stw (by decide) hinv ⟨h1, h2, h3, h4, h5⟩ hd hr

/-- The same for every fault position, and for `cycle_debt`. -/
theorem stop_the_world_any (c : Ctx) (root : List Slot) (fault : TraceFault) (c' : Ctx)
    (hinv : CInv c root []) (hz : ZeroWork c.metrics.pacing) (hd : 0 < c.metrics.allocationDebt) :
    (c.doCollection root .payDebt .full fault = (c', .returned) → c'.phase = .sleep) ∧
    (c.doCollection root .payDebt .finishCycle fault = (c', .returned) → c'.phase = .sleep) :=
  ⟨doCollection_stw (by decide) hinv hz hd, doCollection_stw (by decide) hinv hz hd⟩

/-- The debt test of the loop (`Ctx.debtBreak`) never fires in `Sweep` with nothing left to sweep,
    for any pacing: the last conjunct of its definition, the repair of defect D5.  What follows
    for the state in which a debt-driven call returns is `stop_the_world` and
    `selfdriven_nonempty` (Proofs/NotParked.lean). -/
theorem never_parked (c : Ctx) (ru : RunUntil) (h : c.debtBreak ru = true) :
    ¬ (c.phase = .sweep ∧ c.rest = []) := debtBreak_not_parked h

/-- One unreachable allocation under `Pacing::STOP_THE_WORLD`, fully marked, the sweep about to
    start: the state of the former corner. -/
def lastOne : List Op := [
  .setPacing Pacing.stopTheWorld,
  .enter .mutate, .alloc true [none], .leave,
  .collect .finishMarking .sweep none (some [.wake, .markStep none, .markBreak, .toSweep]) ]

private theorem lastOne_facts {a : Arena} (h : a = (Arena.new 1).run lastOne) :
    a.alive = true ∧ a.cb = none ∧ a.ctx.metrics.pacing = Pacing.stopTheWorld ∧
    0 < a.ctx.metrics.allocationDebt ∧ a.ctx.phase = .sweep ∧ a.ctx.rest ≠ [] ∧
    a.ctx.sweepOne.1.phase = .sweep ∧ a.ctx.sweepOne.1.rest = [] ∧
    a.ctx.sweepOne.1.metrics.totalGcs = 0 := by
  subst h; decide +kernel

private theorem lastOne_hyps :
    CInv ((Arena.new 1).run lastOne).ctx ((Arena.new 1).run lastOne).root [] ∧
    ZeroWork ((Arena.new 1).run lastOne).ctx.metrics.pacing ∧
    0 < ((Arena.new 1).run lastOne).ctx.metrics.allocationDebt := by
  obtain ⟨hal, hcb, hp, hd, _⟩ := lastOne_facts rfl
  exact ⟨run_cinv 1 lastOne hal hcb, hp ▸ ⟨rfl, rfl, rfl, rfl, rfl⟩, hd⟩

/-- Non-vacuity: `lastOne` satisfies every hypothesis of `stop_the_world` (zero work factors,
    positive debt, invariant). -/
example : CInv ((Arena.new 1).run lastOne).ctx ((Arena.new 1).run lastOne).root [] ∧
    ZeroWork ((Arena.new 1).run lastOne).ctx.metrics.pacing ∧
    0 < ((Arena.new 1).run lastOne).ctx.metrics.allocationDebt :=
  lastOne_hyps

/-- **Witness of the repaired defect D5**, by name.  On `lastOne` every hypothesis of the
    stop-the-world clause holds (invariant, all work factors zero, positive debt), and
    * over the **pre-repair** loop (`Ctx.doCollectionLegacy`, Model/Legacy.lean: the debt test
      without "not parked in `Sweep`") `collect_debt` sweeps the only allocation away and returns
      **Sweeping** with nothing left to sweep and an empty arena — so the clause is false of the
      pre-repair loop;
    * over the repaired loop it returns Sleeping (`stop_the_world`).
    A regression of the repair makes the implementation agree with the first half again. -/
theorem pinned_stw_witness :
    (CInv ((Arena.new 1).run lastOne).ctx ((Arena.new 1).run lastOne).root [] ∧
      ZeroWork ((Arena.new 1).run lastOne).ctx.metrics.pacing ∧
      0 < ((Arena.new 1).run lastOne).ctx.metrics.allocationDebt) ∧
    (∃ c', ((Arena.new 1).run lastOne).ctx.doCollectionLegacy ((Arena.new 1).run lastOne).root
              .payDebt .full none = (c', .returned) ∧
            c'.phase = .sweep ∧ c'.rest = [] ∧ c'.metrics.totalGcs = 0) ∧
    ¬ (∀ (c : Ctx) (root : List Slot) (c' : Ctx), CInv c root [] → ZeroWork c.metrics.pacing →
        0 < c.metrics.allocationDebt →
        c.doCollectionLegacy root .payDebt .full none = (c', .returned) → c'.phase = .sleep) ∧
    (∀ c', ((Arena.new 1).run lastOne).ctx.doCollection ((Arena.new 1).run lastOne).root
              .payDebt .full none = (c', .returned) → c'.phase = .sleep) := by
  obtain ⟨h0, hz, hd⟩ := lastOne_hyps
  obtain ⟨_, _, _, _, hph, hr, hph', hr', he⟩ := lastOne_facts rfl
  have hcall := doCollectionLegacy_sweep_last (root := ((Arena.new 1).run lastOne).root)
    (stop := .full) (fault := none) hph hr (by decide) (hasDebt_of_pos hd) he
  exact ⟨⟨h0, hz, hd⟩, ⟨_, hcall, hph', hr', he⟩,
    fun hall => absurd (hall _ _ _ h0 hz hd hcall) (by rw [hph']; decide),
    fun c' hr => doCollection_stw (by decide) h0 hz hd hr⟩

/-- **The counting invariant holds in every state of every history** (`Acc`,
    Proofs/Accounting.lean: the work counters `marked`, `traced`, `remembered`, `dropped`, `freed`
    never run ahead of the colours on the `all` list — asleep all zero; marking:
    `marked ≤ #non-white`, `traced ≤ #black`; sweeping: split by what was done to black,
    weakly-marked and white objects).  Re-export of `acc_run`, on which every theorem of this
    section rests. -/
theorem counting_invariant_run (n : Nat) (ops : List Op) : Acc ((Arena.new n).run ops).ctx :=
  acc_run n ops

/-- In every state of every history, outside callbacks: the credits of the running cycle are at
    most `ρ ×` (allocations held + allocations this cycle has released) — for pacing factors whose
    per-object work paths each sum to at most `ρ` (`RhoPacing`, Proofs/Pacing.lean). -/
theorem credits_bounded (n : Nat) (ops : List Op) (ρ : Rat)
    (halive : ((Arena.new n).run ops).alive = true) (hcb : ((Arena.new n).run ops).cb = none)
    (hp : RhoPacing ((Arena.new n).run ops).ctx.metrics.pacing ρ) :
    ((Arena.new n).run ops).ctx.metrics.cycleCredits ≤
      ρ * ((((Arena.new n).run ops).ctx.metrics.totalGcs : Rat)
            + (((Arena.new n).run ops).ctx.metrics.freed : Rat)) :=
  credits_le hp (acc_run n ops) (run_cinv n ops halive hcb)

/-- **ρ-bound.**  Take any state of any history, outside callbacks, and any split of its counters
    `allocated = Aw + A'`, `total_gcs + freed = H + A'` (the one meant: `A'` = allocations made since
    the cycle woke, `Aw` = allocations counted at that moment, `H` = allocations held at that
    moment; `total_gcs + freed - allocated` is constant from wake-up to `finish_cycle`:
    `MetStep.frame`, `CFrame.ghost`).  Suppose the cycle woke in debt and the debt
    was not artificially reduced since (`0 < Aw - wakeup + artificial`), and the pacing factors'
    per-object work paths each sum to at most `ρ`.  If a `cycle_debt` call then returns with the
    cycle still unfinished — and the arena non-empty (an empty arena reports zero debt by
    definition, so no bound can follow from "the debt is paid") — then `A' (1 - ρ) < ρ H`.

    (`ρ < 1` is not needed for this form; it is for the quotient form `rho_bound_quotient`.  The
    state may even be asleep: the call then wakes it.  The hypothesis `total_gcs ≠ 0` — here and in
    `rho_bound_quotient`, and the alternative `total_gcs = 0` in `cycles_complete` — is needed
    because the state ranges over histories with *replayed* collection calls; see `rho_bound_run`,
    `rho_bound_run_literal_false`, and `rho_bound_run_selfdriven` for the form without it.) -/
theorem rho_bound (n : Nat) (ops : List Op) (ρ : Rat) (Aw H A' : Nat) (fault : TraceFault) (c' : Ctx)
    (halive : ((Arena.new n).run ops).alive = true) (hcb : ((Arena.new n).run ops).cb = none)
    (hp : RhoPacing ((Arena.new n).run ops).ctx.metrics.pacing ρ)
    (hA : Aw + A' = ((Arena.new n).run ops).ctx.metrics.allocated)
    (hH : H + A' = ((Arena.new n).run ops).ctx.metrics.totalGcs + ((Arena.new n).run ops).ctx.metrics.freed)
    (hwoke : 0 < (Aw : Rat) - ((Arena.new n).run ops).ctx.metrics.wakeup
                + ((Arena.new n).run ops).ctx.metrics.artificial)
    (hr : ((Arena.new n).run ops).ctx.doCollection ((Arena.new n).run ops).root .payDebt .finishCycle fault
            = (c', .returned))
    (hns : c'.phase ≠ .sleep) (hne : c'.metrics.totalGcs ≠ 0) :
    (A' : Rat) * (1 - ρ) < ρ * (H : Rat) :=
  rho_bound_ctx (run_cinv n ops halive hcb) (acc_run n ops) hp hA hH hwoke hr hns hne

/-- … in the property's form: fewer than `ρ H / (1 - ρ)` allocations were made since it woke. -/
theorem rho_bound_quotient (n : Nat) (ops : List Op) (ρ : Rat) (Aw H A' : Nat) (fault : TraceFault)
    (c' : Ctx) (hρ : ρ < 1)
    (halive : ((Arena.new n).run ops).alive = true) (hcb : ((Arena.new n).run ops).cb = none)
    (hp : RhoPacing ((Arena.new n).run ops).ctx.metrics.pacing ρ)
    (hA : Aw + A' = ((Arena.new n).run ops).ctx.metrics.allocated)
    (hH : H + A' = ((Arena.new n).run ops).ctx.metrics.totalGcs + ((Arena.new n).run ops).ctx.metrics.freed)
    (hwoke : 0 < (Aw : Rat) - ((Arena.new n).run ops).ctx.metrics.wakeup
                + ((Arena.new n).run ops).ctx.metrics.artificial)
    (hr : ((Arena.new n).run ops).ctx.doCollection ((Arena.new n).run ops).root .payDebt .finishCycle fault
            = (c', .returned))
    (hns : c'.phase ≠ .sleep) (hne : c'.metrics.totalGcs ≠ 0) :
    (A' : Rat) < ρ * (H : Rat) / (1 - ρ) :=
  rho_bound_ctx_div (run_cinv n ops halive hcb) (acc_run n ops) hp hρ hA hH hwoke hr hns hne

/-- **So cycles complete**: once `ρ H ≤ A' (1 - ρ)` allocations were made since the cycle woke,
    a `cycle_debt` call returns Sleeping (the cycle finished) — or with an empty arena. -/
theorem cycles_complete (n : Nat) (ops : List Op) (ρ : Rat) (Aw H A' : Nat) (fault : TraceFault)
    (c' : Ctx)
    (halive : ((Arena.new n).run ops).alive = true) (hcb : ((Arena.new n).run ops).cb = none)
    (hp : RhoPacing ((Arena.new n).run ops).ctx.metrics.pacing ρ)
    (hA : Aw + A' = ((Arena.new n).run ops).ctx.metrics.allocated)
    (hH : H + A' = ((Arena.new n).run ops).ctx.metrics.totalGcs + ((Arena.new n).run ops).ctx.metrics.freed)
    (hwoke : 0 < (Aw : Rat) - ((Arena.new n).run ops).ctx.metrics.wakeup
                + ((Arena.new n).run ops).ctx.metrics.artificial)
    (hr : ((Arena.new n).run ops).ctx.doCollection ((Arena.new n).run ops).root .payDebt .finishCycle fault
            = (c', .returned))
    (hmany : ρ * (H : Rat) ≤ (A' : Rat) * (1 - ρ)) :
    c'.phase = .sleep ∨ c'.metrics.totalGcs = 0 := by
  by_cases hs : c'.phase = .sleep
  · exact Or.inl hs
  · by_cases hz : c'.metrics.totalGcs = 0
    · exact Or.inr hz
    · exact absurd (rho_bound n ops ρ Aw H A' fault c' halive hcb hp hA hH hwoke hr hs hz)
        (Rat.not_lt.mpr hmany)

/-- The hypotheses of `rho_bound_run`, bundled: `pre` leads to a sleeping state `a0` with positive
    debt outside callbacks; the self-driven call `.collect m k wfault none` (any method) wakes it;
    `post` keeps the cycle (no `set_pacing`, no negative `adjust_debt`); over wake-and-`post` no
    `'Z'` is appended (`new`); the final `cycle_debt` call returns normally in `c'`. -/
structure CycleHistory (n : Nat) (pre post : List Op) (m : Method) (k : Cont) (wfault : TraceFault)
    (a0 a2 : Arena) (new : List Char) (fault : TraceFault) (c' : Ctx) : Prop where
  ha0 : a0 = (Arena.new n).run pre
  ha2 : a2 = (Arena.new n).run (pre ++ .collect m k wfault none :: post)
  hcb0 : a0.cb = none
  hs : a0.ctx.phase = .sleep
  hd : 0 < a0.ctx.metrics.allocationDebt
  hpost : ∀ op, op ∈ post → op.keepsCycle = true
  hal : a2.alive = true
  hcb : a2.cb = none
  hsteps : a2.ctx.steps = new ++ a0.ctx.steps
  hz : 'Z' ∉ new
  hr : a2.ctx.doCollection a2.root .payDebt .finishCycle fault = (c', .returned)

private theorem history_core {n pre post m k wfault a0 a2 new fault c'}
    (H : CycleHistory n pre post m k wfault a0 a2 new fault c') :
    a2 = a0.run (.collect m k wfault none :: post) ∧ Inv a0 ∧ Acc a0.ctx ∧
    (∀ op, op ∈ (Op.collect m k wfault none :: post) → op.keepsCycle = true) := by
  have hrun : a2 = a0.run (.collect m k wfault none :: post) := by
    rw [H.ha2, H.ha0, Arena.run_append]
  have hal0 : ((Arena.new n).run pre).alive = true := H.ha0 ▸ alive_of_run (hrun ▸ H.hal)
  exact ⟨hrun, H.ha0 ▸ inv_run n pre hal0, H.ha0 ▸ acc_run n pre,
    fun op hop => (List.mem_cons.mp hop).elim (· ▸ rfl) (H.hpost op)⟩

/-- What the history determines, whatever the pacing: `allocated` grew by the number of accepted
    `alloc` operations (`A'`); the allocations the cycle has had to deal with are the `H` held at
    wake-up plus `A'`; `H ≠ 0`; and the ρ-bound when the arena is not empty at the end. -/
private theorem history_facts {n pre post m k wfault a0 a2 new fault c'}
    (H : CycleHistory n pre post m k wfault a0 a2 new fault c') {ρ : Rat}
    (hp : RhoPacing a0.ctx.metrics.pacing ρ) (hns : c'.phase ≠ .sleep) :
    a2.ctx.metrics.allocated
      = a0.ctx.metrics.allocated + allocsIn a0 (.collect m k wfault none :: post) ∧
    c'.metrics.totalGcs + c'.metrics.freed
      = a0.ctx.metrics.totalGcs + allocsIn a0 (.collect m k wfault none :: post) ∧
    a0.ctx.metrics.totalGcs ≠ 0 ∧
    (c'.metrics.totalGcs ≠ 0 →
      ((allocsIn a0 (.collect m k wfault none :: post) : Nat) : Rat) * (1 - ρ)
        < ρ * (a0.ctx.metrics.totalGcs : Rat)) := by
  obtain ⟨hrun, h0, hacc0, hk⟩ := history_core H
  subst hrun
  exact cycle_from_sleep h0 hacc0 H.hs H.hd _ hk H.hal H.hcb new H.hsteps H.hz hp H.hr hns

/-- **ρ-bound over a history** — the split is not free here, it is read off the history.
    `pre` leads to a sleeping state `a0` with positive debt, outside callbacks; `wakeOp`, the op
    `.collect m k wfault none` of the statement, is a self-driven collection call of **any** method executed there — a debt-driven one wakes the
    collector because of the debt, `finish_marking` / `finish_cycle` anyway (first conclusion: the
    oldest step it appends is `'W'`);
    `post` is **any** further operation sequence — mutator operations, collection calls of every
    kind, self-driven or replayed, `finalize` / `start_sweeping` included — that changes no pacing
    and makes no negative `adjust_debt` (`Op.keepsCycle`), and during `wakeOp`-and-`post` no cycle
    completes: no `'Z'` (the `Sweep → Sleep` switch) is appended to the step log.  Then
    * `H` := `total_gcs` of `a0` — the allocations held when the cycle woke (the wake itself does
      not change it);
    * `A'` := `allocsIn a0 (wakeOp :: post)` — the number of `alloc` operations accepted since —
      and that is exactly the growth of the `allocated` counter (second conclusion);
    and if a `cycle_debt` call made after `post` returns with the cycle unfinished and the arena
    non-empty, then `A' (1 - ρ) < ρ H`.

    Why `total_gcs ≠ 0` is a hypothesis here although the property has none: `post` may contain
    *replayed* collection calls, and a replay can be cut anywhere — also right after the sweep
    released the last allocation, in `Sweep` with nothing left to sweep, where the real loop never
    stops (`never_parked`).  From such a state `cycle_debt` returns at once (an empty arena
    reports no debt) and no bound follows: `rho_bound_run_literal_false`.  When every collection
    call of the history is self-driven — what a client of the real collector can do — the
    hypothesis is derivable: `rho_bound_run_selfdriven`. -/
theorem rho_bound_run (n : Nat) (pre post : List Op) (m : Method) (k : Cont) (wfault : TraceFault)
    (a0 a2 : Arena) (ha0 : a0 = (Arena.new n).run pre)
    (ha2 : a2 = (Arena.new n).run (pre ++ .collect m k wfault none :: post))
    (hcb0 : a0.cb = none) (hs : a0.ctx.phase = .sleep) (hd : 0 < a0.ctx.metrics.allocationDebt)
    (hpost : ∀ op, op ∈ post → op.keepsCycle = true)
    (hal : a2.alive = true) (hcb : a2.cb = none)
    (new : List Char) (hsteps : a2.ctx.steps = new ++ a0.ctx.steps) (hz : 'Z' ∉ new)
    (ρ : Rat) (hp : RhoPacing a0.ctx.metrics.pacing ρ) (fault : TraceFault) (c' : Ctx)
    (hr : a2.ctx.doCollection a2.root .payDebt .finishCycle fault = (c', .returned))
    (hns : c'.phase ≠ .sleep) (hne : c'.metrics.totalGcs ≠ 0) :
    (∃ w, (a0.step (.collect m k wfault none)).1.ctx.steps = w ++ 'W' :: a0.ctx.steps) ∧
    a2.ctx.metrics.allocated
      = a0.ctx.metrics.allocated + allocsIn a0 (.collect m k wfault none :: post) ∧
    ((allocsIn a0 (.collect m k wfault none :: post) : Nat) : Rat) * (1 - ρ)
      < ρ * (a0.ctx.metrics.totalGcs : Rat) := by
  have H : CycleHistory n pre post m k wfault a0 a2 new fault c' :=
    ⟨ha0, ha2, hcb0, hs, hd, hpost, hal, hcb, hsteps, hz, hr⟩
  obtain ⟨r1, _, _, r2⟩ := history_facts H hp hns
  exact ⟨collect_wakes (history_core H).2.1 hcb0 hs hd m k wfault, r1, r2 hne⟩

/-- **ρ-bound over a self-driven history**: as `rho_bound_run`, with every collection call of
    `post` self-driven (`Op.selfDriven`: no replay) — what a client of the real collector can do —
    and **without** the hypothesis `total_gcs ≠ 0`: inside one cycle a self-driven call never
    returns with the arena emptied (`selfdriven_nonempty`, Proofs/NotParked.lean). -/
theorem rho_bound_run_selfdriven {n pre post m k wfault a0 a2 new fault c'}
    (H : CycleHistory n pre post m k wfault a0 a2 new fault c')
    (hself : ∀ op, op ∈ post → op.selfDriven = true)
    (ρ : Rat) (hp : RhoPacing a0.ctx.metrics.pacing ρ) (hns : c'.phase ≠ .sleep) :
    ((allocsIn a0 (.collect m k wfault none :: post) : Nat) : Rat) * (1 - ρ)
      < ρ * (a0.ctx.metrics.totalGcs : Rat) := by
  obtain ⟨hrun, h0, hacc0, _⟩ := history_core H
  subst hrun
  exact (history_facts H hp hns).2.2.2 (selfdriven_nonempty h0 hacc0 H.hcb0 H.hs H.hd m k wfault post
    hself H.hal H.hcb new H.hsteps H.hz H.hr hns)

/-- `G ≤ H + A` and `A (1 - ρ) < ρ H` give `G (1 - ρ) ≤ H (1 - ρ) + A (1 - ρ) < H (1 - ρ) + ρ H = H`. -/
private theorem heap_arith {G H A ρ : Rat} (hρ : ρ < 1) (hle : G ≤ H + A)
    (hb : A * (1 - ρ) < ρ * H) : G * (1 - ρ) < H := by
  have h1 : G * (1 - ρ) ≤ H * (1 - ρ) + A * (1 - ρ) :=
    Rat.add_mul .. ▸ Rat.mul_le_mul_of_nonneg_right hle ((Rat.le_iff_sub_nonneg ρ 1).mp (Rat.le_of_lt hρ))
  have h2 : H * (1 - ρ) + A * (1 - ρ) < H * (1 - ρ) + ρ * H := Rat.add_lt_add_left.mpr hb
  have h3 : H * (1 - ρ) + ρ * H = H := by
    rw [Rat.mul_comm ρ H, ← Rat.mul_add, Rat.sub_add_cancel, Rat.mul_one]
  exact h3 ▸ Std.lt_of_le_of_lt h1 h2

/-- **The heap stays within a constant factor of its size at wake-up.**  Over a history as in
    `rho_bound_run` (any `post`, replays included) with `ρ < 1`: while the cycle is unfinished
    after a `cycle_debt` call, the arena holds fewer than `H / (1 - ρ)` allocations, `H` the number
    of allocations held when the cycle woke. -/
theorem heap_factor_run {n pre post m k wfault a0 a2 new fault c'}
    (H : CycleHistory n pre post m k wfault a0 a2 new fault c')
    (ρ : Rat) (hp : RhoPacing a0.ctx.metrics.pacing ρ) (hρ : ρ < 1) (hns : c'.phase ≠ .sleep) :
    (c'.metrics.totalGcs : Rat) < (a0.ctx.metrics.totalGcs : Rat) / (1 - ρ) := by
  obtain ⟨_, hsum, hH0, hbound⟩ := history_facts H hp hns
  rw [Rat.lt_div_iff ((Rat.lt_iff_sub_pos ρ 1).mp hρ)]
  by_cases hz : c'.metrics.totalGcs = 0
  · rw [hz, show ((0 : Nat) : Rat) = 0 from rfl, Rat.zero_mul]
    exact Rat.natCast_pos.mpr (Nat.pos_of_ne_zero hH0)
  · have hle : c'.metrics.totalGcs ≤ a0.ctx.metrics.totalGcs
        + allocsIn a0 (.collect m k wfault none :: post) := by omega
    exact heap_arith hρ (by exact_mod_cast hle) (hbound hz)

/-- **So cycles complete**, over a history: once the allocations made since the cycle woke reach
    `ρ H ≤ A' (1 - ρ)`, a `cycle_debt` call returns Sleeping (the cycle finished) — or, when `post`
    contains a replayed call cut in the corner described at `rho_bound_run`, with an empty arena. -/
theorem cycles_complete_run {n pre post m k wfault a0 a2 new fault c'}
    (H : CycleHistory n pre post m k wfault a0 a2 new fault c')
    (ρ : Rat) (hp : RhoPacing a0.ctx.metrics.pacing ρ)
    (hmany : ρ * (a0.ctx.metrics.totalGcs : Rat)
      ≤ ((allocsIn a0 (.collect m k wfault none :: post) : Nat) : Rat) * (1 - ρ)) :
    c'.phase = .sleep ∨ c'.metrics.totalGcs = 0 := by
  by_cases hs : c'.phase = .sleep
  · exact Or.inl hs
  · by_cases hz : c'.metrics.totalGcs = 0
    · exact Or.inr hz
    · exact absurd ((history_facts H hp hs).2.2.2 hz) (Rat.not_lt.mpr hmany)

/-- … and over a self-driven history it returns Sleeping, without exception. -/
theorem cycles_complete_run_selfdriven {n pre post m k wfault a0 a2 new fault c'}
    (H : CycleHistory n pre post m k wfault a0 a2 new fault c')
    (hself : ∀ op, op ∈ post → op.selfDriven = true)
    (ρ : Rat) (hp : RhoPacing a0.ctx.metrics.pacing ρ)
    (hmany : ρ * (a0.ctx.metrics.totalGcs : Rat)
      ≤ ((allocsIn a0 (.collect m k wfault none :: post) : Nat) : Rat) * (1 - ρ)) :
    c'.phase = .sleep := by
  apply Classical.byContradiction
  intro hs
  exact absurd (rho_bound_run_selfdriven H hself ρ hp hs) (Rat.not_lt.mpr hmany)

/-- The clause of `rho_bound_run` **without** `total_gcs ≠ 0`, for arbitrary `post` (replayed calls
    included).  False: `rho_bound_run_literal_false`. -/
def rho_bound_run_literal : Prop :=
  ∀ (n : Nat) (pre post : List Op) (m : Method) (k : Cont) (wfault : TraceFault) (a0 a2 : Arena)
    (new : List Char) (fault : TraceFault) (c' : Ctx) (ρ : Rat),
    CycleHistory n pre post m k wfault a0 a2 new fault c' → RhoPacing a0.ctx.metrics.pacing ρ →
    c'.phase ≠ .sleep →
    ((allocsIn a0 (.collect m k wfault none :: post) : Nat) : Rat) * (1 - ρ)
      < ρ * (a0.ctx.metrics.totalGcs : Rat)

/-- What the end of a cycle schedules: the next one wakes after
    `max(sleep_factor × remembered, min_sleep)` allocations counted from zero (`remembered` = the
    survivors counted by the sweep), and no artificial debt is carried over when the cycle was
    atomic or ended without debt. -/
theorem sleep_schedule (c : Ctx) (hasSlept : Bool) :
    (c.enterSleep hasSlept).phase = .sleep ∧
    (c.enterSleep hasSlept).metrics.wakeup =
      max ((c.metrics.remembered : Rat) * c.metrics.pacing.sleepFactor) (c.metrics.pacing.minSleep : Rat) ∧
    (c.enterSleep hasSlept).metrics.allocated = 0 ∧
    (hasSlept = true ∨ c.metrics.allocationDebt = 0 → (c.enterSleep hasSlept).metrics.artificial = 0) := by
  obtain ⟨h1, h2, _, _, h5⟩ := finishCycle_schedule c.metrics hasSlept
  exact ⟨rfl, h1, h2, h5⟩

/-- **Sleep is honoured**, one state.  In any sleeping state of any history with no artificial
    debt: while the allocations made since the cycle ended do not exceed the wake-up amount every
    debt-driven call returns at once with the state unchanged and the reported debt is zero; once
    they exceed it the reported debt is positive — exactly the excess.  (The arena then holds
    something: asleep, `allocated ≤ total_gc_count` and the wake-up amount is never negative —
    the run invariant `WInv`, Proofs/CycleRun.lean.) -/
theorem sleep_honoured (n : Nat) (ops : List Op) (root : List Slot) (stop : Stop) (fault : TraceFault)
    (hs : ((Arena.new n).run ops).ctx.phase = .sleep)
    (hart : ((Arena.new n).run ops).ctx.metrics.artificial = 0) :
    let c := ((Arena.new n).run ops).ctx
    ((c.metrics.allocated : Rat) ≤ c.metrics.wakeup →
      c.doCollection root .payDebt stop fault = (c, .returned) ∧ c.metrics.allocationDebt = 0) ∧
    (c.metrics.wakeup < (c.metrics.allocated : Rat) →
      0 < c.metrics.allocationDebt ∧
      c.metrics.allocationDebt = (c.metrics.allocated : Rat) - c.metrics.wakeup) := by
  intro c
  obtain ⟨p1, p2⟩ := GcArena.sleep_honoured root stop fault hs (acc_run n ops) hart
  exact ⟨p1, fun hlt => p2 hlt ((winv_run n ops).nonempty hs hlt)⟩

/-- **Sleep is honoured**, over time.  From any sleeping state of any history with no artificial
    debt, over any further sequence of mutator operations (anything but `set_pacing` /
    `adjust_debt`) and self-driven debt-driven collection calls during which the allocations do
    not exceed the wake-up amount: the collector is still Sleeping, made no progress (no event
    logged, schedule unchanged) and reports zero debt. -/
theorem stays_asleep (n : Nat) (ops more : List Op)
    (hs : ((Arena.new n).run ops).ctx.phase = .sleep)
    (hart : ((Arena.new n).run ops).ctx.metrics.artificial = 0)
    (hmore : ∀ op, op ∈ more → op.isSleepy = true)
    (halive : (((Arena.new n).run ops).run more).alive = true)
    (hfew : ((((Arena.new n).run ops).ctx.metrics.allocated + more.countP Op.isAlloc : Nat) : Rat)
              ≤ ((Arena.new n).run ops).ctx.metrics.wakeup) :
    (((Arena.new n).run ops).run more).ctx.phase = .sleep ∧
    (((Arena.new n).run ops).run more).ctx.log = ((Arena.new n).run ops).ctx.log ∧
    (((Arena.new n).run ops).run more).ctx.metrics.wakeup = ((Arena.new n).run ops).ctx.metrics.wakeup ∧
    (((Arena.new n).run ops).run more).ctx.metrics.allocationDebt = 0 := by
  have hal0 := alive_of_run halive
  obtain ⟨r1, r2, r3, _, _, r6⟩ :=
    GcArena.stays_asleep more _ (inv_run n ops hal0) hs hart hmore halive hfew
  exact ⟨r1, r2, r3, r6⟩

/-- A reachable state of the corner: Sweeping, sweep list exhausted, no allocation left. -/
def emptied : List Op := [
  .enter .mutate, .alloc true [none], .leave, .adjustDebt 1000,
  .collect .finishMarking .sweep none (some [.wake, .markStep none, .markBreak, .toSweep]),
  .collect .collectDebt .drop none (some [.sweepStep]) ]

private theorem emptied_facts {a : Arena} (h : a = (Arena.new 1).run emptied) :
    a.ctx.phase = .sweep ∧ a.ctx.metrics.totalGcs = 0 ∧ a.ctx.rest = [] := by
  subst h; decide +kernel

example : ((Arena.new 1).run emptied).ctx.phase = .sweep := (emptied_facts rfl).1
example : ((Arena.new 1).run emptied).ctx.metrics.totalGcs = 0 := (emptied_facts rfl).2.1
example : ((Arena.new 1).run emptied).ctx.rest = [] := (emptied_facts rfl).2.2

/-- Pacing with `ρ = 1/2` on every path. -/
def halfPacing : Pacing :=
  { sleepFactor := 1, minSleep := 0, markFactor := 1/4, traceFactor := 1/4, keepFactor := 0,
    dropFactor := 1/4, freeFactor := 1/4 }

private theorem halfPacing_half : RhoPacing halfPacing (1/2) := by
  constructor <;> decide +kernel

/-- Four unreachable allocations, three of them forgiven (`adjust_debt(-3)`), the cycle wakes and
    marks; one more allocation; the sweep releases four of the five: the debt is paid with the
    cycle unfinished. -/
def rhoDemo : List Op := [
  .setPacing halfPacing,
  .enter .mutate, .alloc true [none], .alloc true [none], .alloc true [none], .alloc true [none], .leave,
  .adjustDebt (-3),
  .collect .cycleDebt .drop none (some [.wake, .markStep none, .markBreak]),
  .enter .mutate, .alloc true [none], .leave,
  .collect .cycleDebt .drop none (some [.toSweep, .sweepStep, .sweepStep, .sweepStep, .sweepStep]) ]

private theorem rhoDemo_facts {a : Arena} (h : a = (Arena.new 1).run rhoDemo) :
    a.alive = true ∧ a.cb = none ∧ a.ctx.metrics.pacing = halfPacing ∧
    4 + 1 = a.ctx.metrics.allocated ∧ 4 + 1 = a.ctx.metrics.totalGcs + a.ctx.metrics.freed ∧
    0 < ((4 : Nat) : Rat) - a.ctx.metrics.wakeup + a.ctx.metrics.artificial ∧
    a.ctx.metrics.hasDebt = false ∧ a.ctx.phase ≠ .sleep ∧ a.ctx.metrics.totalGcs ≠ 0 := by
  subst h; decide +kernel

/-- Five allocations counted, three forgiven, four dropped and freed: debits 2, credits 2. -/
private theorem rhoDemo_no_debt : ((Arena.new 1).run rhoDemo).ctx.metrics.hasDebt = false :=
  (rhoDemo_facts rfl).2.2.2.2.2.2.1

/-- Non-vacuity of `rho_bound`: on `rhoDemo` (`H = 4` held and `Aw = 4` counted at wake-up, `A' = 1`
    allocation since) every hypothesis holds with `ρ = 1/2` — the call returns Sweeping with one
    allocation left. -/
example : ∃ (c' : Ctx),
    ((Arena.new 1).run rhoDemo).alive = true ∧ ((Arena.new 1).run rhoDemo).cb = none ∧
    RhoPacing ((Arena.new 1).run rhoDemo).ctx.metrics.pacing (1/2) ∧
    4 + 1 = ((Arena.new 1).run rhoDemo).ctx.metrics.allocated ∧
    4 + 1 = ((Arena.new 1).run rhoDemo).ctx.metrics.totalGcs + ((Arena.new 1).run rhoDemo).ctx.metrics.freed ∧
    0 < ((4 : Nat) : Rat) - ((Arena.new 1).run rhoDemo).ctx.metrics.wakeup
            + ((Arena.new 1).run rhoDemo).ctx.metrics.artificial ∧
    ((Arena.new 1).run rhoDemo).ctx.doCollection ((Arena.new 1).run rhoDemo).root .payDebt .finishCycle none
      = (c', .returned) ∧ c'.phase ≠ .sleep ∧ c'.metrics.totalGcs ≠ 0 :=
  have ⟨hal, hcb, hp, hA, hH, hw, hnd, hns, hne⟩ := rhoDemo_facts rfl
  ⟨_, hal, hcb, hp ▸ halfPacing_half, hA, hH, hw, doCollection_no_debt hnd _ _ _, hns, hne⟩

/-! Non-vacuity of `rho_bound_run`: `rhoPre` (four unreachable allocations, three forgiven) leaves
    the collector asleep in debt; the self-driven `mark_debt` wakes and marks; `rhoPost` allocates
    once more and sweeps four of the five away: the debt is paid with the cycle unfinished. -/

def rhoPre : List Op := [
  .setPacing halfPacing,
  .enter .mutate, .alloc true [none], .alloc true [none], .alloc true [none], .alloc true [none], .leave,
  .adjustDebt (-3) ]

def rhoPost : List Op := [
  .enter .mutate, .alloc true [none], .leave,
  .collect .cycleDebt .drop none (some [.toSweep, .sweepStep, .sweepStep, .sweepStep, .sweepStep]) ]

private theorem rhoPre_facts {a0 : Arena} (h : a0 = (Arena.new 1).run rhoPre) :
    a0.cb = none ∧ a0.ctx.phase = .sleep ∧ 0 < a0.ctx.metrics.allocationDebt ∧
    a0.ctx.metrics.pacing = halfPacing ∧ a0.ctx.metrics.totalGcs = 4 := by
  subst h; decide +kernel

private theorem rhoPre_half : RhoPacing ((Arena.new 1).run rhoPre).ctx.metrics.pacing (1/2) :=
  (rhoPre_facts rfl).2.2.2.1 ▸ halfPacing_half

private theorem rhoRun_facts {a0 a2 : Arena} (h0 : a0 = (Arena.new 1).run rhoPre)
    (h2 : a2 = (Arena.new 1).run (rhoPre ++ .collect .markDebt .drop none none :: rhoPost)) :
    (∀ op, op ∈ rhoPost → op.keepsCycle = true) ∧ a2.alive = true ∧ a2.cb = none ∧
    a2.ctx.steps = ['x', 'x', 'x', 'x', 'S', 'b', 'r', 'W'] ++ a0.ctx.steps ∧
    a2.ctx.metrics =
      { pacing := halfPacing, totalGcs := 1, wakeup := 0, artificial := 0 + (-3), allocated := 5,
        dropped := 4, freed := 4, marked := 0, traced := 0, remembered := 0, underflow := false } ∧
    a2.ctx.metrics.hasDebt = false ∧ a2.ctx.phase ≠ .sleep ∧ a2.ctx.metrics.totalGcs ≠ 0 ∧
    allocsIn a0 (.collect .markDebt .drop none none :: rhoPost) = 1 := by
  subst h0 h2; decide +kernel

private theorem rhoRun_metrics :
    ((Arena.new 1).run (rhoPre ++ .collect .markDebt .drop none none :: rhoPost)).ctx.metrics =
    { pacing := halfPacing, totalGcs := 1, wakeup := 0, artificial := 0 + (-3), allocated := 5,
      dropped := 4, freed := 4, marked := 0, traced := 0, remembered := 0, underflow := false } :=
  (rhoRun_facts rfl rfl).2.2.2.2.1

/-- Every hypothesis of `rho_bound_run` holds on this history with `ρ = 1/2` (`H = 4`, `A' = 1`);
    the final `cycle_debt` returns Sweeping with one allocation left. -/
example : ∃ (new : List Char) (c' : Ctx),
    let a0 := (Arena.new 1).run rhoPre
    let a2 := (Arena.new 1).run (rhoPre ++ .collect .markDebt .drop none none :: rhoPost)
    a0.cb = none ∧ a0.ctx.phase = .sleep ∧
    0 < a0.ctx.metrics.allocationDebt ∧ (∀ op, op ∈ rhoPost → op.keepsCycle = true) ∧
    a2.alive = true ∧ a2.cb = none ∧ a2.ctx.steps = new ++ a0.ctx.steps ∧ 'Z' ∉ new ∧
    RhoPacing a0.ctx.metrics.pacing (1/2) ∧
    a2.ctx.doCollection a2.root .payDebt .finishCycle none = (c', .returned) ∧
    c'.phase ≠ .sleep ∧ c'.metrics.totalGcs ≠ 0 ∧
    a0.ctx.metrics.totalGcs = 4 ∧ allocsIn a0 (.collect .markDebt .drop none none :: rhoPost) = 1 :=
  have ⟨hcb0, hs, hd, _, hH⟩ := rhoPre_facts rfl
  have ⟨hk, hal, hcb, hst, _, hnd, hns, hne, hA⟩ := rhoRun_facts rfl rfl
  ⟨_, _, hcb0, hs, hd, hk, hal, hcb, hst, by decide, rhoPre_half, doCollection_no_debt hnd _ _ _,
    hns, hne, hH, hA⟩

/-! A history that is self-driven throughout: `rhoPre`, the self-driven `mark_debt`, one more
    allocation, and a self-driven final `cycle_debt` that marks nothing more, sweeps four of the
    five allocations away and returns Sweeping with the debt paid (`H = 4`, `A' = 1`). -/

def selfPost : List Op := [ .enter .mutate, .alloc true [none], .leave ]

/-- The state before the final call, with the waking `mark_debt` written as its replay `W r b`. -/
private def selfCtx : Ctx :=
  ((Arena.new 1).run (rhoPre ++ .collect .markDebt .drop none
    (some [.wake, .markStep none, .markBreak]) :: selfPost)).ctx

/-- Where the final `cycle_debt` ends: `b S x x x x`. -/
private def selfEnd : Ctx :=
  (selfCtx.step 'b').enterSweep.sweepOne.1.sweepOne.1.sweepOne.1.sweepOne.1

private theorem selfPost_ops :
    (∀ op, op ∈ selfPost → op.keepsCycle = true) ∧ (∀ op, op ∈ selfPost → op.selfDriven = true) := by
  decide

private theorem selfRun_facts {a0 a2 : Arena} (h0 : a0 = (Arena.new 1).run rhoPre)
    (h2 : a2 = (Arena.new 1).run (rhoPre ++ .collect .markDebt .drop none none :: selfPost)) :
    a2.alive = true ∧ a2.cb = none ∧ a2.ctx.steps = ['b', 'r', 'W'] ++ a0.ctx.steps ∧
    allocsIn a0 (.collect .markDebt .drop none none :: selfPost) = 1 ∧
    selfEnd.phase = .sweep ∧ selfEnd.metrics.totalGcs = 1 := by
  subst h0 h2; decide +kernel

/-- The final call is evaluated here: it is the replay `b S x x x x` of `selfEnd`. -/
private theorem selfHistory :
    CycleHistory 1 rhoPre selfPost .markDebt .drop none ((Arena.new 1).run rhoPre)
      ((Arena.new 1).run (rhoPre ++ .collect .markDebt .drop none none :: selfPost))
      ['b', 'r', 'W'] none selfEnd :=
  have ⟨hcb0, hs, hd, _⟩ := rhoPre_facts rfl
  have ⟨hal, hcb, hst, _⟩ := selfRun_facts rfl rfl
  ⟨rfl, rfl, hcb0, hs, hd, selfPost_ops.1, hal, hcb, hst, by decide, by with_unfolding_all rfl⟩

private theorem self_allocs :
    allocsIn ((Arena.new 1).run rhoPre) (.collect .markDebt .drop none none :: selfPost) = 1 :=
  (selfRun_facts rfl rfl).2.2.2.1

private theorem selfEnd_sweeping : selfEnd.phase ≠ .sleep := by
  rw [(selfRun_facts rfl rfl).2.2.2.2.1]; decide

/-- Non-vacuity of `rho_bound_run_selfdriven`: every hypothesis holds on the self-driven history
    (no replayed call anywhere), the final call ends Sweeping with one allocation left; `H = 4`,
    `A' = 1`, `ρ = 1/2`. -/
example :
    CycleHistory 1 rhoPre selfPost .markDebt .drop none ((Arena.new 1).run rhoPre)
      ((Arena.new 1).run (rhoPre ++ .collect .markDebt .drop none none :: selfPost))
      ['b', 'r', 'W'] none selfEnd ∧
    (∀ op, op ∈ selfPost → op.selfDriven = true) ∧
    RhoPacing ((Arena.new 1).run rhoPre).ctx.metrics.pacing (1/2) ∧
    selfEnd.phase = .sweep ∧ selfEnd.metrics.totalGcs = 1 ∧
    ((Arena.new 1).run rhoPre).ctx.metrics.totalGcs = 4 ∧
    allocsIn ((Arena.new 1).run rhoPre) (.collect .markDebt .drop none none :: selfPost) = 1 :=
  have ⟨_, _, _, hA, hph, hn⟩ := selfRun_facts rfl rfl
  ⟨selfHistory, selfPost_ops.2, rhoPre_half, hph, hn, (rhoPre_facts rfl).2.2.2.2, hA⟩

/-- … and its instance: `1 · (1 - 1/2) < 1/2 · 4`. -/
example :
    ((allocsIn ((Arena.new 1).run rhoPre) (.collect .markDebt .drop none none :: selfPost) : Nat) : Rat)
      * (1 - 1/2) < 1/2 * (((Arena.new 1).run rhoPre).ctx.metrics.totalGcs : Rat) :=
  rho_bound_run_selfdriven selfHistory selfPost_ops.2 (1/2) rhoPre_half selfEnd_sweeping

/-- Non-vacuity of `heap_factor_run` on the same history: `1 < 4 / (1 - 1/2)`. -/
example : (selfEnd.metrics.totalGcs : Rat)
    < (((Arena.new 1).run rhoPre).ctx.metrics.totalGcs : Rat) / (1 - 1/2) :=
  heap_factor_run selfHistory (1/2) rhoPre_half (by decide +kernel) selfEnd_sweeping

/-! The corner that makes `total_gcs ≠ 0` necessary for arbitrary `post`: one allocation held at
    wake-up (`H = 1`), two more made while marking (`A' = 2`), and a **replayed** sweep cut right
    after it released all three — `Sweep`, nothing left to sweep, arena empty. -/

def litPre : List Op := [ .setPacing halfPacing, .enter .mutate, .alloc true [none], .leave ]

def litPost : List Op := [
  .enter .mutate, .alloc true [none], .alloc true [none], .leave,
  .collect .cycleDebt .drop none (some [.toSweep, .sweepStep, .sweepStep, .sweepStep]) ]

private theorem litPre_facts {a0 : Arena} (h : a0 = (Arena.new 1).run litPre) :
    a0.cb = none ∧ a0.ctx.phase = .sleep ∧ 0 < a0.ctx.metrics.allocationDebt ∧
    a0.ctx.metrics.pacing = halfPacing := by
  subst h; decide +kernel

private theorem litPre_half : RhoPacing ((Arena.new 1).run litPre).ctx.metrics.pacing (1/2) :=
  (litPre_facts rfl).2.2.2 ▸ halfPacing_half

private theorem litSelf_facts {a0 a2 : Arena} (h0 : a0 = (Arena.new 1).run litPre)
    (h2 : a2 = (Arena.new 1).run (litPre ++ .collect .markDebt .drop none none :: selfPost)) :
    a2.alive = true ∧ a2.cb = none ∧ a2.ctx.steps = ['b', 'r', 'W'] ++ a0.ctx.steps ∧
    (1/2 : Rat) * (a0.ctx.metrics.totalGcs : Rat)
      ≤ ((allocsIn a0 (.collect .markDebt .drop none none :: selfPost) : Nat) : Rat) * (1 - 1/2) := by
  subst h0 h2; decide +kernel

private theorem litRun_facts {a0 a2 : Arena} (h0 : a0 = (Arena.new 1).run litPre)
    (h2 : a2 = (Arena.new 1).run (litPre ++ .collect .markDebt .drop none none :: litPost)) :
    (∀ op, op ∈ litPost → op.keepsCycle = true) ∧ a2.alive = true ∧ a2.cb = none ∧
    a2.ctx.steps = ['x', 'x', 'x', 'S', 'b', 'r', 'W'] ++ a0.ctx.steps ∧
    a2.ctx.metrics.totalGcs = 0 ∧ a2.ctx.phase ≠ .sleep ∧
    ¬ ((allocsIn a0 (.collect .markDebt .drop none none :: litPost) : Nat) : Rat) * (1 - 1/2)
        < 1/2 * (a0.ctx.metrics.totalGcs : Rat) := by
  subst h0 h2; decide +kernel

/-- The self-driven `mark_debt` after `litPre` is the replay `W r b`. -/
private theorem litSelfRun_eq :
    (Arena.new 1).run (litPre ++ .collect .markDebt .drop none none :: selfPost) =
    (Arena.new 1).run (litPre ++ .collect .markDebt .drop none
      (some [.wake, .markStep none, .markBreak]) :: selfPost) := by
  with_unfolding_all rfl

/-- Non-vacuity of `cycles_complete_run_selfdriven` (and `cycles_complete_run`): on the
    self-driven history `litPre`, `mark_debt`, one more allocation (`H = 1`, `A' = 1`, `ρ = 1/2`,
    so `ρ H ≤ A' (1 - ρ)`), every hypothesis holds for the state `c'` in which the self-driven
    final `cycle_debt` returns. -/
example : ∃ c',
    CycleHistory 1 litPre selfPost .markDebt .drop none ((Arena.new 1).run litPre)
      ((Arena.new 1).run (litPre ++ .collect .markDebt .drop none none :: selfPost))
      ['b', 'r', 'W'] none c' ∧
    (∀ op, op ∈ selfPost → op.selfDriven = true) ∧
    RhoPacing ((Arena.new 1).run litPre).ctx.metrics.pacing (1/2) ∧
    (1/2 : Rat) * (((Arena.new 1).run litPre).ctx.metrics.totalGcs : Rat)
      ≤ ((allocsIn ((Arena.new 1).run litPre) (.collect .markDebt .drop none none :: selfPost) : Nat) : Rat)
          * (1 - 1/2) := by
  obtain ⟨hcb0, hs, hd, _⟩ := litPre_facts rfl
  obtain ⟨hal, hcb, hst, hle⟩ := litSelf_facts rfl rfl
  have hc2 := run_cinv 1 (litPre ++ .collect .markDebt .drop none none :: selfPost) hal hcb
  exact ⟨_, ⟨rfl, rfl, hcb0, hs, hd, selfPost_ops.1, hal, hcb, hst, by decide,
    Prod.ext rfl (doCollection_returns hc2 .payDebt .finishCycle)⟩, selfPost_ops.2, litPre_half, hle⟩

/-- The literal clause is false: on `litPre ++ [mark_debt] ++ litPost` every hypothesis holds with
    `ρ = 1/2`, the final `cycle_debt` returns Sweeping with the arena emptied, and
    `A' (1 - ρ) = 1` is not below `ρ H = 1/2`. -/
theorem rho_bound_run_literal_false : ¬ rho_bound_run_literal := by
  intro hlit
  obtain ⟨hcb0, hs, hd, _⟩ := litPre_facts rfl
  obtain ⟨hk, hal, hcb, hst, hz, hns, hnot⟩ := litRun_facts rfl rfl
  have hH : CycleHistory 1 litPre litPost .markDebt .drop none ((Arena.new 1).run litPre)
      ((Arena.new 1).run (litPre ++ .collect .markDebt .drop none none :: litPost))
      ['x', 'x', 'x', 'S', 'b', 'r', 'W'] none
      ((Arena.new 1).run (litPre ++ .collect .markDebt .drop none none :: litPost)).ctx :=
    ⟨rfl, rfl, hcb0, hs, hd, hk, hal, hcb, hst, by decide, empty_arena_never_collects _ _ _ _ hz⟩
  exact hnot (hlit _ _ _ _ _ _ _ _ _ _ _ (1/2) hH litPre_half hns)

/-- `Pacing::DEFAULT` satisfies the hypothesis with `ρ = 0.55`. -/
example : RhoPacing Pacing.default (55/100) := by
  constructor <;> decide +kernel

/-- Non-vacuity of the sleep theorems: a fresh arena after two allocations is asleep. -/
example : ((Arena.new 1).run [.enter .mutate, .alloc true [none], .alloc true [none], .leave]).ctx.phase
    = .sleep := by decide +kernel

end GcArena.C09
