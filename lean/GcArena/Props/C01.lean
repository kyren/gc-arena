import GcArena.Proofs.Events
import GcArena.Proofs.SlotFrame
/-!
# C01 — No strongly reachable value is ever dropped or freed (GC safety)

Model: `GcArena.Model.{Context,Driver,Arena}` (src/context.rs, src/arena.rs, the mutator API of
src/gc.rs / gc_weak.rs / lock.rs).  Every statement quantifies over **all** operation sequences
`ops : List Op` — every interleaving of mutator steps (allocation, stores through every barrier
path, root replacement, downgrade / upgrade, resurrection) with collection calls of every method,
every `RunUntil` / `Stop`, every pacing and debt (self-driven) or any sequence of enabled
micro-steps (oracle-driven), with a `trace` unwinding at any position.

`Accessible a i`: the client can name object `i` — it is held by the root or by the running
callback, or can be read out of an object it can name.  No colours, phases or queues occur in the
statements; they live in the invariant `Inv` (Spec/Inv.lean) proved by `inv_run`.  The hypothesis
`alive = true` says that the arena has not been dropped: `dropArena` alone clears the flag.
`Op.writesSlot`, with which the read-back theorems are stated, is defined in Proofs/SlotFrame.lean.
-/
namespace GcArena.C01

open GcArena

/-- Whatever the client can name is allocated and its value has not been destructed. -/
theorem safety (n : Nat) (ops : List Op) (halive : ((Arena.new n).run ops).alive = true) (i : Nat)
    (hi : Accessible ((Arena.new n).run ops) i) :
    ∃ o, ((Arena.new n).run ops).ctx.heap.get i = some o ∧ o.live = true := by
  obtain ⟨o, ho, hl, _⟩ := (inv_run n ops halive).safe_of_accessible hi
  exact ⟨o, ho, hl⟩

/-- … and the sweep in progress (if any) will neither destruct nor release it: it lies in front of
    the sweep cursor or is marked black. -/
theorem not_condemned (n : Nat) (ops : List Op) (halive : ((Arena.new n).run ops).alive = true)
    (i : Nat) (hi : Accessible ((Arena.new n).run ops) i) :
    Safe ((Arena.new n).run ops).ctx i :=
  (inv_run n ops halive).safe_of_accessible hi

/-- No run ever touches a released block, trips a `debug_assert!` of context.rs, or reaches an
    `unreachable!()` / failing `assert!`: the model's sticky fault flag stays clear. -/
theorem no_internal_fault (n : Nat) (ops : List Op) (halive : ((Arena.new n).run ops).alive = true) :
    ((Arena.new n).run ops).ctx.err = none :=
  (inv_run n ops halive).cinv.noErr

/-- One collector micro-step destructs / releases only an object that no client can name at
    that moment. -/
theorem step_spares_reachable {c c' : Ctx} {root : List Slot} (h : CInv c root []) (m : Micro)
    (hs : c.micro root m = some c') :
    ∃ evs, NewEvents c c' evs ∧ ∀ e, e ∈ evs → ¬ StrongReachC c root e.target :=
  micro_events h m hs

/-- A whole collection call — any sequence of enabled micro-steps — destructs / releases only
    objects that were not strongly reachable when it began, and leaves everything that was
    strongly reachable reachable. -/
theorem call_spares_reachable {root : List Slot} (ms : List Micro) {c c' : Ctx} (h : CInv c root [])
    (hs : c.micros root ms = some c') :
    (∃ evs, NewEvents c c' evs ∧ ∀ e, e ∈ evs → ¬ StrongReachC c root e.target) ∧
    (∀ i, StrongReachC c root i → StrongReachC c' root i) :=
  micros_events ms h hs

/-- The self-driven driver loop (`Context::do_collection` with any `RunUntil`, `Stop`, fault
    position and any pacing / debt) is such a sequence of enabled micro-steps. -/
theorem do_collection_is_micro_steps {c : Ctx} {root : List Slot} (ru : RunUntil) (stop : Stop)
    (fault : TraceFault) (h : CInv c root []) :
    ∃ ms, c.micros root ms = some (c.doCollection root ru stop fault).1 :=
  doCollection_reaches h

/-! ### A dereference reads the value that was stored -/

theorem deref_reads_stored (c : Ctx) (p i : Nat) (v : Slot) (o : Obj) (ho : c.heap.get p = some o)
    (hi : i < o.slots.length) : Arena.slotOf (Arena.setSlot c p i v) p i = some v :=
  setSlot_slotOf_of_get v ho hi

/-- **Frame for collector steps**: a collector micro-step leaves the slots of every object that is
    allocated and undestructed afterwards exactly as they were (and such an object was
    undestructed before). -/
theorem collector_step_keeps_slots {c c' : Ctx} {root : List Slot} (h : CInv c root []) (m : Micro)
    (hs : c.micro root m = some c') (i : Nat) (o o' : Obj) (ho : c.heap.get i = some o)
    (ho' : c'.heap.get i = some o') (hl : o'.live = true) : o'.slots = o.slots ∧ o.live = true :=
  ((micro_iff.mp hs).liveFrame h).at ho ho' hl

/-- The same for a whole `Context::do_collection` call — any `RunUntil`, `Stop`, pacing, debt and
    fault position. -/
theorem collection_call_keeps_slots {c : Ctx} {root : List Slot} (h : CInv c root []) (ru : RunUntil)
    (stop : Stop) (fault : TraceFault) (i : Nat) (o o' : Obj) (ho : c.heap.get i = some o)
    (ho' : (c.doCollection root ru stop fault).1.heap.get i = some o') (hl : o'.live = true) :
    o'.slots = o.slots ∧ o.live = true :=
  ((doCollection_reaches h).liveFrame h).at ho ho' hl

/-- The same for every collection op of the API, on every state an arena can reach: every method,
    continuation (`drop` / `finalize` / `start_sweeping`), fault position, self- or oracle-driven. -/
theorem collect_op_keeps_slots (n : Nat) (pre : List Op) (m : Method) (k : Cont) (f : TraceFault)
    (oracle : Option (List Micro)) :
    let a := (Arena.new n).run pre
    a.alive = true →
    ∀ i o o', a.ctx.heap.get i = some o → (a.step (.collect m k f oracle)).1.ctx.heap.get i = some o' →
      o'.live = true → o'.slots = o.slots ∧ o.live = true := by
  intro a halive i o o' ho ho' hl
  have h := inv_run n pre halive
  exact ((step_collect_rel h m k f oracle).liveFrame h).at ho ho' hl

/-- **Slots change only by stores into them.**  On any state an arena can reach: if slot `k` of
    object `i` reads `v` (because it was just stored there, or because `i` was allocated with it),
    then after any further operations none of which is a store into `(i, k)` — allocations, stores
    into other objects and into other slots of `i`, barriers, upgrades, resurrections, root
    replacement, callbacks ending and beginning, collection calls of every kind — it still reads
    `v`, for as long as `i` has not been destructed. -/
theorem slot_reads_back_run (n : Nat) (pre : List Op) (i k : Nat) (v : Slot) (ops : List Op) :
    let a := (Arena.new n).run pre
    a.alive = true → Arena.slotOf a.ctx i k = some v →
    (∀ op, op ∈ ops → op.writesSlot i k = false) →
    (a.run ops).alive = true →
    (∃ o', (a.run ops).ctx.heap.get i = some o' ∧ o'.live = true) →
    Arena.slotOf (a.run ops).ctx i k = some v := by
  intro a halive hv hops hal hl
  exact slot_reads_back (inv_run n pre halive) i k v ops hv hops hal hl

/-- **A dereference reads the last value stored.**  On any state an arena can reach, after an
    accepted store of `v` into slot `k` of object `i` (through any write path) and any further
    operations none of which stores into `(i, k)`, a read of that slot through a held `Gc` pointer
    returns `v`.  (Holding the pointer implies `i` is still undestructed: C01 `safety`.) -/
theorem deref_reads_last_store (n : Nat) (pre : List Op) (path : StorePath) (i k : Nat) (v : Slot)
    (ops : List Op) :
    let a := (Arena.new n).run pre
    let b := (a.step (.store path i k v)).1.run ops
    a.alive = true → (a.step (.store path i k v)).2 = "ok" →
    (∀ op, op ∈ ops → op.writesSlot i k = false) →
    b.alive = true → b.cb ≠ none → b.holds (.strong i) = true →
    (b.step (.read i k)).2 = Arena.showSlot v := by
  intro a b halive hok hops hbal hcb hh
  have h : Inv a := inv_run n pre halive
  have hal1 : (a.step (.store path i k v)).1.alive = true := alive_of_run_alive hbal
  have h1 : Inv (a.step (.store path i k v)).1 := inv_step h _ hal1
  have hb : Inv b := inv_run_from ops h1 hbal
  have hsafe : Safe b.ctx i := hb.ptrOK_of_holds hh
  obtain ⟨o', ho', hl', _⟩ := hsafe
  have hv := slot_reads_back h1 i k v ops (store_sets_slot path i k v hok) hops hbal ⟨o', ho', hl'⟩
  exact read_returns_slot hbal hcb hh hv

/-! ### Non-vacuity: a concrete history reaching the states the hypotheses talk about -/

/-- root → 1 → 0, object 2 garbage; full mark, sweep started, one sweep step (2 released), then a
    callback that reads its way down the graph while the sweep is half done. -/
def demo : List Op := [
  .enter .mutateRoot, .alloc true [none, none], .alloc true [some (.strong 0), none],
  .rootStore 0 (some (.strong 1)), .alloc true [none, none], .leave,
  .collect .finishMarking .sweep none
    (some [.wake, .markStep none, .markStep none, .markStep none, .markBreak, .toSweep]),
  .collect .collectDebt .drop none (some [.sweepStep]),
  .enter .mutate, .readRoot 0, .read 1 0 ]

private theorem demo_facts :
    ((Arena.new 2).run demo).alive = true ∧ ((Arena.new 2).run demo).ctx.phase = .sweep ∧
    ((Arena.new 2).run demo).temps = [.strong 0, .strong 1] ∧
    ((Arena.new 2).run demo).ctx.log = [.freed 2, .dropped 2] := by decide +kernel

example : ((Arena.new 2).run demo).alive = true := demo_facts.1
example : ((Arena.new 2).run demo).ctx.phase = .sweep := demo_facts.2.1
example : ((Arena.new 2).run demo).temps = [.strong 0, .strong 1] := demo_facts.2.2.1
example : ((Arena.new 2).run demo).ctx.log = [.freed 2, .dropped 2] := demo_facts.2.2.2
example : Accessible ((Arena.new 2).run demo) 0 := .temp 0 (by rw [demo_facts.2.2.1]; simp)

/-- `deref_reads_last_store` on a concrete history: root → 0; `strong 1` is stored into slot 0 of
    object 0; then the callback ends, a whole cycle runs in three collection calls (marking,
    sweeping started, the rest), interleaved with a callback that allocates and stores into slot 1
    of the same object; a later callback reads slot 0 and gets `s1`. -/
def storeDemoPre : List Op := [
  .enter .mutateRoot, .alloc true [none, none], .rootStore 0 (some (.strong 0)), .alloc true [none] ]

def storeDemoOps : List Op := [
  .leave,
  .collect .finishMarking .sweep none none,
  .enter .mutate, .readRoot 0, .alloc true [none], .store .write 0 1 (some (.strong 2)), .leave,
  .collect .finishCycle .drop none none,
  .enter .mutate, .readRoot 0 ]

example : (((((Arena.new 1).run storeDemoPre).step (.store .write 0 0 (some (.strong 1)))).1.run storeDemoOps).step
    (.read 0 0)).2 = "s1" :=
  have stored : ((Arena.new 1).run storeDemoPre).alive = true ∧
      (((Arena.new 1).run storeDemoPre).step (.store .write 0 0 (some (.strong 1)))).2 = "ok" := by
    decide +kernel
  have later :
      ((((Arena.new 1).run storeDemoPre).step (.store .write 0 0 (some (.strong 1)))).1.run storeDemoOps).alive = true ∧
      ((((Arena.new 1).run storeDemoPre).step (.store .write 0 0 (some (.strong 1)))).1.run storeDemoOps).cb ≠ none ∧
      ((((Arena.new 1).run storeDemoPre).step (.store .write 0 0 (some (.strong 1)))).1.run storeDemoOps).holds
        (.strong 0) = true := by
    decide +kernel
  deref_reads_last_store 1 storeDemoPre .write 0 0 (some (.strong 1)) storeDemoOps stored.1 stored.2
    (by decide +kernel) later.1 later.2.1 later.2.2

end GcArena.C01
