import GcArena.Proofs.Quiet
import GcArena.Props.C18
import GcArena.Props.C01
import GcArena.Props.C02
import GcArena.Props.C04
/-!
# C11 — Panic safety: a panic at any point leaves the arena consistent and usable

Fault steps are ordinary members of `Op`: `collect m k (some (k, j)) …` — the `k`-th `trace` call
of that collection call unwinds after reporting `j` slots (the `DropGuard` of `mark_one` re-queues
the object; the root stays flagged) — and `leave` at any point of a callback (a callback that
panics: the prefix of its effects stays).  `inv_run` quantifies over all operation sequences, so it
already covers every fault position in every schedule, repeated faults included; C01–C05 are
corollaries of the same invariant and hence hold on the continued history.

The builder clause ("an element constructor passed to a slice builder panics at any index … an
abandoned builder destructs exactly the parts that were initialised") is about the builder state
machine `GcArena.Model.Builder` (C18's model): `builder_fault_at_every_index`,
`builder_abandoned_leaves_arena`, `repeated_builder_faults` at the end of this file; its tie to
the code is the fault-sequence subset of the layout harness (`harness_layout --prop C11`,
lib/eng_layout.py): repeated builder faults on one arena, each step compared with `layoutmodel`,
the arena probed for usability after every caught unwind.
-/
namespace GcArena.C11

open GcArena

/-- A `trace` that unwinds at any call `k`, after any number `j` of slots, in any collection
    method, preserves the invariant. -/
theorem trace_fault_preserves_inv {a : Arena} (h : Inv a) (m : Method) (k : Cont) (kj : Nat × Nat)
    (oracle : Option (List Micro)) :
    Inv (a.step (.collect m k (some kj) oracle)).1 :=
  inv_step h _ ((step_collect_rel h m k (some kj) oracle).alive.trans h.alive)

/-- One `mark_one` whose `trace` unwinds after `j` slots — of an object or of the root — preserves
    the invariant, releases nothing, and leaves the phase alone. -/
theorem mark_one_fault {c : Ctx} {root temps} (h : CInv c root temps) (hm : c.phase = .mark) (j : Nat) :
    CInv (c.markOne root (some j)).1 root temps ∧ (c.markOne root (some j)).1.log = c.log ∧
    (c.markOne root (some j)).1.phase = .mark :=
  ⟨(markOne_spec h hm (some j)).1, (markOne_spec h hm (some j)).2.log,
   (markOne_spec h hm (some j)).2.phase.trans hm⟩

/-- If the root's `trace` unwinds, the root stays flagged for tracing. -/
theorem root_fault_keeps_flag (c : Ctx) (root : List Slot) (j : Nat) (hg : c.gray = [])
    (hga : c.grayAgain = []) (hr : c.rootNeedsTrace = true) (hinv : CInv c root []) (hm : c.phase = .mark) :
    (c.markOne root (some j)).1.rootNeedsTrace = true ∧ (c.markOne root (some j)).2 = .unwind := by
  -- queues empty and the flag set: `mark_one` takes its root arm, which under a fault traces
  -- `root.take j` and exits with `.unwind` by definition; `traceSlots` leaves the flag (`rnt`) alone
  unfold Ctx.markOne
  simp only [hg, hga, hr, if_true]
  have hs : CInv (c.step 'r') root [] := hinv.sameView (sameView_step c 'r')
  obtain ⟨_, m3, _, _⟩ := traceSlots_spec (root.take j) hs (show (c.step 'r').phase = .mark from hm)
    (fun p hp => hs.rootOK p (List.mem_of_mem_take hp))
  exact ⟨m3.rnt.trans hr, trivial⟩

/-- A callback that panics at any point (the prefix of its operations, then `leave`) preserves the
    invariant: every sanctioned store path is barrier-before-store or an atomic store+barrier, so
    there is no point inside a callback at which the invariant is broken.
    NB: this is `inv_run` verbatim — `body` is unconstrained, so it is any prefix of any callback of
    any kind (`.enter k` is simply a member of `pre`), and "panic" is nothing but "the callback ends
    here". -/
theorem callback_panic_preserves_inv (n : Nat) (pre body : List Op)
    (halive : ((Arena.new n).run (pre ++ body ++ [.leave])).alive = true) :
    Inv ((Arena.new n).run (pre ++ body ++ [.leave])) :=
  inv_run n _ halive

/-- Repeated faults, in any schedule: faults are members of `ops`, so this is `inv_run` and
    `C01.no_internal_fault` for every history. -/
theorem repeated_faults (n : Nat) (ops : List Op) (halive : ((Arena.new n).run ops).alive = true) :
    Inv ((Arena.new n).run ops) ∧ ((Arena.new n).run ops).ctx.err = none :=
  ⟨inv_run n ops halive, C01.no_internal_fault n ops halive⟩

/-- No reachable value is lost across faults: `C01.safety`, whose histories contain the faults. -/
theorem reachable_survives_faults (n : Nat) (ops : List Op)
    (halive : ((Arena.new n).run ops).alive = true) (i : Nat)
    (hi : Accessible ((Arena.new n).run ops) i) :
    ∃ o, ((Arena.new n).run ops).ctx.heap.get i = some o ∧ o.live = true :=
  C01.safety n ops halive i hi

/-! ### After the unwind: C01–C05 on the continued history, and failed owning callbacks -/

private theorem cb_after_leave (b : Arena) (hal : (b.step .leave).1.alive = true) :
    (b.step .leave).1.cb = none := by
  rw [step_eq (alive_of_run (ops := [.leave]) hal)]
  simp only [Arena.stepBody, Arena.bad]
  cases b.cb <;> rfl

/-- The state right after a callback of kind `k` unwound having performed `body` (any operations a
    callback can perform — also none, also rejected ones). -/
def afterUnwind (n : Nat) (pre : List Op) (k : CbKind) (body : List Op) : Arena :=
  (Arena.new n).run (pre ++ [.enter k] ++ body ++ [.leave])

theorem afterUnwind_cb (n : Nat) (pre : List Op) (k : CbKind) (body : List Op)
    (hal : (afterUnwind n pre k body).alive = true) : (afterUnwind n pre k body).cb = none := by
  unfold afterUnwind at hal ⊢
  rw [Arena.run_append] at hal ⊢
  simp only [Arena.run] at hal ⊢
  exact cb_after_leave _ hal

/-- What C01, C03–C05 say of a state reached by any history. -/
private theorem all_run (n : Nat) (ops : List Op) (hal : ((Arena.new n).run ops).alive = true) :
    let b := (Arena.new n).run ops
    Inv b ∧ b.ctx.err = none ∧
    (∀ i, Accessible b i → Safe b.ctx i) ∧
    (b.ctx.log.Nodup ∧ ∀ i, Event.freed i ∈ b.ctx.log → Event.dropped i ∈ b.ctx.log) ∧
    (∀ i o, b.ctx.heap.get i = some o → (o.live = false ↔ Event.dropped i ∈ b.ctx.log)) ∧
    (∀ i, i < b.ctx.heap.size → (∃ o, b.ctx.heap.get i = some o) ∨ Event.freed i ∈ b.ctx.log) :=
  ⟨inv_run n _ hal, C01.no_internal_fault n _ hal, fun i hi => C01.not_condemned n _ hal i hi,
    C04.once n _, fun i o ho => C04.is_dropped_exact n _ i o ho, fun i hi => C04.nothing_unaccounted n _ i hi⟩

/-- **After the unwind of a panicking callback of each kind** (`mutate`, `mutate_root` = also
    `map_root` / `try_map_root` / the constructor of `new` / `try_new`, `finalize`), at any point
    `body` of the callback, on any earlier history `pre`, and through every continuation `cont` —
    more callbacks, more panics, collection calls, faults in `trace` — the arena, while it exists:
    * satisfies the invariant and has tripped no internal assertion;
    * C01: everything the client can name is allocated, undestructed, not condemned;
    * C04: nothing has been destructed or released twice, the value of every released block has
      been destructed;
    * C05: `is_dropped` is exact for every allocated object;
    * C03/C04: every id ever handed out is still allocated or logged as released. -/
theorem after_unwind_continues (n : Nat) (pre : List Op) (k : CbKind) (body cont : List Op) :
    let b := (afterUnwind n pre k body).run cont
    b.alive = true →
    Inv b ∧ b.ctx.err = none ∧
    (∀ i, Accessible b i → Safe b.ctx i) ∧
    (b.ctx.log.Nodup ∧ ∀ i, Event.freed i ∈ b.ctx.log → Event.dropped i ∈ b.ctx.log) ∧
    (∀ i o, b.ctx.heap.get i = some o → (o.live = false ↔ Event.dropped i ∈ b.ctx.log)) ∧
    (∀ i, i < b.ctx.heap.size → (∃ o, b.ctx.heap.get i = some o) ∨ Event.freed i ∈ b.ctx.log) := by
  intro b hal
  have hb : b = (Arena.new n).run (pre ++ [.enter k] ++ body ++ [.leave] ++ cont) := by
    show (afterUnwind n pre k body).run cont = _
    unfold afterUnwind
    rw [← Arena.run_append]
  rw [hb] at hal ⊢
  exact all_run n _ hal

/-- C02 at the post-unwind state: the next two `finish_cycle` calls leave undestructed exactly what
    is strongly reachable from the root as the unwound callback left it — no reachable value was
    lost to the panic, all garbage (including what the callback allocated and dropped) goes. -/
theorem after_unwind_exact_reclamation (n : Nat) (pre : List Op) (k : CbKind) (body : List Op) :
    let a := afterUnwind n pre k body
    a.alive = true →
    let a2 := a.run [.collect .finishCycle .drop none none, .collect .finishCycle .drop none none]
    a2.alive = true ∧ a2.root = a.root ∧
    ∀ i, (∃ o, a2.ctx.heap.get i = some o ∧ o.live = true) ↔ StrongReach a i := by
  intro a hal
  exact C02.exactness_run n _ hal (afterUnwind_cb n pre k body hal)

/-- **The arena drop that follows a failed owning callback releases everything** — this is
    `C04.drop_arena` at the state a failed `mutate_root`-like callback leaves.  For the collector the
    owning callbacks (`Arena::new` / `try_new`'s constructor, `map_root`, `try_map_root`) are
    `mutate_root` callbacks; *that* a failing one (constructor panics, `try_new` / `try_map_root`
    returns `Err`, `map_root` panics) drops the context is **not** part of this model: the driver
    (Model/Parse.lean, the aliases of `enter`; harness `exec.rs::arena_gone`) records it as an explicit
    `droparena` line, and it is the T1 correspondence with the constructor / `map_root` fault profiles
    that validates this mapping against src/arena.rs.  What is proved: after any history `pre` (empty
    for the constructors), any `body` of the callback, the unwind, and that drop, every id ever
    allocated — before or inside the callback — has exactly one `dropped` and exactly one `freed`
    event, no block is allocated any more and `total_gc_count` reads zero. -/
theorem failed_ctor_is_drop_arena (n : Nat) (pre body : List Op) :
    let a := (Arena.new n).run (pre ++ [.enter .mutateRoot] ++ body ++ [.leave])
    let a' := (a.step .dropArena).1
    a.alive = true →
    a'.alive = false ∧ a'.ctx.metrics.totalGcs = 0 ∧ (∀ j, a'.ctx.heap.get j = none) ∧
    ∀ i, i < a.ctx.heap.size →
      a'.ctx.log.count (.dropped i) = 1 ∧ a'.ctx.log.count (.freed i) = 1 := by
  intro a a' hal
  have hcb : a.cb = none := afterUnwind_cb n pre .mutateRoot body hal
  obtain ⟨h1, _, h3, h4, h5, h6⟩ := C04.drop_arena n _ hal hcb
  refine ⟨h3, h1, h4, fun i hi => ?_⟩
  obtain ⟨hf, hd⟩ := h5 i hi
  exact ⟨by rw [List.Nodup.count h6, if_pos hd], by rw [List.Nodup.count h6, if_pos hf]⟩

/-! ### After a `trace` that unwound: C01–C05 on the continued history -/

private theorem collect_panic_guard {a : Arena} {m : Method} {k : Cont} {f : TraceFault}
    {o : Option (List Micro)} (hout : (a.step (.collect m k f o)).2 = "panic") :
    a.alive = true ∧ a.cb = none := by
  cases hal : a.alive with
  | false => simp [Arena.step, hal, Arena.bad] at hout
  | true =>
    refine ⟨rfl, ?_⟩
    rw [step_eq hal] at hout
    cases hcb : a.cb with
    | none => rfl
    | some x => simp [Arena.stepBody, Arena.bad, hcb] at hout

/-- **After a `trace` call unwound** — the collection call `collect m k (some kj) oracle` returned
    `"panic"`: the injected fault fired, the call unwound out of `mark_one` (object re-queued by the
    drop guard, or the root left flagged) — through every continuation `cont` the arena, while it
    exists, satisfies the invariant, has tripped no assertion, and C01 (`not_condemned`), C04
    (`once`), C05 (`is_dropped_exact`), C03/C04 (`nothing_unaccounted`) hold of it.  The proof does
    not use `r.2 = "panic"`: the conclusion holds whatever the call returned. -/
theorem after_trace_fault_continues (n : Nat) (pre : List Op) (m : Method) (k : Cont) (kj : Nat × Nat)
    (oracle : Option (List Micro)) (cont : List Op) :
    let r := ((Arena.new n).run pre).step (.collect m k (some kj) oracle)
    let b := r.1.run cont
    r.2 = "panic" → b.alive = true →
    Inv b ∧ b.ctx.err = none ∧
    (∀ i, Accessible b i → Safe b.ctx i) ∧
    (b.ctx.log.Nodup ∧ ∀ i, Event.freed i ∈ b.ctx.log → Event.dropped i ∈ b.ctx.log) ∧
    (∀ i o, b.ctx.heap.get i = some o → (o.live = false ↔ Event.dropped i ∈ b.ctx.log)) ∧
    (∀ i, i < b.ctx.heap.size → (∃ o, b.ctx.heap.get i = some o) ∨ Event.freed i ∈ b.ctx.log) := by
  intro r b _ hal
  have hb : b = (Arena.new n).run (pre ++ [.collect m k (some kj) oracle] ++ cont) := by
    show (((Arena.new n).run pre).step _).1.run cont = _
    rw [Arena.run_append, Arena.run_append]
    rfl
  rw [hb] at hal ⊢
  exact all_run n _ hal

/-- C02 right after the unwound `trace`: the next two `finish_cycle` calls leave undestructed exactly
    what is strongly reachable from the root — the half-finished marking the fault left behind loses
    no reachable value and retains no garbage. -/
theorem after_trace_fault_exact_reclamation (n : Nat) (pre : List Op) (m : Method) (k : Cont)
    (kj : Nat × Nat) (oracle : Option (List Micro)) :
    let r := ((Arena.new n).run pre).step (.collect m k (some kj) oracle)
    r.2 = "panic" →
    let a2 := r.1.run [.collect .finishCycle .drop none none, .collect .finishCycle .drop none none]
    a2.alive = true ∧ a2.root = r.1.root ∧
    ∀ i, (∃ o, a2.ctx.heap.get i = some o ∧ o.live = true) ↔ StrongReach r.1 i := by
  intro r hout
  obtain ⟨hal, hcb⟩ := collect_panic_guard hout
  have h : Inv ((Arena.new n).run pre) := inv_run n pre hal
  have rel := step_collect_rel h m k (some kj) oracle
  have hr : r.1 = (Arena.new n).run (pre ++ [.collect m k (some kj) oracle]) := by
    show (((Arena.new n).run pre).step _).1 = _
    rw [Arena.run_append]; rfl
  have hal1 : r.1.alive = true := by rw [rel.alive]; exact hal
  have hcb1 : r.1.cb = none := by rw [rel.cb]; exact hcb
  rw [hr] at hal1 hcb1 ⊢
  exact C02.exactness_run n _ hal1 hcb1

/-! ### Non-vacuity: a fault in the middle of marking, then the cycle completes -/

def demo : List Op := [
  .enter .mutateRoot, .alloc true [none, none], .alloc true [some (.strong 0), none],
  .rootStore 0 (some (.strong 1)), .leave,
  .collect .finishMarking .drop (some (1, 1)) (some [.wake, .markStep none, .markStep (some 1)]),
  .collect .finishCycle .drop none
    (some [.markStep none, .markStep none, .markBreak, .toSweep, .sweepStep, .sweepStep, .sweepEnd, .toSleep false]) ]

private theorem demo_facts :
    ((Arena.new 2).run demo).alive = true ∧ ((Arena.new 2).run demo).ctx.log = [] ∧
    ((Arena.new 2).run demo).ctx.phase = .sleep := by decide +kernel

example : ((Arena.new 2).run demo).alive = true := demo_facts.1
example : ((Arena.new 2).run (demo.take 6)).ctx.grayAgain = [1] := by decide +kernel
example : ((Arena.new 2).run demo).ctx.log = [] := demo_facts.2.1
example : ((Arena.new 2).run demo).ctx.phase = .sleep := demo_facts.2.2

/-- A constructor that allocates two objects, links them, and then fails: everything goes. -/
example :
    let a := (Arena.new 1).run ([] ++ [.enter .mutateRoot] ++
      [.alloc true [none], .alloc true [some (.strong 0)], .rootStore 0 (some (.strong 1))] ++ [.leave])
    a.alive = true ∧ a.ctx.heap.size = 2 ∧
      ((a.step .dropArena).1.ctx.log.count (.dropped 0) = 1 ∧ (a.step .dropArena).1.ctx.log.count (.freed 0) = 1) :=
  ⟨by decide +kernel, by decide +kernel,
    (failed_ctor_is_drop_arena 1 [] [.alloc true [none], .alloc true [some (.strong 0)],
      .rootStore 0 (some (.strong 1))] (by decide +kernel)).2.2.2 0 (by decide +kernel)⟩

/-- `after_unwind_continues` / `after_unwind_exact_reclamation` with a **`finalize`** callback that
    really runs: after `demo.take 5` the arena is fully marked with the `MarkedArena` kept
    (`finishMarking … finalize`), so `enter finalize` is accepted (`"ok"`) and its body — reads of the
    root and of object 1, an `is_dead` query — really runs before the callback unwinds. -/
def finalizePre : List Op := [
  .enter .mutateRoot, .alloc true [none, none], .alloc true [some (.strong 0), none],
  .rootStore 0 (some (.strong 1)), .leave,
  .collect .finishMarking .finalize none none ]

example : (((Arena.new 2).run finalizePre).step (.enter .finalize)).2 = "ok" := by decide +kernel
example : ((((Arena.new 2).run (finalizePre ++ [.enter .finalize])).step (.readRoot 0)).2 = "s1") := by decide +kernel

example : Inv ((afterUnwind 2 finalizePre .finalize [.readRoot 0, .read 1 0, .isDead (.strong 0)]).run
    [.collect .finishCycle .drop none none]) :=
  (after_unwind_continues 2 finalizePre .finalize [.readRoot 0, .read 1 0, .isDead (.strong 0)]
    [.collect .finishCycle .drop none none] (by decide +kernel)).1

example : ∃ o, ((afterUnwind 2 finalizePre .finalize [.readRoot 0, .read 1 0]).run
    [.collect .finishCycle .drop none none, .collect .finishCycle .drop none none]).ctx.heap.get 0 = some o ∧
      o.live = true :=
  ((after_unwind_exact_reclamation 2 finalizePre .finalize [.readRoot 0, .read 1 0] (by decide +kernel)).2.2 0).mpr
    (.edge 1 0 (.root 1 (by decide +kernel)) ⟨⟨.black, true, true, [some (.strong 0), none]⟩, by decide +kernel, by simp⟩)

/-- The fault of `demo` fired (`"panic"`), self-driven as well as oracle-driven; the two theorems
    about the state after it apply. -/
example : (((Arena.new 2).run (demo.take 5)).step
    (.collect .finishMarking .drop (some (1, 1)) (some [.wake, .markStep none, .markStep (some 1)]))).2 = "panic" := by
  decide +kernel
private theorem demo_fault :
    (((Arena.new 2).run (demo.take 5)).step (.collect .finishMarking .drop (some (1, 1)) none)).2 = "panic" := by
  decide +kernel
example : (((Arena.new 2).run (demo.take 5)).step (.collect .finishMarking .drop (some (1, 1)) none)).2 = "panic" :=
  demo_fault

example : ∃ o, ((((Arena.new 2).run (demo.take 5)).step (.collect .finishMarking .drop (some (1, 1)) none)).1.run
    [.collect .finishCycle .drop none none, .collect .finishCycle .drop none none]).ctx.heap.get 0 = some o ∧
      o.live = true :=
  ((after_trace_fault_exact_reclamation 2 (demo.take 5) .finishMarking .drop (1, 1) none demo_fault).2.2 0).mpr
    (.edge 1 0 (.root 1 (by decide +kernel)) ⟨⟨.gray, true, true, [some (.strong 0), none]⟩, by decide +kernel, by simp⟩)

example : Inv ((((Arena.new 2).run (demo.take 5)).step (.collect .finishMarking .drop (some (1, 1)) none)).1.run
    [.enter .mutate, .alloc true [none], .leave, .collect .finishCycle .drop none none]) :=
  (after_trace_fault_continues 2 (demo.take 5) .finishMarking .drop (1, 1) none
    [.enter .mutate, .alloc true [none], .leave, .collect .finishCycle .drop none none] demo_fault (by decide +kernel)).1

/-! ### The builder clause: a panicking element constructor, at every index

Model: `GcArena.Model.Builder` (the state machine of C18).  `k = vs.length` elements have been
stored when the constructor is called for index `k`; `k < n`: it panics (`ctorPanic`), `k = n`:
the loop is over and the builder completes (`finish`). -/

/-- For every slice / slice-with-header builder of every length `n`, every header and element
    layout, every arena state and every fault index `k ≤ n` (`k = vs.length` elements stored):
    * `k < n`, the constructor panics at index `k`: the trace is exactly one allocation, the start
      of the unwind, the header destructor (the header `()` of a plain slice builder included),
      the destructors of elements `0 … k-1` in order, and one deallocation with the allocated
      layout — each initialised element destructed exactly once, no other element, the header
      exactly once — and the arena side is untouched: same `total_gc_count`, same allocation
      counter (hence same debt), the block is not on the `all` list and not live, no `link`;
    * `k = n`, no fault: exactly one allocation and one `link`, the contents are the `n`
      elements produced, the counters go up by one. -/
theorem builder_fault_at_every_index (c : Builder.Cfg) (g a : Nat) (vs : List Nat) (p : Layout.Plan)
    (hk : c.kind = .slice ∨ c.kind = .swh) (_hle : vs.length ≤ c.n)
    (hp : Layout.gcAlloc c.maxSize c.hdr c.pk c.ptrMeta = some p) :
    (vs.length < c.n →
      Builder.run c (Builder.initial g a)
          ((if c.kind = .swh then [.create, .writeHeader] else [.create]) ++
            vs.map .writeElem ++ [.ctorPanic]) =
        { stage := .dropped,
          events := [.allocB p.alloc, .panic] ++ Builder.dropEvents vs.length ++ [.deallocB p.alloc],
          written := vs, gcs := g, allocated := a, onAllList := false, live := false,
          stuck := false } ∧
      (∀ i, (Builder.dropEvents vs.length).count (.dropElem i) = (if i < vs.length then 1 else 0)) ∧
      (Builder.dropEvents vs.length).count .dropHeader = 1 ∧ Builder.Event.link ∉ Builder.dropEvents vs.length) ∧
    (vs.length = c.n →
      Builder.run c (Builder.initial g a)
          ((if c.kind = .swh then [.create, .writeHeader] else [.create]) ++
            vs.map .writeElem ++ [.finish]) =
        { stage := .linked, events := [.allocB p.alloc, .link], written := vs, gcs := g + 1,
          allocated := a + 1, onAllList := true, live := true, stuck := false }) := by
  -- `dropEvents_count k i`: the count of `dropElem i`, the count of `dropHeader`, no `link`, …; the
  -- last ones do not depend on `i`
  refine ⟨fun hlt => ⟨?_, fun i => (Builder.dropEvents_count vs.length i).1,
    (Builder.dropEvents_count vs.length 0).2.1, (Builder.dropEvents_count vs.length 0).2.2.1⟩,
    fun heq => C18.complete_write_slice c g a vs p hk heq hp⟩
  have hgc : c.kind ≠ .gc := fun e => by rw [e] at hk; simp at hk
  -- after the creation prefix the builder is not stuck and at `stageOf 0` (the two `rfl`s), and
  -- `0 + vs.length ≤ c.n`: all of `vs` is written
  rw [List.append_assoc, Builder.run_create_prefix c g a hgc hp,
    Builder.run_writeElems c hk vs [.ctorPanic] _ 0 rfl rfl (by omega)]
  simp only [Builder.run, Nat.zero_add]
  rw [C18.ctor_panic c _ vs.length rfl hk rfl hlt, Builder.deallocEvents_of_gcAlloc hp]
  simp

/-- Whatever the client does with a builder and wherever a fault strikes (any sequence of
    creation, header write, element writes, a panicking constructor at any index, a copy of any
    length, explicit drop): if no `Gc` came out, the arena side is exactly what it was — same
    `total_gc_count`, same allocation counter / debt, block on no list, no `link` — and if the
    builder was destroyed its trace is one allocation, possibly the start of an unwind, the
    header destructor and the destructors of exactly the `k` elements stored so far (none at all
    for a builder abandoned before its header was written), one deallocation of the allocated
    layout. -/
theorem builder_abandoned_leaves_arena (c : Builder.Cfg) (g a : Nat) (acts : List Builder.Action)
    (h : (Builder.run c (Builder.initial g a) acts).stage ≠ .linked) :
    (Builder.Event.link ∉ (Builder.run c (Builder.initial g a) acts).events ∧ (Builder.run c (Builder.initial g a) acts).gcs = g ∧
      (Builder.run c (Builder.initial g a) acts).allocated = a ∧ (Builder.run c (Builder.initial g a) acts).onAllList = false ∧
      (Builder.run c (Builder.initial g a) acts).live = false) ∧
    ((Builder.run c (Builder.initial g a) acts).stage = .dropped →
      ∃ (p : Layout.Plan) (pan : Bool) (init : Option Nat),
        Layout.gcAlloc c.maxSize c.hdr c.pk c.ptrMeta = some p ∧
        (Builder.run c (Builder.initial g a) acts).events =
          [.allocB p.alloc] ++ (if pan then [.panic] else []) ++
            (match init with | some k => Builder.dropEvents k | none => []) ++ [.deallocB p.alloc] ∧
        (∀ k, init = some k → k = (Builder.run c (Builder.initial g a) acts).written.length ∧ k ≤ c.n)) :=
  ⟨C18.abandon c g a acts h, C18.abandon_events c g a acts⟩

/-- Repeated faults on one arena: after any number of builder episodes — each with any
    configuration and any client behaviour, faults at any index included — `total_gc_count` and
    the allocation counter have grown by exactly the number of episodes that produced a `Gc`;
    the abandoned ones left no trace on the arena. -/
theorem repeated_builder_faults (eps : List (Builder.Cfg × List Builder.Action)) (g a l : Nat) :
    (Builder.runEpisodes g a l eps).1 + l = g + (Builder.runEpisodes g a l eps).2.2 ∧
      (Builder.runEpisodes g a l eps).2.1 + l = a + (Builder.runEpisodes g a l eps).2.2 ∧
      l ≤ (Builder.runEpisodes g a l eps).2.2 := by
  induction eps generalizing g a l with
  | nil => simp [Builder.runEpisodes]
  | cons e eps ih =>
    obtain ⟨c, acts⟩ := e
    unfold Builder.runEpisodes
    by_cases hl : (Builder.run c (Builder.initial g a) acts).stage = .linked
    · obtain ⟨_, _, _, h1, h2, _⟩ := C18.complete c g a acts hl
      rw [if_pos hl, h1, h2]
      have := ih (g + 1) (a + 1) (l + 1)
      omega
    · obtain ⟨_, h1, h2, _⟩ := C18.abandon c g a acts hl
      rw [if_neg hl, h1, h2]
      exact ih g a l

/-- In particular, any number of faulted builders in a row leaves the counters where they
    were. -/
theorem only_faults_change_nothing (eps : List (Builder.Cfg × List Builder.Action)) (g a : Nat)
    (h : (Builder.runEpisodes g a 0 eps).2.2 = 0) :
    (Builder.runEpisodes g a 0 eps).1 = g ∧ (Builder.runEpisodes g a 0 eps).2.1 = a := by
  have := repeated_builder_faults eps g a 0
  omega

/-! ### Non-vacuity: constructor panics at index 2 of 3, then at index 0, then a completed builder,
on one arena (64-bit target, `SliceWithHeader<u64, u64>`) -/

example :
    (Builder.run ⟨2 ^ 63 - 1, ⟨16, 8⟩, 8, .swh, ⟨8, 8⟩, ⟨8, 8⟩, 3⟩ (Builder.initial 5 2)
      [.create, .writeHeader, .writeElem 10, .writeElem 11, .ctorPanic]).events =
    [.allocB ⟨56, 8⟩, .panic, .dropHeader, .dropElem 0, .dropElem 1, .deallocB ⟨56, 8⟩] := by
  decide +kernel

example :
    Builder.runEpisodes 5 2 0
      [(⟨2 ^ 63 - 1, ⟨16, 8⟩, 8, .swh, ⟨8, 8⟩, ⟨8, 8⟩, 3⟩,
          [.create, .writeHeader, .writeElem 10, .writeElem 11, .ctorPanic]),
       (⟨2 ^ 63 - 1, ⟨16, 8⟩, 8, .swh, ⟨8, 8⟩, ⟨8, 8⟩, 3⟩, [.create, .writeHeader, .ctorPanic]),
       (⟨2 ^ 63 - 1, ⟨16, 8⟩, 8, .slice, Layout.unitLayout, ⟨8, 8⟩, 2⟩,
          [.create, .writeElem 1, .writeElem 2, .finish])] = (6, 3, 1) := by
  decide +kernel

end GcArena.C11
