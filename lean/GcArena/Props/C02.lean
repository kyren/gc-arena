import GcArena.Proofs.Events
import GcArena.Proofs.Exact
import GcArena.Proofs.RunBridge
import GcArena.Proofs.Release
import GcArena.Proofs.ShellRun
/-!
# C02 — Exact, complete reclamation

What a sweep step does to the object under the cursor, by colour — the local facts from which
exactness follows — and the full-strength theorems `exactness`, `shells`, `shell_release`.
They rest on the termination of the driver loop (Proofs/Termination, Proofs/Protocol), on the
fact that collector steps change neither the strong-reachability relation nor the "weakly held"
relation (Proofs/Stable), and on the tightness invariant "gray/black ⇒ strongly reachable,
weakly marked ⇒ weakly held, kept by the sweep ⇒ reachable or a weakly held shell, while no
mutator step intervenes" (Proofs/Tight, lifted to `finish_cycle` calls in Proofs/Exact).
The history-level theorems are stated with `Nameable` (Proofs/Release.lean), `WeakHeld`
(Proofs/Stable.lean) and `WeakHeldA` (Proofs/ShellRun.lean).
-/
namespace GcArena.C02

open GcArena

/-- A white object under the cursor is destructed (if not already) and released. -/
theorem sweep_white_released (c : Ctx) (i : Nat) (rest' : List Nat) (o : Obj) (hr : c.rest = i :: rest')
    (ho : c.heap.get i = some o) (hw : o.color = .white) :
    c.sweepOne.1.heap.get i = none ∧ Event.freed i ∈ c.sweepOne.1.log ∧
    (o.live = true → Event.dropped i ∈ c.sweepOne.1.log) := by
  obtain ⟨hlog, hget, _⟩ := sweepOne_at hr ho
  rw [hlog, hget, if_pos rfl]
  cases hl : o.live <;> simp [sweptCell, sweptEvents, hw, hl]

/-- A black object under the cursor is kept, untouched but for its colour. -/
theorem sweep_black_kept (c : Ctx) (i : Nat) (rest' : List Nat) (o : Obj) (hr : c.rest = i :: rest')
    (ho : c.heap.get i = some o) (hb : o.color = .black) :
    c.sweepOne.1.heap.get i = some { o with color := .white } ∧ c.sweepOne.1.log = c.log := by
  obtain ⟨hlog, hget, _⟩ := sweepOne_at hr ho
  rw [hlog, hget, if_pos rfl]
  simp [sweptCell, sweptEvents, hb]

/-- A weakly marked object under the cursor is destructed once and its block kept as a shell. -/
theorem sweep_weak_shell (c : Ctx) (i : Nat) (rest' : List Nat) (o : Obj) (hr : c.rest = i :: rest')
    (ho : c.heap.get i = some o) (hw : o.color = .whiteWeak) :
    (∃ o', c.sweepOne.1.heap.get i = some o' ∧ o'.live = false ∧ o'.color = .white) ∧
    (o.live = true → c.sweepOne.1.log = .dropped i :: c.log) ∧
    (o.live = false → c.sweepOne.1.log = c.log) := by
  obtain ⟨hlog, hget, _⟩ := sweepOne_at hr ho
  rw [hlog, hget, if_pos rfl]
  cases hl : o.live <;> simp [sweptCell, sweptEvents, hw, hl]

/-- No sequence of enabled collector micro-steps releases or destructs anything that was strongly
    reachable when it began (C01): the half of exactness that needs no completed cycle. -/
theorem reachable_survives {root : List Slot} (ms : List Micro) {c c' : Ctx} (h : CInv c root [])
    (hs : c.micros root ms = some c') (i : Nat) (hr : StrongReachC c root i) :
    ∃ o, c'.heap.get i = some o ∧ o.live = true := by
  have := (micros_events ms h hs).2 i hr
  obtain ⟨o, ho, hl, _⟩ := (micros_inv ms h hs).safe_of_accessible this
  exact ⟨o, ho, hl⟩

def finishCycle2 (c : Ctx) (root : List Slot) : Ctx :=
  ((c.doCollection root .stop .finishCycle none).1.doCollection root .stop .finishCycle none).1

/-- **Exactness** (for every state satisfying the invariant — any phase, any colours
    left by earlier mutator activity): after two consecutive `finish_cycle` calls the
    undestructed allocated objects are *exactly* the objects strongly reachable from the root
    when the first call began. -/
theorem exactness :
  ∀ (c : Ctx) (root : List Slot), CInv c root [] →
    ∀ i, (∃ o, (finishCycle2 c root).heap.get i = some o ∧ o.live = true) ↔ StrongReachC c root i := by
  intro c root h i
  obtain ⟨h2, p2, s, T2⟩ := finishCycle_twice h
  constructor
  · rintro ⟨o, ho, hl⟩
    exact (s.reach i).mp ((T2.asleep h2 p2 ho).1 hl)
  · intro hr
    obtain ⟨o, ho, hl, _⟩ := h2.safe_of_accessible ((s.reach i).mpr hr)
    exact ⟨o, ho, hl⟩

/-- **Shells**: what else stays allocated after the two calls is a destructed shell
    whose `GcWeak` is stored in the root or in a strongly reachable object. -/
theorem shells :
  ∀ (c : Ctx) (root : List Slot), CInv c root [] →
    ∀ i o, (finishCycle2 c root).heap.get i = some o → o.live = false →
      some (Ptr.weak i) ∈ root ∨
      ∃ j oj, StrongReachC c root j ∧ c.heap.get j = some oj ∧ some (Ptr.weak i) ∈ oj.slots := by
  intro c root h i o ho hl
  obtain ⟨h2, p2, s, T2⟩ := finishCycle_twice h
  exact (s.weak i).mp ((T2.asleep h2 p2 ho).2 hl)

/-- **Shell release**: a shell held by nothing reachable is released by the next full
    cycle. -/
theorem shell_release :
  ∀ (c : Ctx) (root : List Slot), CInv c root [] → c.phase = .sleep →
    ∀ i o, c.heap.get i = some o → o.live = false → some (Ptr.weak i) ∉ root →
      (∀ j oj, StrongReachC c root j → c.heap.get j = some oj → some (Ptr.weak i) ∉ oj.slots) →
      (c.doCollection root .stop .finishCycle none).1.heap.get i = none := by
  intro c root h hp i o ho hl hnr hnh
  obtain ⟨h1, p1, s1, t1⟩ := finishCycle_spec h
  have T1 := t1 (fun hne => absurd hp hne)
  cases ho' : (c.doCollection root .stop .finishCycle none).1.heap.get i with
  | none => rfl
  | some o' =>
    exfalso
    obtain ⟨hlive, hdead⟩ := T1.asleep h1 p1 ho'
    cases hl' : o'.live with
    | true =>
      obtain ⟨o2, ho2, hl2, _⟩ := h.safe_of_accessible ((s1.reach i).mp (hlive hl'))
      rw [ho] at ho2; cases ho2
      rw [hl] at hl2; cases hl2
    | false =>
      rcases (s1.weak i).mp (hdead hl') with hw | ⟨j, oj, hj, hoj, hw⟩
      · exact hnr hw
      · exact hnh j oj hj hoj hw

/-- **Exactness, at the API**: on any state an arena can reach, outside callbacks, two
    consecutive `Arena::finish_cycle()` calls (self-driven: `Context::do_collection` literally)
    leave allocated and undestructed exactly the objects that were strongly reachable from the
    root before the first call. -/
theorem exactness_run (n : Nat) (pre : List Op) :
    let a := (Arena.new n).run pre
    a.alive = true → a.cb = none →
    let a2 := a.run [.collect .finishCycle .drop none none, .collect .finishCycle .drop none none]
    a2.alive = true ∧ a2.root = a.root ∧
    ∀ i, (∃ o, a2.ctx.heap.get i = some o ∧ o.live = true) ↔ StrongReach a i := by
  intro a halive hcb a2
  have h : Inv a := inv_run n pre halive
  obtain ⟨hal, hroot, hctx⟩ := run_finishCycle2 h hcb .drop .drop
  refine ⟨hal, hroot, fun i => ?_⟩
  show (∃ o, a2.ctx.heap.get i = some o ∧ o.live = true) ↔ StrongReachC a.ctx a.root i
  rw [hctx]
  exact exactness a.ctx a.root (h.cinv0 hcb) i

/-- **Shells, at the API**: whatever else those two calls leave allocated is a
    destructed shell whose `GcWeak` was stored in the root or in a strongly reachable object. -/
theorem shells_run (n : Nat) (pre : List Op) :
    let a := (Arena.new n).run pre
    a.alive = true → a.cb = none →
    let a2 := a.run [.collect .finishCycle .drop none none, .collect .finishCycle .drop none none]
    ∀ i o, a2.ctx.heap.get i = some o → o.live = false →
      some (Ptr.weak i) ∈ a.root ∨
      ∃ j oj, StrongReach a j ∧ a.ctx.heap.get j = some oj ∧ some (Ptr.weak i) ∈ oj.slots := by
  intro a halive hcb a2 i o ho hl
  have h : Inv a := inv_run n pre halive
  obtain ⟨_, _, hctx⟩ := run_finishCycle2 h hcb .drop .drop
  rw [hctx] at ho
  exact shells a.ctx a.root (h.cinv0 hcb) i o ho hl

/-- **Complete reclamation over histories.**  On any sleeping state an arena can reach,
    outside callbacks: an allocated object `i` — destructed shell or not — to which *no chain of
    pointers of either kind* leads from the root (`Nameable`: follow `Gc` and `GcWeak` alike) has
    been released by the time the next cycle completes (a `'Z'`, the `Sweep → Sleep` switch, has
    been appended to the step log), whatever was interleaved: callbacks of every kind with any
    allocations, stores, barriers, upgrades and resurrections, and collection calls of every
    method, self- or oracle-driven, with faults. -/
theorem unnameable_released_run (n : Nat) (pre : List Op) (i : Nat) (o : Obj) (ops : List Op) :
    let a := (Arena.new n).run pre
    a.alive = true → a.cb = none → a.ctx.phase = .sleep →
    a.ctx.heap.get i = some o → ¬ Nameable a.ctx a.root i →
    (a.run ops).alive = true →
    (∃ new, (a.run ops).ctx.steps = new ++ a.ctx.steps ∧ 'Z' ∈ new) →
    (a.run ops).ctx.heap.get i = none ∧ Event.freed i ∈ (a.run ops).ctx.log := by
  intro a halive hcb hsl ho hnn hal ⟨new, hnew, hz⟩
  have h : Inv a := inv_run n pre halive
  have hw := h.cinv.sleepWhite hsl
  -- asleep, every object is white; white with no chain of pointers of either kind leading to it is
  -- `Doomed`, which every step preserves until a `'Z'` releases the block
  have d : Doomed (fun _ => True) a.ctx a.root a.temps i o := by
    rw [h.cbTemps hcb]
    exact ⟨ho, hw i o ho, fun ht => hnn (nameable_of_touchable hw ht), fun hp => by rw [hsl] at hp; cases hp⟩
  exact doomed_released_run h i o ops d hal (zc_lt_of_suffix hnew hz)

/-- **Shell release over histories**: the instance for a destructed shell.  The premise
    "no chain of pointers of either kind from the root" is stronger than "not weakly held by the
    root or by a strongly reachable object" (`nameable_of_weakHeld`), and has to be: see
    `unheld_shell_can_survive` below. -/
theorem shell_release_run (n : Nat) (pre : List Op) (i : Nat) (o : Obj) (ops : List Op) :
    let a := (Arena.new n).run pre
    a.alive = true → a.cb = none → a.ctx.phase = .sleep →
    a.ctx.heap.get i = some o → o.live = false → ¬ Nameable a.ctx a.root i →
    (a.run ops).alive = true →
    (∃ new, (a.run ops).ctx.steps = new ++ a.ctx.steps ∧ 'Z' ∈ new) →
    (a.run ops).ctx.heap.get i = none ∧ Event.freed i ∈ (a.run ops).ctx.log := by
  intro a halive hcb hsl ho _ hnn hal hz
  exact unnameable_released_run n pre i o ops halive hcb hsl ho hnn hal hz

/-- **Shell release — the last clause of C02 as read here**: "such a shell is released by
    the first full cycle that starts after no reachable weak pointer refers to it".  "After no
    reachable weak pointer refers to it" is read as *from then on*: on any sleeping state an arena can
    reach — a cycle is about to start — let `i` be a destructed shell, and let `ops` be any
    continuation of the history: callbacks of every kind with any mutation, collection calls of
    every method.  If in every state at an operation boundary from here on no reachable weak
    pointer refers to `i` — `WeakHeldA`: a `GcWeak` to `i` in the root, held by the running callback,
    or stored in an object accessible through `Gc` pointers from the root or from what the callback
    holds — then once that cycle has completed (a `'Z'` in the step log) the shell has been
    released: its block is gone and `freed i` is logged.
    The other conceivable reading — the premise asked only of the state in which the cycle starts,
    whatever the mutator does during the cycle — is not what the code can or should deliver (a
    mutator that revives the holder of the weak pointer makes that pointer reachable again, and C05
    then requires the shell to stay queryable): it is written out as `shell_release_start_only_reading`
    and refuted by `shell_release_start_only_reading_false`; `callback_held_holder_keeps_shell`
    shows that "reachable" must include what the running callback holds.  (Outside callbacks
    `WeakHeldA` is `WeakHeld`: `weakHeldA_iff`.) -/
theorem shell_release_while_unheld (n : Nat) (pre : List Op) (i : Nat) (o : Obj) (ops : List Op) :
    let a := (Arena.new n).run pre
    a.alive = true → a.ctx.phase = .sleep →
    a.ctx.heap.get i = some o → o.live = false →
    (∀ k, k ≤ ops.length → ¬ WeakHeldA (a.run (ops.take k)) i) →
    (a.run ops).alive = true →
    (∃ new, (a.run ops).ctx.steps = new ++ a.ctx.steps ∧ 'Z' ∈ new) →
    (a.run ops).ctx.heap.get i = none ∧ Event.freed i ∈ (a.run ops).ctx.log := by
  intro a halive hsl ho hdead hP hal ⟨new, hnew, hz⟩
  exact shell_released_run (inv_run n pre halive) hsl i o ho hdead ops hP hal (zc_lt_of_suffix hnew hz)

/-- The last clause of C02 under the *start-only* reading: the premise is asked of the state in
    which the cycle starts only, and anything may be interleaved with the cycle.  **False** of model
    and code, and rightly so (see `shell_release_while_unheld`): `shell_release_start_only_reading_false`.
    Proved: `shell_release` (the cycle runs at once), `shell_release_run` (premise on the first state
    only, but `¬ Nameable`: no chain of pointers of either kind, which mutation cannot undo), and
    `shell_release_while_unheld` (the clause as read: the premise holds from then on). -/
def shell_release_start_only_reading : Prop :=
  ∀ (n : Nat) (pre : List Op) (i : Nat) (o : Obj) (ops : List Op),
    let a := (Arena.new n).run pre
    a.alive = true → a.cb = none → a.ctx.phase = .sleep →
    a.ctx.heap.get i = some o → o.live = false →
    ¬ WeakHeld a.ctx a.root i →
    (a.run ops).alive = true →
    (∃ new, (a.run ops).ctx.steps = new ++ a.ctx.steps ∧ 'Z' ∈ new) →
    (a.run ops).ctx.heap.get i = none

/-- 0 ⇄ 1 is an unreachable cycle; 2 is held weakly by the root only. -/
def demo : List Op := [
  .enter .mutateRoot, .alloc true [none], .alloc true [some (.strong 0)], .store .write 0 0 (some (.strong 1)),
  .alloc true [none], .downgrade 2, .rootStore 0 (some (.weak 2)), .leave,
  .collect .finishCycle .drop none
    (some [.wake, .markStep none, .markBreak, .toSweep, .sweepStep, .sweepStep, .sweepStep, .sweepEnd, .toSleep true]) ]

example : ((Arena.new 1).run demo).ctx.log = [.freed 0, .dropped 0, .freed 1, .dropped 1, .dropped 2] := by decide +kernel
example : ((Arena.new 1).run demo).ctx.all = [2] := by decide +kernel

/-- The state of `demo` just before the collection call: garbage cycle 0 ⇄ 1, object 2 weakly
    held by the root. -/
def before : Arena := (Arena.new 1).run (demo.take 8)

private theorem before_facts : before.alive = true ∧ before.cb = none ∧ before.root = [some (.weak 2)] := by
  decide +kernel

theorem before_inv : CInv before.ctx before.root [] :=
  (inv_run 1 (demo.take 8) before_facts.1).cinv0 before_facts.2.1

private theorem unreachable_of_root {c : Ctx} {root : List Slot} (hr : ∀ t, some (Ptr.strong t) ∉ root)
    (i : Nat) : ¬ StrongReachC c root i :=
  fun hi => hi.closed (S := fun _ => False) hr (fun _ h => by cases h) (fun _ _ _ h _ _ => h)

theorem before_unreachable (i : Nat) : ¬ StrongReachC before.ctx before.root i :=
  unreachable_of_root (by rw [before_facts.2.2]; simp) i

/-- `exactness` (⇒) applies to `before`: no undestructed object is left, whatever the id. -/
example (i : Nat) : ¬ ∃ o, (finishCycle2 before.ctx before.root).heap.get i = some o ∧ o.live = true :=
  fun h => before_unreachable i ((exactness _ _ before_inv i).mp h)

/-- `shells` applies to `before`: the only block that can stay allocated is 2. -/
example (i : Nat) (o : Obj) (ho : (finishCycle2 before.ctx before.root).heap.get i = some o)
    (hl : o.live = false) : i = 2 := by
  rcases shells _ _ before_inv i o ho hl with hw | ⟨j, _, hj, _⟩
  · rw [before_facts.2.2] at hw; simpa using hw
  · exact absurd hj (before_unreachable j)

/-- …and the self-driven model does leave exactly that: the destructed shell 2, nothing else. -/
private theorem before_swept :
    (finishCycle2 before.ctx before.root).heap.get 2 = some ⟨.white, true, false, []⟩ ∧
    (finishCycle2 before.ctx before.root).heap.get 0 = none ∧
    (finishCycle2 before.ctx before.root).heap.get 1 = none := by decide +kernel

example : (finishCycle2 before.ctx before.root).heap.get 2 = some ⟨.white, true, false, []⟩ := before_swept.1
example : (finishCycle2 before.ctx before.root).heap.get 0 = none := before_swept.2.1
example : (finishCycle2 before.ctx before.root).heap.get 1 = none := before_swept.2.2

/-- A root holding object 0 strongly. -/
def held : Arena :=
  (Arena.new 1).run [.enter .mutateRoot, .alloc true [none], .rootStore 0 (some (.strong 0)), .leave]

private theorem held_facts : held.alive = true ∧ held.cb = none ∧ some (Ptr.strong 0) ∈ held.root := by
  decide +kernel

/-- `exactness` (⇐) applies to `held`: object 0 survives both calls undestructed. -/
example : ∃ o, (finishCycle2 held.ctx held.root).heap.get 0 = some o ∧ o.live = true :=
  (exactness _ _ ((inv_run 1 _ held_facts.1).cinv0 held_facts.2.1) 0).mpr (.root 0 held_facts.2.2)

/-- After `demo` (object 2 is a shell held weakly by the root) the root drops its weak pointer. -/
def unheldPre : List Op := demo ++ [.enter .mutateRoot, .rootStore 0 none, .leave]

def unheld : Arena := (Arena.new 1).run unheldPre

private theorem unheld_facts :
    let a := (Arena.new 1).run unheldPre
    a.alive = true ∧ a.cb = none ∧ a.ctx.phase = .sleep ∧ a.root = [none] ∧
    a.ctx.heap.get 2 = some ⟨.white, true, false, []⟩ := by decide +kernel

/-- `shell_release` applies to `unheld`: all its hypotheses hold, so the next `finish_cycle`
    releases the shell 2. -/
example : (unheld.ctx.doCollection unheld.root .stop .finishCycle none).1.heap.get 2 = none := by
  unfold unheld
  obtain ⟨hal, hcb, hsl, hroot, ho⟩ := unheld_facts
  exact shell_release _ _ ((inv_run 1 unheldPre hal).cinv0 hcb) hsl 2 _ ho rfl (by rw [hroot]; simp)
    (fun j _ hj => absurd hj (unreachable_of_root (by rw [hroot]; simp) j))

/-- `exactness_run` on `demo.take 8` (⇒) and on `held` (⇐), hypotheses discharged by
    evaluation. -/
example (i : Nat) : ¬ ∃ o, (((Arena.new 1).run (demo.take 8)).run
    [.collect .finishCycle .drop none none, .collect .finishCycle .drop none none]).ctx.heap.get i = some o ∧
      o.live = true :=
  fun h => before_unreachable i (((exactness_run 1 (demo.take 8) before_facts.1 before_facts.2.1).2.2 i).mp h)

example : ∃ o, (held.run [.collect .finishCycle .drop none none,
    .collect .finishCycle .drop none none]).ctx.heap.get 0 = some o ∧ o.live = true := by
  unfold held
  exact ((exactness_run 1 [.enter .mutateRoot, .alloc true [none], .rootStore 0 (some (.strong 0)), .leave]
    held_facts.1 held_facts.2.1).2.2 0).mpr (.root 0 held_facts.2.2)

/-- `unheld` again (shell 2, the root no longer holds its weak pointer): nothing at all is
    nameable, so after *any* history that completes a cycle — here a callback that allocates and
    stores, then an incremental cycle in three calls with another callback in between — the shell
    is released. -/
def unheldOps : List Op := [
  .enter .mutateRoot, .alloc true [none], .rootStore 0 (some (.strong 3)), .leave,
  .collect .finishMarking .sweep none none,
  .enter .mutate, .readRoot 0, .alloc true [none], .store .write 3 0 (some (.strong 4)), .leave,
  .collect .finishCycle .drop none none ]

private theorem unheldOps_facts :
    let a := (Arena.new 1).run unheldPre
    (a.run unheldOps).alive = true ∧
    (a.run unheldOps).ctx.steps = ['Z', 'e', 'x', 'x', 'S', 'b', 'b', 'g', 'r', 'W'] ++ a.ctx.steps ∧
    Arena.allAlong (·.noWeakTo 2) a unheldOps = true := by decide +kernel

example : (unheld.run unheldOps).ctx.heap.get 2 = none ∧ Event.freed 2 ∈ (unheld.run unheldOps).ctx.log := by
  unfold unheld
  obtain ⟨hal, hcb, hsl, hroot, ho⟩ := unheld_facts
  obtain ⟨hal', hsteps, _⟩ := unheldOps_facts
  have hnn : ∀ j, ¬ Nameable ((Arena.new 1).run unheldPre).ctx ((Arena.new 1).run unheldPre).root j := by
    intro j hj
    induction hj with
    | root p hp => rw [hroot] at hp; simp at hp
    | edge _ _ _ _ _ _ ih => exact ih
  exact shell_release_run 1 unheldPre 2 _ unheldOps hal hcb hsl ho rfl (hnn 2) hal' ⟨_, hsteps, by decide⟩

/-- root → A(0); `A.1 = weak X(1)`; `X.0 = weak S(2)`; S is a destructed shell; X is undestructed
    but no longer strongly reachable.  Asleep, outside callbacks. -/
def weakChain : List Op := [
  .enter .mutateRoot, .alloc true [none, none], .alloc true [none], .alloc true [none],
  .downgrade 2, .store .write 1 0 (some (.weak 2)),
  .downgrade 1, .store .write 0 0 (some (.strong 1)), .store .write 0 1 (some (.weak 1)),
  .rootStore 0 (some (.strong 0)), .leave,
  .collect .finishCycle .drop none none,
  .enter .mutate, .readRoot 0, .store .write 0 0 none, .leave ]

/-- A callback that stores no `GcWeak` to S anywhere: it upgrades the weak pointer to X (legal:
    X is undestructed and the arena is not sweeping) and stores the *strong* pointer to X. -/
def reviveHolder : List Op := [
  .enter .mutate, .readRoot 0, .read 0 1, .upgrade 1, .store .write 0 0 (some (.strong 1)), .leave,
  .collect .finishCycle .drop none none ]

private theorem not_weakHeldA_of_shape {b : Arena} (hroot : b.root = [some (.strong 0)])
    (htemps : b.temps.all (fun p => p == Ptr.strong 0 || p == Ptr.weak 1) = true)
    (h0 : (b.ctx.heap.get 0).map (·.slots) = some [none, some (.weak 1)]) : ¬ WeakHeldA b 2 := by
  have ht : ∀ p, p ∈ b.temps → p = Ptr.strong 0 ∨ p = Ptr.weak 1 := fun p hp => by
    simpa using List.all_eq_true.mp htemps p hp
  -- object 0 holds no `Gc` pointer (and no weak pointer to 2)
  have slots0 : ∀ {o : Obj} {q : Ptr}, b.ctx.heap.get 0 = some o → some q ∈ o.slots → q = .weak 1 := by
    intro o q ho hs
    rw [ho] at h0
    simp only [Option.map_some, Option.some.injEq] at h0
    rw [h0] at hs
    simpa using hs
  have acc : ∀ j, Accessible b j → j = 0 := fun j hj =>
    hj.closed (S := (· = 0)) (fun t h => by rw [hroot] at h; simpa using h)
      (fun t h => by rcases ht _ h with h | h <;> cases h; rfl)
      (fun i o t hi ho hs => by subst hi; cases slots0 ho hs)
  rintro (hw | hw | ⟨j, oj, hj, hoj, hs⟩)
  · rw [hroot] at hw; simp at hw
  · rcases ht _ hw with h | h <;> cases h
  · cases acc j hj
    cases slots0 hoj hs

/-- The same outside callbacks, for `WeakHeld`. -/
private theorem not_weakHeld_of_shape {c : Ctx} {root : List Slot} (hroot : root = [some (.strong 0)])
    (h0 : (c.heap.get 0).map (·.slots) = some [none, some (.weak 1)]) : ¬ WeakHeld c root 2 :=
  fun h => not_weakHeldA_of_shape (b := ⟨c, root, [], none, [], false, true⟩) hroot rfl h0
    ((weakHeldA_iff rfl 2).mpr h)

/-- The state after `weakChain`, `reviveHolder` run from it, and a cycle run from it at once, evaluated. -/
private theorem weakChain_facts :
    let a := (Arena.new 1).run weakChain
    (a.alive = true ∧ a.cb = none ∧ a.ctx.phase = .sleep ∧ a.ctx.heap.get 2 = some ⟨.white, true, false, []⟩) ∧
    (a.root = [some (.strong 0)] ∧ (a.ctx.heap.get 0).map (·.slots) = some [none, some (.weak 1)]) ∧
    ((a.run reviveHolder).alive = true ∧
      (a.run reviveHolder).ctx.steps = ['Z', 'e', 'x', 'x', 'x', 'S', 'b', 'g', 'g', 'r', 'W'] ++ a.ctx.steps ∧
      (a.run reviveHolder).ctx.steps.count 'Z' = a.ctx.steps.count 'Z' + 1 ∧
      (a.run reviveHolder).ctx.heap.get 2 = some ⟨.white, true, false, []⟩) ∧
    (a.run [.collect .finishCycle .drop none none]).ctx.heap.get 2 = none := by decide +kernel

/-- **Why "not weakly held" is not enough over histories.**  In `weakChain` the shell 2 is not
    weakly held by the root or by any strongly reachable object; `reviveHolder` (which by its text
    stores no weak pointer anywhere) completes a full cycle — and the shell is still allocated.
    (Run the cycle at once instead and it is released, as `shell_release` demands.)  Not a conjunct:
    the shell *is* `Nameable`, root → 0 ⇢ 1 ⇢ 2, which is why `shell_release_run` does not apply. -/
theorem unheld_shell_can_survive :
    let a := (Arena.new 1).run weakChain
    a.alive = true ∧ a.cb = none ∧ a.ctx.phase = .sleep ∧
    a.ctx.heap.get 2 = some ⟨.white, true, false, []⟩ ∧ ¬ WeakHeld a.ctx a.root 2 ∧
    (a.run reviveHolder).ctx.steps.count 'Z' = a.ctx.steps.count 'Z' + 1 ∧
    (a.run reviveHolder).ctx.heap.get 2 = some ⟨.white, true, false, []⟩ ∧
    (a.run [.collect .finishCycle .drop none none]).ctx.heap.get 2 = none := by
  obtain ⟨⟨h1, h2, h3, h4⟩, ⟨hroot, h0⟩, ⟨_, _, h6, h7⟩, h8⟩ := weakChain_facts
  exact ⟨h1, h2, h3, h4, not_weakHeld_of_shape hroot h0, h6, h7, h8⟩

/-- The literal clause is false: `weakChain` followed by `reviveHolder`, the history of
    `unheld_shell_can_survive`, is a counterexample. -/
theorem shell_release_start_only_reading_false : ¬ shell_release_start_only_reading := by
  intro hst
  obtain ⟨⟨h1, h2, h3, h4⟩, ⟨hroot, h0⟩, ⟨hal, hsteps, _, h7⟩, _⟩ := weakChain_facts
  have := hst 1 weakChain 2 _ reviveHolder h1 h2 h3 h4 rfl (not_weakHeld_of_shape hroot h0) hal
    ⟨_, hsteps, by decide⟩
  rw [h7] at this
  cases this

/-- The same shell, a different route: the finalizer callback of the cycle resurrects the holder X
    and returns without storing the pointer anywhere. -/
def viaFinalizer : List Op := [
  .collect .finishMarking .finalize none none,
  .enter .finalize, .readRoot 0, .read 0 1, .resurrect (.weak 1), .leave,
  .collect .finishCycle .drop none none ]

/-- **Why "reachable" must include what the running callback holds.**  Along `viaFinalizer` the
    shell 2 is at *no* operation boundary weakly held by the root or by an object strongly reachable
    from the root (`WeakHeld`, the root-only notion); a full cycle completes; the shell is still
    allocated.  Between `resurrect` and `leave` the callback holds the `Gc` to X, which holds the
    weak pointer: `WeakHeldA` is true there, as `shell_release_while_unheld` demands. -/
theorem callback_held_holder_keeps_shell :
    let a := (Arena.new 1).run weakChain
    (∀ k, k ≤ viaFinalizer.length →
      ¬ WeakHeld (a.run (viaFinalizer.take k)).ctx (a.run (viaFinalizer.take k)).root 2) ∧
    (a.run viaFinalizer).ctx.steps.count 'Z' = a.ctx.steps.count 'Z' + 1 ∧
    (a.run viaFinalizer).ctx.heap.get 2 = some ⟨.white, true, false, []⟩ ∧
    WeakHeldA (a.run (viaFinalizer.take 5)) 2 := by
  intro a
  have facts : Arena.allAlong (fun b => decide (b.root = [some (.strong 0)]) &&
        decide ((b.ctx.heap.get 0).map (·.slots) = some [none, some (.weak 1)])) a viaFinalizer = true ∧
      (a.run viaFinalizer).ctx.steps.count 'Z' = a.ctx.steps.count 'Z' + 1 ∧
      (a.run viaFinalizer).ctx.heap.get 2 = some ⟨.white, true, false, []⟩ ∧
      Ptr.strong 1 ∈ (a.run (viaFinalizer.take 5)).temps ∧
      (a.run (viaFinalizer.take 5)).ctx.heap.get 1 = some ⟨.gray, true, true, [some (.weak 2)]⟩ := by
    decide +kernel
  obtain ⟨hchk, hz, h2, htemp, h1⟩ := facts
  refine ⟨fun k hk => ?_, hz, h2, .inr (.inr ⟨1, _, .temp 1 htemp, h1, by simp⟩)⟩
  have := Arena.allAlong_take hchk k hk
  simp only [Bool.and_eq_true, decide_eq_true_eq] at this
  exact not_weakHeld_of_shape this.1 this.2

/-- `shell_release_while_unheld` on `unheld` with the history `unheldOps`: the premise holds in each
    of the twelve states (nothing ever refers to the shell), so the shell is released. -/
example : (unheld.run unheldOps).ctx.heap.get 2 = none := by
  unfold unheld
  obtain ⟨hal, _, hsl, _, ho⟩ := unheld_facts
  obtain ⟨hal', hsteps, hchk⟩ := unheldOps_facts
  -- no weak pointer to 2 exists anywhere in any of these states (checked by evaluation)
  exact (shell_release_while_unheld 1 unheldPre 2 _ unheldOps hal hsl ho rfl
    (fun k hk => not_weakHeldA_of_noWeakTo (Arena.allAlong_take hchk k hk)) hal' ⟨_, hsteps, by decide⟩).1

/-- After `weakChain`: two callbacks that read their way to the weak pointer to X but never upgrade
    it, around an incremental cycle. -/
def peekOnly : List Op := [
  .enter .mutate, .readRoot 0, .read 0 1, .leave,
  .collect .finishMarking .sweep none none,
  .enter .mutate, .readRoot 0, .read 0 1, .leave,
  .collect .finishCycle .drop none none ]

/-- **`shell_release_while_unheld`, non-degenerate.**  In `weakChain` a weak pointer to the shell 2
    *exists* (in X, object 1) and the shell is `Nameable` (root → 0 ⇢ 1 ⇢ 2), so neither
    `shell_release_run` nor the `noWeakTo` check applies (`noWeakTo` is false at the start and
    still after nine operations); but X is never reachable through `Gc` pointers — the callbacks of `peekOnly` hold only
    `Gc 0` and `GcWeak 1` — so the premise holds in all eleven states and the shell is released when
    the cycle completes (contrast `reviveHolder` / `viaFinalizer`, where it survives). -/
example :
    (((Arena.new 1).run weakChain).run peekOnly).ctx.heap.get 2 = none ∧
    Event.freed 2 ∈ (((Arena.new 1).run weakChain).run peekOnly).ctx.log ∧
    ((Arena.new 1).run weakChain).noWeakTo 2 = false ∧
    (((Arena.new 1).run weakChain).run (peekOnly.take 9)).noWeakTo 2 = false := by
  -- all premises, the per-state one included, are decided by running the model once
  have facts :
      let a := (Arena.new 1).run weakChain
      Arena.allAlong (fun b => decide (b.root = [some (.strong 0)]) &&
        b.temps.all (fun p => p == Ptr.strong 0 || p == Ptr.weak 1) &&
          decide ((b.ctx.heap.get 0).map (·.slots) = some [none, some (.weak 1)])) a peekOnly = true ∧
      ((a.run peekOnly).alive = true ∧
        (a.run peekOnly).ctx.steps = ['Z', 'e', 'x', 'x', 'x', 'S', 'b', 'b', 'g', 'r', 'W'] ++ a.ctx.steps) ∧
      a.noWeakTo 2 = false ∧ (a.run (peekOnly.take 9)).noWeakTo 2 = false := by decide +kernel
  obtain ⟨hchk, ⟨hal', hsteps⟩, hw0, hw9⟩ := facts
  obtain ⟨⟨hal, _, hsl, ho⟩, _⟩ := weakChain_facts
  have hP : ∀ k, k ≤ peekOnly.length →
      ¬ WeakHeldA (((Arena.new 1).run weakChain).run (peekOnly.take k)) 2 := by
    intro k hk
    have := Arena.allAlong_take hchk k hk
    simp only [Bool.and_eq_true, decide_eq_true_eq] at this
    exact not_weakHeldA_of_shape this.1.1 this.1.2 this.2
  obtain ⟨h1, h2⟩ := shell_release_while_unheld 1 weakChain 2 ⟨.white, true, false, []⟩ peekOnly hal hsl ho rfl
    hP hal' ⟨_, hsteps, by decide⟩
  exact ⟨h1, h2, hw0, hw9⟩

end GcArena.C02
