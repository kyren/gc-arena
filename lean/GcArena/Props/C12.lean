import GcArena.Proofs.BrandLemmas
import GcArena.Generated.BrandTable
import GcArena.Proofs.BrandFlowLemmas
import GcArena.Generated.BrandFlow
/-!
# C12 — Brand isolation (property theorems; *partial*: rustc's region / trait checking is trusted)

"No program free of unsafe code can make a Gc, GcWeak, &'gc T, Mutation, Finalization,
DynamicRootSet or Write reference outlive the callback that produced it, store it in a 'static
location, return it from the callback, move it to another thread, or use it with a different arena;
all pointer and context types are invariant in the brand lifetime and none of them, nor Arena, is
Send or Sync."

What is proved here are the *structural premises* that make rustc reject those programs, over the
table `GcArena.Generated.BrandTable.table` that `/verif/extract_brand` regenerates from
`/repo/src/*.rs` on every check run (so each evaluation below – and in the last section of
`Proofs/BrandLemmas`, where several theorems rest on one – is a complete re-check of the current
source facts), plus general lemmas about the model of rustc's variance / auto-trait / binder rules
(`GcArena.Model.Brand`) that hold for every table.  The step from these premises to "rustc rejects
every escaping program" is rustc's soundness (trusted) and is cross-validated by the adversarial
probe corpus of `/verif/probes_brand` (engine `lib/eng_brand.py`).

**Where the sentence of the property itself is stated.**  "No safe program can make a branded value
outlive its callback, reach a `'static` location, be returned from the callback, or be used with a
different arena" is a statement about *programs*; the only programs this development has a
semantics for are those of the brand-flow calculus (`GcArena.Model.BrandFlow`: enter a callback with
a fresh brand, leave it, call any function safe code can call under any instantiation of its
lifetime parameters, drop values).  Over those programs the sentence is `no_escape_in_flow_model`
below – proved in full for that model.  It is **not** a theorem about Rust programs: that every
safe Rust client is over-approximated by a program of the calculus is what rustc (trusted)
contributes, see the docstring.  The thread clause ("move it to another thread") has no counterpart
in the calculus; it rests on `not_send_not_sync` and rustc's auto-trait checking.
-/
namespace GcArena.C12

open GcArena.Brand
open GcArena.Generated.BrandTable (table)

/-- A struct with an unconditional (not `#[cfg]`-gated) field invariant in a parameter is invariant
in it, whatever else it contains.  (`#[cfg]`-gated fields are left out of every variance, auto-trait
and holding computation: an answer must hold in every configuration.) -/
theorem variance_inv_of_field (tbl : Table) (n : String) (d : AdtDef) (f : Field) (tgt : Target)
    (hd : tbl.find n = some d) (hf : f ∈ d.fields) (hc : f.cfg = "")
    (hv : varTy (adtVarOracle tbl fuel) tgt .co f.ty = .inv) :
    tbl.variance n tgt = .inv :=
  GcArena.Brand.variance_inv_of_field tbl n d f tgt hd hf hc hv

/-- `PhantomData<Cell<&'a ()>>` is invariant in `'a` (any table, any fuel). -/
theorem invariant_marker (look : VarOracle) (a : String) :
    varTy look (.lt a) .co (.std .phantomData [.std .cell [.ref (.named a) (.tuple [])]]) = .inv :=
  GcArena.Brand.invariant_marker look a

/-- A struct with a non-`Send` field and no `unsafe impl Send` is not `Send` for any instantiation. -/
theorem not_send_of_field (tbl : Table) (n : String) (d : AdtDef) (f : Field)
    (hd : tbl.find n = some d) (hf : f ∈ d.fields) (hc : f.cfg = "")
    (hv : (autoTy (adtAutoOracle tbl fuel) [] f.ty).send = false)
    (hi : tbl.hasAutoImpl "Send" n false = false) :
    (tbl.autoOf n).send = false :=
  GcArena.Brand.not_send_of_field tbl n d f hd hf hc hv hi

/-- A struct with a non-`Sync` field and no `unsafe impl Sync` is not `Sync` for any instantiation. -/
theorem not_sync_of_field (tbl : Table) (n : String) (d : AdtDef) (f : Field)
    (hd : tbl.find n = some d) (hf : f ∈ d.fields) (hc : f.cfg = "")
    (hv : (autoTy (adtAutoOracle tbl fuel) [] f.ty).sync = false)
    (hi : tbl.hasAutoImpl "Sync" n false = false) :
    (tbl.autoOf n).sync = false :=
  GcArena.Brand.not_sync_of_field tbl n d f hd hf hc hv hi

/-- A type whose lifetime and type parameters are all bound outside a `for<'g>` binder cannot
mention `'g`, under any instantiation of the outer type parameters by types formed outside the
binder. -/
theorem binder_closed (t : Ty) (outerLts outerTys : List String) (g : String) (σ : String → Ty)
    (hc : t.closedUnder outerLts outerTys = true) (hg : g ∉ outerLts)
    (hσ : ∀ p ∈ outerTys, (σ p).mentionsLt g = false) :
    (t.subst σ).mentionsLt g = false :=
  GcArena.Brand.binder_closed t outerLts outerTys g σ hc hg hσ

/-- The translator classified every item and every field type (fail closed otherwise). -/
theorem table_classified : table.fieldsClassified = true := by decide +kernel

/-- The crate's `Invariant<'a>` alias is the invariant marker: its body is invariant in its
parameter. -/
theorem invariant_alias :
    ∃ al, table.findAlias "Invariant" = some al ∧ al.lts = ["a"] ∧
      varTy (adtVarOracle table fuel) (.lt "a") .co al.body = .inv := by
  refine ⟨_, rfl, ?_, ?_⟩ <;> decide

/-- Every type the property names that has a `'gc` parameter (`requiredBranded`; `Write` has none:
`write_transparent`), and every other type of the crate with one (public or private), exists in the table with a `'gc` parameter and is invariant in it. -/
theorem branded_invariant :
    ∀ n ∈ requiredBranded ++ table.branded, table.invariantInBrand n = true :=
  forall_mem_append_of_all
    (fun n h => (Bool.and_eq_true_iff.mp (List.all_eq_true.mp branded_checked.1 n h)).1)
    branded_checked.2.1

/-- Those types, and `Arena`, `DynamicRoot`, `MarkedArena`, `Metrics`, are neither `Send` nor
`Sync`, for every instantiation of their parameters. -/
theorem not_send_not_sync :
    ∀ n ∈ requiredNotSendSync ++ table.branded, table.notSendSync n = true :=
  forall_mem_append_of_all
    (fun n h => (Bool.and_eq_true_iff.mp (List.all_eq_true.mp branded_checked.1 n h)).2)
    branded_checked.2.2

/-- **Builder rule** (defect D4 of the pinned tree, fixed by the `*mut T` marker).  The rows are not
hand-written: `table.builderRows` derives them from the regenerated table – every (public type, type
parameter `P`) such that the type holds a `P` only behind a raw pointer / `NonNull` / `MaybeUninit`
and never by value (so rustc infers covariance from the pointer unless a marker says otherwise,
`Brand.holdsTy` follows nested types), **and** some safe method accepts a value of `P` (by value,
by reference, as the result of a callback or the item of an iterator) without a `Collect` /
`'static` bound on `P` at that method (the bound having been checked when the value was created).
Every such type must be invariant in `P`: a covariant `GcBuilder<'gc, &'static U>` coerces to
`GcBuilder<'gc, &'gc U>`, and `write` stores an untraced `&'gc U` in the arena. -/
theorem builders_invariant_in_value_type :
    ∀ r ∈ table.builderRows, table.builderOk r = true :=
  List.all_eq_true.mp builderRows_checked.1

/-- Lower bound for the derived rows: the hand-written list `requiredBuilderRows` (all six
pairs) is contained in `table.builderRows`, and each of them is invariant – so the ∀ above cannot
become vacuous because the heuristics behind `builderRows` stop firing. -/
theorem required_builder_rows :
    ∀ r ∈ requiredBuilderRows, table.builderRows.contains r = true ∧ table.builderOk r = true := by
  intro r hr
  have hc := List.all_eq_true.mp builderRows_checked.2.1 r hr
  exact ⟨hc, builders_invariant_in_value_type r (List.contains_iff_mem.mp hc)⟩

/-- The crate contains no explicit (positive) `impl Send` / `impl Sync` at all. -/
theorem no_explicit_auto_impls : table.violAutoImpls = [] := by decide +kernel

/-- Every callback-taking entry point the property names is in the table. -/
theorem callbacks_present :
    ∀ n ∈ requiredCallbacks, (table.callbackNamed n).isSome = true := by decide +kernel

/-- Every callback-taking entry point that client code free of `unsafe` can call (the named ones
and any other safe `pub fn` of the crate whose callback receives a `Mutation` / `Finalization`;
private or `unsafe` helpers that merely pass a callback on are covered by
`brand_sites_behind_callbacks`) is `for<'gc>`-quantified with exactly one fresh
lifetime, takes `&'gc Mutation<'gc>` (or `Finalization`) first, passes only `'gc`-branded root
projections of its own root parameter besides, and has a result type that is closed under the
parameters declared outside the binder, or is the new arena's own root projection. -/
theorem callbacks_higher_ranked : ∀ cb ∈ table.clientCallbacks, cb.ok = true := by decide +kernel

/-- **Where brands are created.**  Every place of the crate that creates a brand out of nothing –
every call (or mention) of a *brand source* (an `unsafe fn` whose result is a `Mutation` /
`Finalization` with a caller-chosen lifetime: `Context::mutation_context`, `finalization_context`),
and every reference `arena.rs` makes by dereferencing a pointer cast (`&*(e as *const _)`: the
`&'static Mutation`, `&'static Root`) – sits in a client entry point all of whose callbacks pass
`callbacks_higher_ranked`, or in a private / `unsafe` helper every in-crate caller of which
(followed up the call graph, `Brand.srcBlame`) ends in such an entry point.  So a brand made from
nothing can only ever be handed to a `for<'gc>` callback.

Limits (also in the evidence file, `limits`): the *bodies* of the brand sources themselves
(`context.rs`: `transmute::<&Context, &Mutation>`; `Finalization::deref`) and the `transmute`s of
`barrier.rs` (`Write::assume` / `from_static` / `from_mut`, brand-preserving `repr(transparent)`
casts) are recorded in the table but are under no ∀ here; pointer casts outside `arena.rs` are not
recorded. -/
theorem brand_sites_behind_callbacks :
    ∀ b ∈ table.brandSites, table.brandSiteOk b = true := by decide +kernel

/-- Lower bound: brand sources were found, every named entry point holds a brand-creating site or
reaches one through a helper, and at least eight sites were recorded. -/
theorem brand_sites_present :
    2 ≤ table.brandSources.length ∧ 8 ≤ table.brandSites.length ∧
    (∀ n ∈ requiredCallbacks, (table.brandSites.any (fun b => b.fn_ == n) ||
        table.callSites.any (fun cs => cs.caller == n)) = true) := by decide +kernel

/-- Consequence (via `binder_closed`): whatever types a client picks for the outer parameters of
an entry point whose callback result is closed, the instantiated result type cannot mention the
brand. -/
theorem callback_result_brand_free :
    ∀ cb ∈ table.clientCallbacks, ∀ g, cb.brand = some g →
      cb.ret.closedUnder cb.outerLts cb.outerTys = true →
      ∀ σ : String → Ty, (∀ p ∈ cb.outerTys, (σ p).mentionsLt g = false) →
        (cb.ret.subst σ).mentionsLt g = false := by
  intro cb hcb g hg hc σ hσ
  have hok : cb.ok = true := callbacks_higher_ranked cb hcb
  have hb : cb.binderOk = true := by
    simp only [Callback.ok, Bool.and_eq_true] at hok
    exact hok.1.1.1
  have hfresh : g ∉ cb.outerLts := by
    simp only [Callback.binderOk, hg, Bool.and_eq_true, Bool.not_eq_true',
      List.contains_eq_mem, decide_eq_false_iff_not] at hb
    exact hb.1
  exact GcArena.Brand.binder_closed cb.ret cb.outerLts cb.outerTys g σ hc hfresh hσ

/-- `Collect` impls whose head is a reference, `Cell`, `RefCell`, `UnsafeCell` or `Static` are
`'static`-only: every type parameter in the head carries a `'static` bound and every lifetime in
the head is `'static` (or the whole head is bounded by `'static`). -/
theorem collect_static_only :
    ∀ ci ∈ table.collectImpls, ci.mustBeStatic = true → ci.staticOk = true :=
  fun ci hci hm => List.all_eq_true.mp collectStatic_checked.1 ci (List.mem_filter.mpr ⟨hci, hm⟩)

/-- Lower bound: the impls the property names (`&'static T`, `Cell`, `RefCell`, `Static`) are among
those the rule above ranges over. -/
theorem collect_static_impls_present :
    ∀ h ∈ ["&", "Cell", "RefCell", "Static"],
      table.collectImpls.any (fun ci => ci.mustBeStatic && ci.selfTy.head == h) = true :=
  fun h hh => List.any_filter ▸ collectStatic_checked.2 h hh

/-- Every re-branding site of `dynamic_roots.rs` — a lifetime `transmute` that introduces a
lifetime (`Gc<'static, _>` ↦ `Gc<'gc, _>`) — only ever sees a handle that passed the identity check
of the set handing it out: the site is dominated by `if self.contains(<the handle>)`, or it sits in
a private `unsafe fn` helper all of whose call sites in the crate (followed up the call graph, by
parameter position) are so dominated, or it sits in a `pub unsafe fn` (not callable by safe code),
or its result only exists as a raw pointer returned to the caller.  A safe function must check
itself.  The rule is structural (`Brand.blame`): it does not depend on the names or the number of
the functions involved.  Together with `table_classified` (every `unsafe` region of that file is a
single transmute or helper call) there is no other way the file re-brands anything. -/
theorem transmutes_guarded :
    ∀ t ∈ table.transmutesIn "dynamic_roots.rs", table.transmuteOk t = true := by decide +kernel

/-- Lower bound: re-branding sites that need a cover exist, and the identity check is applied at
least once (at a site, or at the call of a helper). -/
theorem rebrand_sites_present :
    1 ≤ table.rebrandSites.length ∧ 1 ≤ table.identityChecks := by decide +kernel

/-- What the guard means: `DynamicRootSet::contains` – the function whose call dominates every
re-branding site – returns `bool` and ends in a comparison (`==` / `ptr::eq`) one side of which is
computed from `self` alone and the other from the handle alone (read from its body by the
translator; a `contains` that returns a constant, or compares the handle with itself, voids every
guard and `transmutes_guarded` fails). -/
theorem identity_check_is_comparison : identityCheckOk table.identityFns = true := by decide +kernel

/-- `Write<T>` is a transparent wrapper around `T` (one field of type `T`, no lifetime parameter,
no explicit auto-trait impl): a `&'gc Write<T>` carries exactly the brands of `&'gc T`. -/
theorem write_transparent : table.writeTransparent = true := by decide +kernel

/-- **No escape in the flow model.**  For the brand-flow table regenerated from the current source
(`GcArena.Generated.brandFlow`: every function code without `unsafe` can call whose result carries a
lifetime, with the brands of result and inputs) and every program of the calculus of
`Model/BrandFlow.lean` – any interleaving of: a generative entry point calls the client's callback
with a brand never used before; the innermost callback returns; the program calls any table entry
under any instantiation of its lifetime parameters for which it holds the branded inputs; the
program drops values – in every state `st` the program can reach:

1. **outlive / `'static` location.**  Every branded value the program holds has the brand of a
   callback that is executing *now*, and a brand some callback introduced: it holds nothing whose
   brand is `'static` or an outer region, and nothing of a callback that has returned.
2. **return from the callback.**  If the innermost callback (brand `b`) returns now, then in *every*
   state the program can reach afterwards nothing of brand `b` is held and `b` is never active
   again.
(Values held are pointers, contexts, root sets **and references into the arena**: a call hands the
program `σ l` for every brand `l` of its result and for every reference lifetime of its result that
is a brand of the signature – `&'gc T` from `Gc::as_ref`, `&'gc Write<T>` from `Gc::write` /
`unlock`, `Ref<'gc, T>` from `borrow`, `OnceLock::get`, … (`Sig.outHeld`) – so all seven kinds of
value the property names are in `held`; clause 4 says where they come from.)

3. **different arena.**  Every call the program can make now involves exactly one brand – all
   branded inputs and all branded results share it – and it is the brand of an executing callback:
   a pointer of arena A is never combined with the `Mutation` or the root set of arena B, and no
   call turns a value of A into a value of B.
4. **provenance.**  Every brand a call hands the program with its result (`Sig.outHeld`) is the
   brand of one of the call's branded inputs, which the program holds.

What is proved: the statement above, in full, for the model.  What is **not** proved here and is
contributed by rustc (trusted; cross-validated by the escape / cross-arena probes):

* that the calculus over-approximates safe Rust clients: rustc type-checks every call against the
  extracted signature with *one* instantiation per lifetime parameter and, the branded types being
  invariant (`branded_invariant`), cannot change a brand by subtyping;
* the `exit` rule of the calculus – when a `for<'gc>` callback returns, no value whose type
  mentions `'gc` survives it: the result type cannot mention the brand (`callbacks_higher_ranked`,
  `callback_result_brand_free`), captured state cannot name it (rustc's higher-ranked region
  check), and a `'static` location cannot hold it (`binder_closed`);
* the translator's classification of lifetime positions in `Generated/BrandFlow.lean`.

The thread clause of C12 is not expressible in the calculus (see `not_send_not_sync`). -/
theorem no_escape_in_flow_model {st : GcArena.BrandFlow.State}
    (hr : GcArena.BrandFlow.Reachable GcArena.Generated.brandFlow st) :
    (∀ b ∈ st.held, b ∈ st.active ∧ b ∈ st.opened) ∧
    (∀ (b : Nat) (rest : List Nat), st.active = b :: rest →
      ∀ st', GcArena.BrandFlow.Steps GcArena.Generated.brandFlow
          { st with active := rest, held := st.held.filter (· != b) } st' →
        b ∉ st'.held ∧ b ∉ st'.active) ∧
    (∀ (s : GcArena.BrandFlow.Sig) (σ : String → Nat), s ∈ GcArena.Generated.brandFlow.sigs →
      s.callable = true → (∀ l ∈ s.inBrands, σ l ∈ st.held) →
      ∀ b ∈ s.brands.map σ, b ∈ st.active ∧ ∀ b' ∈ s.brands.map σ, b' = b) ∧
    (∀ (s : GcArena.BrandFlow.Sig) (σ : String → Nat), s ∈ GcArena.Generated.brandFlow.sigs →
      s.callable = true → (∀ l ∈ s.inBrands, σ l ∈ st.held) →
      ∀ b ∈ s.outHeld.map σ, ∃ l ∈ s.inBrands, σ l = b ∧ b ∈ st.held) :=
  GcArena.BrandFlow.no_escape_of_table_ok (by decide +kernel) hr

/-- The flow model is not empty, and the escape clause can fail: with one entry whose result brand
is not the brand of an input (the seeded `unsize!` change, `GcWeak<'gc, T>` ↦ `GcWeak<'w, U>`), the
calculus reaches a state in which the program holds brand 0 – never introduced by any callback –
after the only callback has returned. -/
example :
    let sg : GcArena.BrandFlow.Sig :=
      { name := "__coerce_unchecked", isUnsafe := true, macroReachable := true,
        outBrands := ["w"], inBrands := ["gc"] }
    let T : GcArena.BrandFlow.Table := { sigs := [sg] }
    ∃ st, GcArena.BrandFlow.Reachable T st ∧ 0 ∈ st.held ∧ 0 ∉ st.opened ∧ st.active = [] := by
  intro sg T
  exact GcArena.BrandFlow.escape_of_foreign_out (g := "gc") (w := "w") (List.mem_singleton.mpr rfl)
    rfl rfl rfl (by decide)

/-- The variance check can fail: the covariant look-alike marker is not invariant. -/
example : varTy (adtVarOracle table fuel) (.lt "a") .co
    (.std .phantomData [.ref (.named "a") (.tuple [])]) = .co :=
  covariant_marker _ "a"

/-- A table whose `Mutation` lost its marker field is rejected by `invariantInBrand`. -/
example :
    ({ table with adts := table.adts.map (fun d =>
        if d.name == "Mutation" then { d with fields := d.fields.filter (·.name != "_invariant") }
        else d) } : Table).invariantInBrand "Mutation" = false := by decide +kernel

/-- The quantifiers range over something: 11 required branded types, at least 14 in the table. -/
example : requiredBranded.length = 11 ∧ 14 ≤ table.branded.length := by decide +kernel

/-- `Gc`'s invariance is obtained from its `_marker` field (the second one) through the general
lemma, independently of the `ptr` field. -/
example : table.variance "Gc" (.lt "gc") = .inv := by
  refine variance_inv_of_field table "Gc" _ _ (.lt "gc") rfl
    (List.mem_cons_of_mem _ (List.mem_cons_self ..)) rfl ?_
  decide +kernel

/-- … and `Mutation` is not `Send` because of its `context` field, through the general lemma. -/
example : (table.autoOf "Mutation").send = false := by
  refine not_send_of_field table "Mutation" _ _ rfl (List.mem_cons_self ..) rfl ?_ ?_ <;> decide +kernel

/-- The auto-trait derivation is not constantly "no": `Pacing` (plain floats) is `Send + Sync`. -/
example : (table.autoOf "Pacing").send = true ∧ (table.autoOf "Pacing").sync = true := by decide +kernel

/-- Eight entry points, all found. -/
example : requiredCallbacks.length = 8 ∧ 8 ≤ table.callbacks.length := by decide +kernel

/-- The callback check can fail: `mutate` with the brand turned into an outer lifetime parameter
(`fn mutate<'a, F: FnOnce(&'a Mutation<'a>, &'a Root<'a, R>) -> T>`) is rejected. -/
example : Callback.ok
    { name := "Arena::mutate", file := "arena.rs", outerLts := ["a"], outerTys := ["R", "F", "T"],
      fnTrait := "FnOnce", binder := [],
      args := [.ref (.named "a") (.adt "Mutation" [.named "a"] []),
               .ref (.named "a") (.proj (.param "R") "Rootable" [.named "a"] [] "Root")],
      ret := .param "T", fnRet := .param "T" } = false := by decide +kernel

/-- … and so is a callback that may return a branded pointer. -/
example : Callback.ok
    { name := "Arena::mutate", file := "arena.rs", outerLts := [], outerTys := ["R", "F", "T"],
      fnTrait := "FnOnce", binder := ["gc"],
      args := [.ref (.named "gc") (.adt "Mutation" [.named "gc"] []),
               .ref (.named "gc") (.proj (.param "R") "Rootable" [.named "gc"] [] "Root")],
      ret := .adt "Gc" [.named "gc"] [.param "T"], fnRet := .param "T" } = false := by decide +kernel

/-- The derived rows are there, `GcBuilder<T>` (the D4 case) among them, together with the slice
builders that contain one. -/
example : 4 ≤ table.builderRows.length ∧ table.builderRows.contains ("GcBuilder", "T") = true :=
  -- the six required rows are distinct and are all among the derived ones
  ⟨Nat.le_trans (by decide) (List.Nodup.length_le_of_subset (by decide +kernel : requiredBuilderRows.Nodup)
      fun r hr => List.contains_iff_mem.mp (required_builder_rows r hr).1),
   (required_builder_rows _ (List.mem_cons_self ..)).1⟩

/-- D4 witness: with the pre-fix marker `PhantomData<(Invariant<'gc>, M, P)>` (no `*mut T`) the row
`GcBuilder<T>` is still derived – nothing about holding or storing changed – and is rejected, as
are the slice builders built on it. -/
example :
    let pre : Table := { table with adts := table.adts.map (fun d =>
      if d.name == "GcBuilder" then
        { d with fields := d.fields.map (fun f =>
            if f.name == "_marker" then
              { f with ty := .std .phantomData [.tuple
                  [.std .phantomData [.std .cell [.ref (.named "gc") (.tuple [])]],
                   .param "M", .param "P"]] }
            else f) }
      else d) }
    pre.builderRows.contains ("GcBuilder", "T") = true ∧
    pre.builderOk ("GcBuilder", "T") = false ∧
    pre.variance "GcBuilder" (.ty "T") = .co ∧
    2 ≤ pre.violBuilders.length := by decide +kernel

/-- The rule is about the combination: a type that *owns* its parameter by value (`Static<T>`,
`Write<T>`) yields no row however it is written to, and a hypothetical covariant
`Slot<T> { p: *mut T }` with an unbounded safe `put(&mut self, v: T)` is a row and is rejected. -/
example :
    table.builderRows.all (fun r => r.1 != "Static" && r.1 != "Write") = true ∧
    (let tbl : Table := { table with
        adts := { name := "Slot", file := "x.rs", vis := .pub, kind := "struct", lts := [], tys := ["T"],
                  fields := [{ name := "p", ty := .std .nonNull [.param "T"] }] } :: table.adts,
        methods := { adt := "Slot", file := "x.rs", method := "put", selfArgs := [.param "T"],
                     params := [.param "T"], bounded := [] } :: table.methods }
     tbl.builderRows.contains ("Slot", "T") = true ∧ tbl.builderOk ("Slot", "T") = false) :=
  ⟨builderRows_checked.2.2, by decide +kernel⟩

/-- Re-branding sites that need a cover exist, all are covered, and the identity check is really
applied somewhere (at a site or at the call of a helper); independent of function names. -/
example : 1 ≤ table.rebrandSites.length ∧ 1 ≤ table.identityChecks ∧
    table.rebrandSites.all table.transmuteOk = true :=
  ⟨rebrand_sites_present.1, rebrand_sites_present.2,
   List.all_eq_true.mpr fun t ht => transmutes_guarded t (List.mem_filter.mp ht).1⟩

/-- The lifting can fail.  A private `unsafe fn rebrand(root)` holding the transmute is covered
when both callers check `self.contains(root)` first, and is *not* covered – blaming the caller – as
soon as one safe caller does not, or checks a different handle, or the helper is only mentioned. -/
example :
    let t : Transmute :=
      { file := "dynamic_roots.rs", fn_ := "DynamicRootSet::rebrand", fnUnsafe := true, fnPub := false,
        src := some (.adt "Gc" [.static] []), dst := some (.adt "Gc" [.named "gc"] []),
        guards := [], castToRaw := false, operand := "root.ptr", operandBase := "root",
        fnRet := .adt "Gc" [.named "gc"] [], fnLast := "rebrand", fnParams := ["root"] }
    let site (caller arg : String) (gs : List Guard) (called : Bool) : CallSite :=
      { file := "dynamic_roots.rs", caller := caller, callerLast := caller, callerUnsafe := false,
        callerPub := true, callerParams := ["self", "root", "other"], callee := "rebrand",
        calleePath := "Self::rebrand", args := [arg], argBases := [arg], guards := gs, isCall := called }
    let chk : List Guard := [{ cond := "self.contains(root)", thenBranch := true }]
    let tbl (cs : List CallSite) : Table := { table with transmutes := [t], callSites := cs }
    (tbl [site "fetch" "root" chk true, site "try_fetch" "root" chk true]).transmuteOk t = true ∧
    (tbl [site "fetch" "root" chk true, site "peek" "root" [] true]).blameOf t = ["peek"] ∧
    (tbl [site "fetch" "other" chk true]).blameOf t = ["fetch"] ∧
    (tbl [site "fetch" "root" [{ cond := "self.contains(root)", thenBranch := false }] true]).transmuteOk t = false ∧
    (tbl [site "fetch" "root" chk false]).transmuteOk t = false ∧
    ({ table with transmutes := [{ t with fnUnsafe := false }], callSites := [] } : Table).blameOf
        { t with fnUnsafe := false } = ["DynamicRootSet::rebrand"] ∧
    -- a `pub unsafe fn` is no excuse for a caller inside the crate
    ({ table with transmutes := [{ t with fnPub := true }],
                  callSites := [site "fetch" "root" [] true] } : Table).blameOf
        { t with fnPub := true } = ["fetch"] ∧
    -- … and a `contains` that is not a comparison of `self` with the handle voids every guard
    ({ table with transmutes := [t], callSites := [site "fetch" "root" chk true],
                  identityFns := table.identityFns.map (fun f => { f with cmp := "" }) } : Table).transmuteOk t
        = false ∧
    ({ table with transmutes := [t], callSites := [site "fetch" "root" chk true],
                  identityFns := table.identityFns.map (fun f => { f with rhsDeps := f.lhsDeps }) } : Table).transmuteOk t
        = false := by decide +kernel

/-- The brand-site rule can fail: a safe `pub fn` without a higher-ranked callback that creates a
brand is blamed, directly or through a private helper; the same helper used by `mutate` only is
fine. -/
example :
    let site : BrandSite :=
      { file := "arena.rs", fn_ := "static_mutation", fnLast := "static_mutation", fnUnsafe := true,
        fnPub := false, kind := "cast", text := "*(cx as *const _)" }
    let call (caller : String) (pub : Bool) : CallSite :=
      { file := "arena.rs", caller := caller, callerLast := caller, callerUnsafe := false,
        callerPub := pub, callerParams := [], callee := "static_mutation", calleePath := "static_mutation",
        args := [], argBases := [], guards := [], isCall := true }
    ({ table with brandSites := [site], callSites := [call "Arena::mutate" true] } : Table).brandSiteOk site = true ∧
    ({ table with brandSites := [site], callSites := [call "Arena::mutate" true, call "Arena::leak" true] } : Table).brandSiteBlame site
      = ["Arena::leak"] ∧
    ({ table with brandSites := [{ site with fn_ := "Arena::leak", fnLast := "leak", fnUnsafe := false, fnPub := true }] } : Table).brandSiteOk
      { site with fn_ := "Arena::leak", fnLast := "leak", fnUnsafe := false, fnPub := true } = false := by decide +kernel

end GcArena.C12
