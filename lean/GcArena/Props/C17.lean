import GcArena.Proofs.LayoutLemmas
/-!
# C17 — allocation layout integrity (property theorems)

Model: `GcArena.Model.Layout` (src/gc_ptr.rs, src/slice.rs, src/meta.rs and `core::alloc::Layout`
over `Nat`).  Every theorem is universally quantified over `maxSize` (= `isize::MAX`), the
`GcHeader` layout `hdr`, the per-value metadata kind `k : PtrKind` (its metadata layout and its
`P::layout` function), the metadata value, the block address, all sizes, all power-of-two
alignments and all lengths; nothing is proved by enumeration of samples.  The common
hypotheses are `k.Ok maxSize` (the metadata type is a Rust type and `P::layout` returns
`Layout`s), `IsTypeLayout maxSize hdr` and `gcAlloc … = some p` (the allocation did not panic);
`sizedKind_ok`, `customKind_ok`, `sliceWithHeaderKind_ok` show the built-in kinds satisfy
`PtrKind.Ok`.  Tie: `lib/eng_layout.py` (harness_layout vs. `layoutmodel`).

`stable` and `dealloc_same_layout` are frame lemmas (they assume where writes fall).  The
substantive claim — the collector's bookkeeping writes (`CollectorWrite`: the two stores of
`GcPtr::alloc` and the four `GcHeader` setters) all land in the header extent / metadata slot,
hence never in the value — is `collector_writes_in_header`, `stable_under_collector_writes` and
`dealloc_same_layout_collector_history` in the section "The collector's bookkeeping writes never
touch the value" below, whose docstring says what ties `CollectorWrite` to the code.
-/
namespace GcArena.C17

open GcArena.Layout

/-- The assertion of `prefix_header_layout` can never fire for `META_HEADER_LAYOUT`: its size is a
    multiple of its alignment, and it has room for the metadata followed by the header. -/
theorem meta_header_size_multiple (maxSize : Nat) (pmeta hdr mhl : Layout)
    (hm : IsTypeLayout maxSize pmeta) (hh : IsTypeLayout maxSize hdr)
    (h : metaHeaderLayout maxSize pmeta hdr = some mhl) :
    mhl.size % mhl.align = 0 ∧ pmeta.size + hdr.size ≤ mhl.size ∧
      mhl.align = max pmeta.align hdr.align := by
  obtain ⟨ha, _, hd, hs, _, _⟩ := metaHeaderLayout_spec hm hh h
  exact ⟨Nat.mod_eq_zero_of_dvd hd, hs, ha⟩

/-- The pointer returned by `GcPtr::alloc` is aligned for the value, for every block address the
    allocator may return for the requested layout. -/
theorem value_aligned (maxSize : Nat) (hdr : Layout) (k : PtrKind) (ptrMeta : Nat) (p : Plan)
    (block : Nat) (hk : k.Ok maxSize) (hh : IsTypeLayout maxSize hdr)
    (h : gcAlloc maxSize hdr k ptrMeta = some p) (hb : block % p.alloc.align = 0) :
    k.layoutOf ptrMeta = some p.value ∧ valuePtr block p % p.value.align = 0 ∧
      p.valueOff % p.value.align = 0 := by
  have G := gcAlloc_geometry hk hh h
  refine ⟨(gcAlloc_eq_some h).2.1, ?_, Nat.mod_eq_zero_of_dvd G.value_off⟩
  exact mod_zero_of_dvd_add (Nat.dvd_trans G.value_alloc (Nat.dvd_of_mod_eq_zero hb)) G.value_off

/-- The `GcHeader` sits exactly `size_of::<GcHeader>()` bytes in front of the value, at an address
    aligned for it (`(off − hdr.size) % hdr.align = 0`), with no underflow. -/
theorem header_aligned (maxSize : Nat) (hdr : Layout) (k : PtrKind) (ptrMeta : Nat) (p : Plan)
    (block : Nat) (hk : k.Ok maxSize) (hh : IsTypeLayout maxSize hdr)
    (h : gcAlloc maxSize hdr k ptrMeta = some p) (hb : block % p.alloc.align = 0) :
    p.headerOff hdr % hdr.align = 0 ∧
      headerPtr hdr (valuePtr block p) = block + p.headerOff hdr ∧
      headerPtr hdr (valuePtr block p) % hdr.align = 0 ∧
      headerPtr hdr (valuePtr block p) + hdr.size = valuePtr block p := by
  have G := gcAlloc_geometry hk hh h
  have hoff : hdr.align ∣ p.headerOff hdr :=
    Nat.dvd_sub (Nat.dvd_trans G.hdr_mhl G.mhl_off) (Nat.dvd_of_mod_eq_zero hh.2)
  have hblk : hdr.align ∣ block :=
    Nat.dvd_trans G.hdr_mhl (Nat.dvd_trans G.mhl_alloc (Nat.dvd_of_mod_eq_zero hb))
  have e := headerPtr_valuePtr block G.hdr_le
  refine ⟨Nat.mod_eq_zero_of_dvd hoff, e, ?_, ?_⟩
  · rw [e]; exact mod_zero_of_dvd_add hblk hoff
  · rw [e, Plan.headerOff, Nat.add_assoc, Nat.sub_add_cancel G.hdr_le]; rfl

/-- The per-value metadata slot (`value − META_HEADER_LAYOUT.size`) is aligned for the metadata
    type. -/
theorem meta_aligned (maxSize : Nat) (hdr : Layout) (k : PtrKind) (ptrMeta : Nat) (p : Plan)
    (block : Nat) (hk : k.Ok maxSize) (hh : IsTypeLayout maxSize hdr)
    (h : gcAlloc maxSize hdr k ptrMeta = some p) (hb : block % p.alloc.align = 0) :
    metaPtr p.mhl (valuePtr block p) = block + p.metaOff ∧
      metaPtr p.mhl (valuePtr block p) % k.pmeta.align = 0 ∧
      p.metaOff % k.pmeta.align = 0 := by
  have G := gcAlloc_geometry hk hh h
  have hoff : k.pmeta.align ∣ p.metaOff :=
    Nat.dvd_trans G.pmeta_mhl (Nat.dvd_sub G.mhl_off G.mhl_size)
  have hblk : k.pmeta.align ∣ block :=
    Nat.dvd_trans G.pmeta_mhl (Nat.dvd_trans G.mhl_alloc (Nat.dvd_of_mod_eq_zero hb))
  have e := metaPtr_valuePtr block G.mhl_le
  refine ⟨e, ?_, Nat.mod_eq_zero_of_dvd hoff⟩
  rw [e]; exact mod_zero_of_dvd_add hblk hoff

/-- Metadata slot, `GcHeader` and value extent lie in this order inside `[block, block +
    alloc.size)`, hence are pairwise disjoint — zero-sized metadata, values, headers, elements and
    lengths included.  The value ends exactly at the end of the block. -/
theorem disjoint (maxSize : Nat) (hdr : Layout) (k : PtrKind) (ptrMeta : Nat) (p : Plan)
    (block : Nat) (hk : k.Ok maxSize) (hh : IsTypeLayout maxSize hdr)
    (h : gcAlloc maxSize hdr k ptrMeta = some p) :
    block ≤ metaPtr p.mhl (valuePtr block p) ∧
      metaPtr p.mhl (valuePtr block p) + k.pmeta.size ≤ headerPtr hdr (valuePtr block p) ∧
      headerPtr hdr (valuePtr block p) + hdr.size = valuePtr block p ∧
      valuePtr block p + p.value.size = block + p.alloc.size := by
  have G := gcAlloc_geometry hk hh h
  rw [metaPtr_valuePtr block G.mhl_le, headerPtr_valuePtr block G.hdr_le]
  have := G.size_eq
  have := G.mhl_le
  have := G.fits
  unfold Plan.metaOff Plan.headerOff valuePtr
  omega

/-- If the writes after allocation touch only the header and the value extent (hypothesis `hws`;
    for the collector's own writes see `dealloc_same_layout_collector_history`), then the metadata
    read back by the `dealloc` entry of the vtable is the metadata written by `GcPtr::alloc`, the
    layout recomputed from it is the requested layout, and the
    pointer handed to `alloc::dealloc` is the block start. -/
theorem dealloc_same_layout (maxSize : Nat) (hdr : Layout) (k : PtrKind) (ptrMeta : Nat)
    (p : Plan) (block : Nat) (hk : k.Ok maxSize) (hh : IsTypeLayout maxSize hdr)
    (h : gcAlloc maxSize hdr k ptrMeta = some p)
    (m0 : Nat → Nat) (enc : Nat → List Nat) (dec : List Nat → Nat)
    (henc : (enc ptrMeta).length = k.pmeta.size) (hdec : dec (enc ptrMeta) = ptrMeta)
    (ws : List (Nat × Nat))
    (hws : ∀ w ∈ ws,
      (headerPtr hdr (valuePtr block p) ≤ w.1 ∧ w.1 < valuePtr block p) ∨
      (valuePtr block p ≤ w.1 ∧ w.1 < valuePtr block p + p.value.size)) :
    readPtrMeta (applyWrites (writeCells m0 (metaPtr p.mhl (valuePtr block p)) (enc ptrMeta)) ws)
        dec p.mhl k.pmeta (valuePtr block p) = ptrMeta ∧
      gcDealloc maxSize hdr k (valuePtr block p)
        (readPtrMeta (applyWrites (writeCells m0 (metaPtr p.mhl (valuePtr block p)) (enc ptrMeta)) ws)
          dec p.mhl k.pmeta (valuePtr block p)) = some (block, p.alloc) := by
  obtain ⟨_, hd2, hd3, _⟩ := disjoint maxSize hdr k ptrMeta p block hk hh h
  have hread := readPtrMeta_of_agree (mhl := p.mhl) (value := valuePtr block p) henc hdec
    (fun a h1 h2 => applyWrites_outside ws (writeCells m0 _ (enc ptrMeta)) a (fun w hw e => by
      rcases hws w hw with hx | hx <;> omega))
  exact ⟨hread, by rw [hread, gcDealloc_of_gcAlloc _ h, valuePtr, Nat.add_sub_cancel]⟩

/-- Overflow or a missing value layout make `gcAlloc` answer `none`, and then `GcPtr::alloc`
    panics before any call of the allocator; otherwise exactly one block of the planned layout is
    requested.  `gcAlloc` is `none` exactly when the value has no layout, `META_HEADER_LAYOUT`
    does not exist, or header + padding + value (rounded to the alignment) exceed `isize::MAX`. -/
theorem no_layout_panics_cleanly (maxSize : Nat) (hdr : Layout) (k : PtrKind) (ptrMeta : Nat)
    (hk : k.Ok maxSize) (hh : IsTypeLayout maxSize hdr) :
    (gcAlloc maxSize hdr k ptrMeta = none →
        gcAllocTrace maxSize hdr k ptrMeta = [AllocEvent.panic]) ∧
      (∀ p, gcAlloc maxSize hdr k ptrMeta = some p →
        gcAllocTrace maxSize hdr k ptrMeta = [AllocEvent.alloc p.alloc]) ∧
      (gcAlloc maxSize hdr k ptrMeta = none ↔
        (k.layoutOf ptrMeta = none ∨ metaHeaderLayout maxSize k.pmeta hdr = none ∨
          ∃ mhl v, metaHeaderLayout maxSize k.pmeta hdr = some mhl ∧ k.layoutOf ptrMeta = some v ∧
            maxSize < roundUp mhl.size v.align + v.size + (max mhl.align v.align - 1))) := by
  refine ⟨fun h => by unfold gcAllocTrace; rw [h], fun p h => by unfold gcAllocTrace; rw [h], ?_⟩
  cases hm : metaHeaderLayout maxSize k.pmeta hdr with
  | none => simp [gcAlloc, hm]
  | some mhl =>
    cases hv : k.layoutOf ptrMeta with
    | none => simp [gcAlloc, hm, hv]
    | some v =>
      obtain ⟨_, hpow, hdvd, _⟩ := metaHeaderLayout_spec hk.pmeta hh hm
      have hpow' := isPow2_max hpow (hk.value _ _ hv).1
      -- the assertion of `prefix_header_layout` holds, so only `extend` can fail
      have hext : gcAlloc maxSize hdr k ptrMeta = none ↔ extend maxSize mhl v = none := by
        simp only [gcAlloc, hm, hv, prefixHeaderLayout, Nat.mod_eq_zero_of_dvd hdvd, ne_eq,
          not_true_eq_false, if_false]
        cases extend maxSize mhl v <;> simp
      rw [hext, extend_eq]
      simp [Layout.Valid, hpow', Nat.not_le]

/-- Thin ↔ fat conversion keeps the address and reconstructs exactly the length stored at
    allocation, whatever the mutator and collector have written to the header and the value since;
    `to_thin`/`from_thin` are mutually inverse. -/
theorem thin_fat_roundtrip (maxSize : Nat) (hdr : Layout) (k : PtrKind) (len : Nat)
    (p : Plan) (block : Nat) (hk : k.Ok maxSize) (hh : IsTypeLayout maxSize hdr)
    (h : gcAlloc maxSize hdr k len = some p)
    (m0 : Nat → Nat) (enc : Nat → List Nat) (dec : List Nat → Nat)
    (henc : (enc len).length = k.pmeta.size) (hdec : dec (enc len) = len)
    (ws : List (Nat × Nat))
    (hws : ∀ w ∈ ws,
      (headerPtr hdr (valuePtr block p) ≤ w.1 ∧ w.1 < valuePtr block p) ∨
      (valuePtr block p ≤ w.1 ∧ w.1 < valuePtr block p + p.value.size)) :
    (∀ f : FatPtr, fromThin (toThin f) f.len = f) ∧
      (∀ a l, toThin (fromThin a l) = a ∧ (fromThin a l).len = l) ∧
      fatPtr (applyWrites (writeCells m0 (metaPtr p.mhl (valuePtr block p)) (enc len)) ws)
          dec p.mhl k.pmeta (toThin ⟨valuePtr block p, len⟩) = ⟨valuePtr block p, len⟩ := by
  refine ⟨fun f => rfl, fun a l => ⟨rfl, rfl⟩, ?_⟩
  have := (dealloc_same_layout maxSize hdr k len p block hk hh h m0 enc dec henc hdec ws hws).1
  unfold fatPtr toThin fromThin
  simp only
  rw [this]

/-- A value is neither moved nor damaged by writes that stay where they belong (that the
    collector's do is `stable_under_collector_writes`): writes confined to the header (colour,
    flags, `next`) leave every byte of the value extent and of the metadata slot
    unchanged, and writes confined to the value extent leave the header and metadata unchanged.
    (Addresses are never recomputed: the value stays at `valuePtr block p`.) -/
theorem stable (maxSize : Nat) (hdr : Layout) (k : PtrKind) (ptrMeta : Nat) (p : Plan)
    (block : Nat) (hk : k.Ok maxSize) (hh : IsTypeLayout maxSize hdr)
    (h : gcAlloc maxSize hdr k ptrMeta = some p) (m : Nat → Nat) (ws : List (Nat × Nat)) :
    ((∀ w ∈ ws, headerPtr hdr (valuePtr block p) ≤ w.1 ∧ w.1 < valuePtr block p) →
        readCells (applyWrites m ws) (valuePtr block p) p.value.size =
          readCells m (valuePtr block p) p.value.size ∧
        readCells (applyWrites m ws) (metaPtr p.mhl (valuePtr block p)) k.pmeta.size =
          readCells m (metaPtr p.mhl (valuePtr block p)) k.pmeta.size) ∧
      ((∀ w ∈ ws, valuePtr block p ≤ w.1 ∧ w.1 < valuePtr block p + p.value.size) →
        readCells (applyWrites m ws) (headerPtr hdr (valuePtr block p)) hdr.size =
          readCells m (headerPtr hdr (valuePtr block p)) hdr.size ∧
        readCells (applyWrites m ws) (metaPtr p.mhl (valuePtr block p)) k.pmeta.size =
          readCells m (metaPtr p.mhl (valuePtr block p)) k.pmeta.size) := by
  obtain ⟨_, hd2, hd3, _⟩ := disjoint maxSize hdr k ptrMeta p block hk hh h
  refine ⟨fun hws => ⟨?_, ?_⟩, fun hws => ⟨?_, ?_⟩⟩ <;>
  · apply readCells_congr
    intro a h1 h2
    apply applyWrites_outside
    intro w hw e
    have := hws w hw
    omega

/-- `SliceWithHeader::layout(len)` is large and aligned enough for the `#[repr(C)]` value: the
    header field at offset 0 ends before the slice field, every element `i < len` lies inside
    the value at an address aligned for `E`, the value alignment serves both `H` and `E`, and the
    size is padded to the alignment. -/
theorem slice_layout_sound (maxSize : Nat) (h e v : Layout) (len : Nat)
    (hh : IsTypeLayout maxSize h) (he : IsTypeLayout maxSize e)
    (hs : sliceWithHeaderLayout maxSize h e len = some v) :
    v.align = max h.align e.align ∧ h.align ∣ v.align ∧ e.align ∣ v.align ∧
      v.size % v.align = 0 ∧ h.size ≤ sliceFieldOff h e ∧
      (∀ i, i < len → (sliceFieldOff h e + e.size * i) % e.align = 0 ∧
        sliceFieldOff h e + e.size * i + e.size ≤ v.size) := by
  obtain ⟨l, hl, rfl, hle, _⟩ := sliceWithHeaderLayout_eq_some he hs
  subst hle
  have hha := hh.1.1
  have hea := he.1.1
  have hge := roundUp_ge (sliceFieldOff h e + e.size * len) (max h.align e.align)
    (isPow2_pos (isPow2_max hha hea))
  refine ⟨rfl, dvd_max_left hha hea, dvd_max_right hha hea, roundUp_mod _ _,
    roundUp_ge _ _ (isPow2_pos hea), fun i hi => ⟨?_, ?_⟩⟩
  · exact mod_zero_of_dvd_add (roundUp_dvd _ _)
      (Nat.dvd_trans (Nat.dvd_of_mod_eq_zero he.2) (Nat.dvd_mul_right _ _))
  · have : e.size * i + e.size ≤ e.size * len := by
      rw [← Nat.mul_succ]; exact Nat.mul_le_mul_left _ hi
    show sliceFieldOff h e + e.size * i + e.size ≤
      roundUp (sliceFieldOff h e + e.size * len) (max h.align e.align)
    omega

/-- `Layout::from_size_align`'s test `size ≤ isize::MAX − (align − 1)` is the `isize::MAX`
    rounding rule: it holds exactly when the size rounded up to the alignment is at most
    `maxSize` (for `maxSize + 1` a power of two, as `isize::MAX + 1` is). -/
theorem from_size_align_rounding_rule (maxSize size align : Nat)
    (hmax : isPow2 (maxSize + 1) = true) (ha : isPow2 align = true) (hle : align ≤ maxSize + 1) :
    (fromSizeAlign maxSize size align).isSome = true ↔ roundUp size align ≤ maxSize := by
  rw [← add_le_iff_roundUp_le (isPow2_pos ha) (isPow2_dvd ha hmax hle)]
  unfold fromSizeAlign
  simp [ha]

/-- The masks used by `GcHeader` pass the compile-time checks of `tagged_ptr` and do not
    overlap. -/
theorem tag_masks_valid :
    isValidMask colorMask = true ∧ isValidMask needsTraceMask = true ∧
      isValidMask liveMask = true ∧ isBooleanMask needsTraceMask = true ∧
      isBooleanMask liveMask = true ∧ colorMask &&& needsTraceMask = 0 ∧
      colorMask &&& liveMask = 0 ∧ needsTraceMask &&& liveMask = 0 ∧
      colorMask ||| needsTraceMask ||| liveMask = vtableAlign - 1 := by
  decide

/-- On an arbitrary header word, each setter changes only its own field: `set_color` keeps
    `needs_trace`, `is_live` and the vtable; `set_needs_trace` keeps colour, `is_live`, vtable;
    `set_live` keeps colour, `needs_trace`, vtable; and each getter reads back what was set. -/
theorem tag_fields_independent (bits w c : Nat) (b : Bool) (hb : 4 ≤ bits) (hw : w < 2 ^ bits)
    (hc : c < 4) :
    (hdrColor (hdrSetColor bits w c) = c ∧
      hdrNeedsTrace (hdrSetColor bits w c) = hdrNeedsTrace w ∧
      hdrIsLive (hdrSetColor bits w c) = hdrIsLive w ∧
      untag bits (hdrSetColor bits w c) = untag bits w ∧ hdrSetColor bits w c < 2 ^ bits) ∧
    (hdrNeedsTrace (hdrSetNeedsTrace bits w b) = b ∧
      hdrColor (hdrSetNeedsTrace bits w b) = hdrColor w ∧
      hdrIsLive (hdrSetNeedsTrace bits w b) = hdrIsLive w ∧
      untag bits (hdrSetNeedsTrace bits w b) = untag bits w ∧
      hdrSetNeedsTrace bits w b < 2 ^ bits) ∧
    (hdrIsLive (hdrSetLive bits w b) = b ∧
      hdrColor (hdrSetLive bits w b) = hdrColor w ∧
      hdrNeedsTrace (hdrSetLive bits w b) = hdrNeedsTrace w ∧
      untag bits (hdrSetLive bits w b) = untag bits w ∧ hdrSetLive bits w b < 2 ^ bits) := by
  have h16 : 2 ^ 4 ≤ 2 ^ bits := Nat.pow_le_pow_right (by decide) hb
  have hcx : c &&& 3 = c := (Nat.and_two_pow_sub_one_eq_mod c 2).trans (Nat.mod_eq_of_lt hc)
  obtain ⟨c1, c2, c3, c4⟩ := field_store (m := colorMask) (x := c &&& colorMask) hw
    (Nat.lt_of_lt_of_le (by decide) h16) (by rw [Nat.and_assoc, Nat.and_self])
  obtain ⟨n1, n2, n3, n4⟩ := field_store (m := needsTraceMask) (x := if b then needsTraceMask else 0) hw
    (Nat.lt_of_lt_of_le (by decide) h16) (by cases b <;> rfl)
  obtain ⟨l1, l2, l3, l4⟩ := field_store (m := liveMask) (x := if b then liveMask else 0) hw
    (Nat.lt_of_lt_of_le (by decide) h16) (by cases b <;> rfl)
  have lt : ∀ m, m < 2 ^ 4 → m < 2 ^ bits := fun m h => Nat.lt_of_lt_of_le h h16
  -- of `field_store`: `_1` reads the stored field back, `_2 m'` keeps what lies under a mask `m'`
  -- disjoint from it (3 colour, 4 needs_trace, 8 live), `_3 15` keeps `untag` (15: all tag bits)
  exact ⟨⟨c1.trans hcx, congrArg (· != 0) (c2 4 (lt _ (by decide)) rfl),
      congrArg (· != 0) (c2 8 (lt _ (by decide)) rfl), c3 15 (lt _ (by decide)) rfl, c4⟩,
    ⟨(congrArg (· != 0) n1).trans (by cases b <;> rfl), n2 3 (lt _ (by decide)) rfl,
      congrArg (· != 0) (n2 8 (lt _ (by decide)) rfl), n3 15 (lt _ (by decide)) rfl, n4⟩,
    ⟨(congrArg (· != 0) l1).trans (by cases b <;> rfl), l2 3 (lt _ (by decide)) rfl,
      congrArg (· != 0) (l2 4 (lt _ (by decide)) rfl), l3 15 (lt _ (by decide)) rfl, l4⟩⟩

/-- For every 16-aligned vtable address below `2^bits`, the header word built by `new`,
    `set_needs_trace`, `set_live`, `set_color` decodes to exactly the colour, `needs_trace` and
    `is_live` that were set, and `untag` returns the original vtable address. -/
theorem tag_bits (bits vtable color : Nat) (needsTrace live : Bool) (hb : 4 ≤ bits)
    (hv : vtable < 2 ^ bits) (ha : vtable % vtableAlign = 0) (hc : color < 4) :
    untag bits (hdrWord bits vtable color needsTrace live) = vtable ∧
      hdrColor (hdrWord bits vtable color needsTrace live) = color ∧
      hdrNeedsTrace (hdrWord bits vtable color needsTrace live) = needsTrace ∧
      hdrIsLive (hdrWord bits vtable color needsTrace live) = live ∧
      hdrWord bits vtable color needsTrace live < 2 ^ bits := by
  have hu : untag bits vtable = vtable :=
    andNot_of_and_eq_zero hv ((Nat.and_two_pow_sub_one_eq_mod vtable 4).trans ha)
  unfold hdrWord hdrNew
  obtain ⟨_, ⟨n1, _, _, n4, n5⟩, _⟩ :=
    tag_fields_independent bits vtable 0 needsTrace hb hv (by decide)
  obtain ⟨_, _, ⟨l1, _, l3, l4, l5⟩⟩ :=
    tag_fields_independent bits (hdrSetNeedsTrace bits vtable needsTrace) 0 live hb n5 (by decide)
  obtain ⟨⟨c1, c2, c3, c4, c5⟩, _, _⟩ :=
    tag_fields_independent bits (hdrSetLive bits (hdrSetNeedsTrace bits vtable needsTrace) live)
      color false hb l5 hc
  exact ⟨by rw [c4, l4, n4, hu], c1, by rw [c2, l3, n1], by rw [c3, l1], c5⟩

/-! ## The collector's bookkeeping writes never touch the value

`stable` and `dealloc_same_layout` above are frame lemmas: they *assume* (`hws`) that writes fall
inside the header or the value extent.  The theorems below discharge that assumption for the
writes the crate actually performs on an allocated block — `CollectorWrite` in
`GcArena.Model.Layout`: the two stores of `GcPtr::alloc` (`meta_ptr.write(ptr_meta)`,
`header_ptr.write(GcHeader::new(..))`) and the four `&self` mutators of `GcHeader` (`set_color`,
`set_needs_trace`, `set_live` on the tagged vtable word, `set_next` on the `next` word), each
modelled as a store of bytes at `value_ptr − size_of::<GcHeader>() + field offset`.  The field
offsets are arbitrary (`HeaderFields`, `repr(Rust)` field order is not fixed) subject only to
`HeaderFields.Fits` (a field lies inside its struct).

What ties `CollectorWrite` to the code (modelled, not verified — DESIGN §9):
* grep-level fact about /repo/src (checkable with `grep -n '\.write(\|\.set(\|\.update(' src/gc_ptr.rs`
  and `grep -rn GcHeader src | grep -v gc_ptr.rs`): `GcHeader` is named in no file other than
  `gc_ptr.rs`; its fields `next` and `tagged_vtable` are private; the only `.set(` / `.update(` on
  them are the bodies of `set_next`, `set_color`, `set_needs_trace`, `set_live` (4 sites), and the
  only raw `.write(` in `gc_ptr.rs` are the two lines of `GcPtr::alloc`.  Every other module
  (`context.rs`, `gc.rs`) reaches a header only as `&GcHeader` through `GcPtr::header()`, i.e.
  only through those four setters;
* the correspondence harness (`harness_layout`, `lib/eng_layout.py`): the allocator pre-fills
  every block, so the bytes the crate stored before the value is initialised are observed
  (`written …` of the canonical answer: exactly metadata slot ∪ header); a byte pattern over the
  whole value extent is re-read after each of several `finish_cycle`s and after barriers;
  guard bytes around every block are checked on release and at the end of each case; the raw
  tagged word is read from the header in every reachable state (`tag …` cases).
-/

/-- Every store of every `CollectorWrite` on a block laid out by `gcAlloc` lies inside the block
    and strictly in front of the value extent: the four header mutators and `GcHeader::new`
    store inside the header extent `[headerPtr, valuePtr)` (one word at the field's offset), the
    allocation-time metadata store inside the metadata slot, which ends before the header
    starts.  The header extent ends where the value extent begins, so it is disjoint from it. -/
theorem collector_writes_in_header (maxSize : Nat) (hdr : Layout) (k : PtrKind) (ptrMeta : Nat)
    (p : Plan) (block : Nat) (hk : k.Ok maxSize) (hh : IsTypeLayout maxSize hdr)
    (h : gcAlloc maxSize hdr k ptrMeta = some p) (f : HeaderFields) (hf : f.Fits hdr) (bits : Nat)
    (m : Nat → Nat) (w : CollectorWrite) :
    ∀ s ∈ w.stores f bits hdr p.mhl k.pmeta (valuePtr block p) m,
      ((∀ enc, w ≠ .writeMeta enc) →
        headerPtr hdr (valuePtr block p) ≤ s.lo ∧ s.lo + s.bytes.length ≤ valuePtr block p) ∧
      ((∃ enc, w = .writeMeta enc) →
        metaPtr p.mhl (valuePtr block p) ≤ s.lo ∧
        s.lo + s.bytes.length ≤ metaPtr p.mhl (valuePtr block p) + k.pmeta.size ∧
        s.lo + s.bytes.length ≤ headerPtr hdr (valuePtr block p)) ∧
      block ≤ s.lo ∧ s.lo + s.bytes.length ≤ valuePtr block p ∧
      (∀ a, valuePtr block p ≤ a → a < valuePtr block p + p.value.size →
        ¬ (s.lo ≤ a ∧ a < s.lo + s.bytes.length)) := by
  obtain ⟨d1, d2, d3, _⟩ := disjoint maxSize hdr k ptrMeta p block hk hh h
  intro s hs
  -- the extent each kind of store lies in: header, or metadata slot
  have hin : ((∀ enc, w ≠ .writeMeta enc) ∧
        headerPtr hdr (valuePtr block p) ≤ s.lo ∧ s.lo + s.bytes.length ≤ valuePtr block p) ∨
      ((∃ enc, w = .writeMeta enc) ∧ metaPtr p.mhl (valuePtr block p) ≤ s.lo ∧
        s.lo + s.bytes.length ≤ metaPtr p.mhl (valuePtr block p) + k.pmeta.size) := by
    cases w with
    | writeMeta enc =>
      obtain rfl := List.mem_singleton.1 hs
      exact .inr ⟨⟨enc, rfl⟩, Nat.le_refl _,
        Nat.add_le_add_left ((List.length_take_le _ _)) _⟩
    | headerNew vt =>
      obtain ⟨f1, f2⟩ := hf
      simp only [CollectorWrite.stores, List.mem_cons, List.mem_nil_iff, or_false] at hs
      refine .inl ⟨fun _ => CollectorWrite.noConfusion, ?_⟩
      rcases hs with rfl | rfl <;> simp only [wordBytes_length] <;> omega
    | header hw =>
      obtain rfl := List.mem_singleton.1 hs
      obtain ⟨b1, b2, _, _⟩ :=
        HeaderWrite.store_in_header hf bits (headerPtr hdr (valuePtr block p)) m hw
      exact .inl ⟨fun _ => CollectorWrite.noConfusion, b1, by omega⟩
  -- either extent lies inside the block and ends before the value begins
  have tail : block ≤ s.lo → s.lo + s.bytes.length ≤ valuePtr block p →
      block ≤ s.lo ∧ s.lo + s.bytes.length ≤ valuePtr block p ∧
        ∀ a, valuePtr block p ≤ a → a < valuePtr block p + p.value.size →
          ¬ (s.lo ≤ a ∧ a < s.lo + s.bytes.length) :=
    fun hb he => ⟨hb, he, fun a h1 _ h3 =>
      Nat.lt_irrefl _ (Nat.lt_of_lt_of_le h3.2 (Nat.le_trans he h1))⟩
  have hmh : metaPtr p.mhl (valuePtr block p) ≤ headerPtr hdr (valuePtr block p) :=
    Nat.le_trans (Nat.le_add_right _ _) d2
  rcases hin with ⟨hne, a1, a2⟩ | ⟨⟨enc, rfl⟩, a1, a2⟩
  · exact ⟨fun _ => ⟨a1, a2⟩, fun ⟨enc, he⟩ => absurd he (hne enc),
      tail (Nat.le_trans d1 (Nat.le_trans hmh a1)) a2⟩
  · have a3 := Nat.le_trans a2 d2
    exact ⟨fun hne => absurd rfl (hne enc), fun _ => ⟨a1, a2, a3⟩,
      tail (Nat.le_trans d1 a1) (Nat.le_trans a3 (Nat.le.intro d3))⟩

/-- Any sequence of collector writes — any number of collections, barriers, links, with whatever
    colours, flags and `next` pointers — leaves every byte of the value extent unchanged; indeed
    it changes no address at or above the value pointer and none below the block.  There is no
    hypothesis about where the writes fall: that is `collector_writes_in_header`.  The value's
    address is `valuePtr block p`, a function of the block and the plan alone; no collector write
    takes part in computing it, so it is fixed. -/
theorem stable_under_collector_writes (maxSize : Nat) (hdr : Layout) (k : PtrKind) (ptrMeta : Nat)
    (p : Plan) (block : Nat) (hk : k.Ok maxSize) (hh : IsTypeLayout maxSize hdr)
    (h : gcAlloc maxSize hdr k ptrMeta = some p) (f : HeaderFields) (hf : f.Fits hdr) (bits : Nat)
    (m : Nat → Nat) (ws : List CollectorWrite) :
    (∀ a, valuePtr block p ≤ a →
      runCollector f bits hdr p.mhl k.pmeta (valuePtr block p) m ws a = m a) ∧
    (∀ a, a < block →
      runCollector f bits hdr p.mhl k.pmeta (valuePtr block p) m ws a = m a) ∧
    readCells (runCollector f bits hdr p.mhl k.pmeta (valuePtr block p) m ws)
        (valuePtr block p) p.value.size = readCells m (valuePtr block p) p.value.size := by
  have key : ∀ a, (valuePtr block p ≤ a ∨ a < block) →
      runCollector f bits hdr p.mhl k.pmeta (valuePtr block p) m ws a = m a := by
    intro a ha
    induction ws generalizing m with
    | nil => rfl
    | cons w ws ih =>
      unfold runCollector
      rw [ih]
      unfold CollectorWrite.apply
      apply foldl_run_outside
      intro s hs
      obtain ⟨_, _, c1, c2, _⟩ :=
        collector_writes_in_header maxSize hdr k ptrMeta p block hk hh h f hf bits m w s hs
      omega
  refine ⟨fun a ha => key a (Or.inl ha), fun a ha => key a (Or.inr ha), ?_⟩
  apply readCells_congr
  intro a h1 _
  exact key a (Or.inl h1)

/-- `dealloc_same_layout` without any hypothesis about where writes fall, for every history of an
    allocated block: `GcPtr::alloc` stores the metadata and the header, then the collector's
    header mutators and the mutator's stores into the value interleave in any order and number;
    the metadata read back by the `dealloc` vtable entry is still the metadata stored at
    allocation, the recomputed layout is the requested one and the pointer handed to
    `alloc::dealloc` is the block start. -/
theorem dealloc_same_layout_collector_history (maxSize : Nat) (hdr : Layout) (k : PtrKind)
    (ptrMeta : Nat) (p : Plan) (block : Nat) (hk : k.Ok maxSize) (hh : IsTypeLayout maxSize hdr)
    (h : gcAlloc maxSize hdr k ptrMeta = some p) (f : HeaderFields) (hf : f.Fits hdr) (bits : Nat)
    (m0 : Nat → Nat) (enc : Nat → List Nat) (dec : List Nat → Nat)
    (henc : (enc ptrMeta).length = k.pmeta.size) (hdec : dec (enc ptrMeta) = ptrMeta)
    (vtable : Nat) (hist : List BlockWrite) :
    readPtrMeta
        (runHistory f bits hdr p.value (valuePtr block p)
          (afterAlloc f bits hdr p.mhl k.pmeta (valuePtr block p) m0 (enc ptrMeta) vtable) hist)
        dec p.mhl k.pmeta (valuePtr block p) = ptrMeta ∧
      gcDealloc maxSize hdr k (valuePtr block p)
        (readPtrMeta
          (runHistory f bits hdr p.value (valuePtr block p)
            (afterAlloc f bits hdr p.mhl k.pmeta (valuePtr block p) m0 (enc ptrMeta) vtable) hist)
          dec p.mhl k.pmeta (valuePtr block p)) = some (block, p.alloc) := by
  obtain ⟨d1, d2, d3, _⟩ := disjoint maxSize hdr k ptrMeta p block hk hh h
  -- a post-allocation write never touches the metadata slot
  have hist_frame : ∀ (m : Nat → Nat) (a : Nat), a < headerPtr hdr (valuePtr block p) →
      runHistory f bits hdr p.value (valuePtr block p) m hist a = m a := by
    intro m a ha
    induction hist generalizing m with
    | nil => rfl
    | cons w ws ih =>
      unfold runHistory
      rw [ih]
      cases w with
      | collector hw =>
        obtain ⟨b1, _, _, _⟩ :=
          HeaderWrite.store_in_header hf bits (headerPtr hdr (valuePtr block p)) m hw
        exact Store.run_outside m _ a (Or.inl (Nat.lt_of_lt_of_le ha b1))
      | mutator off byte =>
        simp only [BlockWrite.apply]
        split
        · exact writeCells_outside m _ _ a
            (Or.inl (Nat.lt_of_lt_of_le ha (Nat.le_trans (Nat.le.intro d3) (Nat.le_add_right _ _))))
        · rfl
  -- after allocation the metadata slot holds the encoded metadata
  have halloc : ∀ a, metaPtr p.mhl (valuePtr block p) ≤ a →
      a < metaPtr p.mhl (valuePtr block p) + k.pmeta.size →
      afterAlloc f bits hdr p.mhl k.pmeta (valuePtr block p) m0 (enc ptrMeta) vtable a =
        writeCells m0 (metaPtr p.mhl (valuePtr block p)) (enc ptrMeta) a := by
    intro a h1 h2
    have hlt : ∀ off, a < headerPtr hdr (valuePtr block p) + off := fun off =>
      Nat.lt_of_lt_of_le h2 (Nat.le_trans d2 (Nat.le_add_right _ _))
    have htake : (enc ptrMeta).take k.pmeta.size = enc ptrMeta := by
      rw [← henc]; exact List.take_length
    simp only [afterAlloc, runCollector, CollectorWrite.apply, CollectorWrite.stores,
      List.foldl_cons, List.foldl_nil, Store.run, htake]
    rw [writeCells_outside _ _ _ a (Or.inl (hlt _)), writeCells_outside _ _ _ a (Or.inl (hlt _))]
  have hread := readPtrMeta_of_agree (mhl := p.mhl) (value := valuePtr block p) henc hdec
    (fun a h1 h2 => (hist_frame _ a (by omega)).trans (halloc a h1 h2))
  exact ⟨hread, by rw [hread, gcDealloc_of_gcAlloc _ h, valuePtr, Nat.add_sub_cancel]⟩

/-- The stores are what the setters compute: after a header mutator, the tagged word read back
    from memory is `hdrSetColor` / `hdrSetNeedsTrace` / `hdrSetLive` of the word that was there
    (so `tag_fields_independent` applies to the word in memory), and `set_next` stores its
    argument; `bits = 8 · word`. -/
theorem header_write_reads_back (f : HeaderFields) (hp : Nat) (m : Nat → Nat) (w : HeaderWrite)
    (hb : 4 ≤ 8 * f.word) (hold : readWord m (hp + f.vtableOff) f.word < 2 ^ (8 * f.word)) :
    match w with
    | .setColor c => c < 4 →
        readWord ((w.store f (8 * f.word) hp m).run m) (hp + f.vtableOff) f.word =
          hdrSetColor (8 * f.word) (readWord m (hp + f.vtableOff) f.word) c
    | .setNeedsTrace b =>
        readWord ((w.store f (8 * f.word) hp m).run m) (hp + f.vtableOff) f.word =
          hdrSetNeedsTrace (8 * f.word) (readWord m (hp + f.vtableOff) f.word) b
    | .setLive b =>
        readWord ((w.store f (8 * f.word) hp m).run m) (hp + f.vtableOff) f.word =
          hdrSetLive (8 * f.word) (readWord m (hp + f.vtableOff) f.word) b
    | .setNext n => n < 2 ^ (8 * f.word) →
        readWord ((w.store f (8 * f.word) hp m).run m) (hp + f.nextOff) f.word = n := by
  have h256 : (256 : Nat) ^ f.word = 2 ^ (8 * f.word) := by
    rw [show (256 : Nat) = 2 ^ 8 from rfl, ← Nat.pow_mul]
  have rb : ∀ a x, x < 2 ^ (8 * f.word) →
      readWord (writeCells m a (wordBytes f.word x)) a f.word = x := by
    intro a x hx
    unfold readWord
    have := readCells_writeCells m a (wordBytes f.word x)
    rw [wordBytes_length] at this
    rw [this, bytesWord_wordBytes _ _ (by rw [h256]; exact hx)]
  cases w with
  | setColor c =>
    intro hc
    exact rb _ _ (tag_fields_independent _ _ c false hb hold hc).1.2.2.2.2
  | setNeedsTrace b =>
    exact rb _ _ (tag_fields_independent _ _ 0 b hb hold (by decide)).2.1.2.2.2.2
  | setLive b =>
    exact rb _ _ (tag_fields_independent _ _ 0 b hb hold (by decide)).2.2.2.2.2.2
  | setNext n =>
    intro hn
    exact rb _ _ hn

/-! ## `[E]` and `str` allocated directly through `SlicePtrMeta` / `StrPtrMeta`

`GcBuilder::<[E], M, SlicePtrMeta>::new_with_type_and_ptr_meta(len)` (and the `str` analogue) is
the one path on which `SlicePtrMeta::layout` / `StrPtrMeta::layout` size the block — the crate's
own slice / str constructors allocate through `SliceWithHeaderPtrMeta` and only re-label the
pointer.  `sliceKind` / `strKind` are the models of those two impls
(`SliceWithHeader::<(), E>::layout(len)`); harness families `dst slice-direct` / `dst str-direct`. -/

/-- A `[E]` of length `len` allocated directly through `SlicePtrMeta` has room for all `len`
    elements: the value layout is at least `len · size_of::<E>()` bytes at `E`'s alignment, and
    every element `i < len` lies at an address aligned for `E`, behind the `GcHeader`, inside the
    block the allocator handed out. -/
theorem slice_direct_value_fits (maxSize word : Nat) (hdr e : Layout) (len : Nat) (p : Plan)
    (block : Nat) (hmax : isPow2 (maxSize + 1) = true) (hw : IsTypeLayout maxSize ⟨word, word⟩)
    (he : IsTypeLayout maxSize e) (hh : IsTypeLayout maxSize hdr)
    (h : gcAlloc maxSize hdr (sliceKind maxSize word e) len = some p)
    (hb : block % p.alloc.align = 0) :
    e.size * len ≤ p.value.size ∧ p.value.align = e.align ∧
      (∀ i, i < len →
        (valuePtr block p + e.size * i) % e.align = 0 ∧
        headerPtr hdr (valuePtr block p) + hdr.size ≤ valuePtr block p + e.size * i ∧
        valuePtr block p + e.size * i + e.size ≤ block + p.alloc.size) := by
  have hk : (sliceKind maxSize word e).Ok maxSize := sliceWithHeaderKind_ok hmax hw he
  obtain ⟨hv, hva, _⟩ := value_aligned maxSize hdr _ len p block hk hh h hb
  obtain ⟨_, _, d3, d4⟩ := disjoint maxSize hdr _ len p block hk hh h
  obtain ⟨s1, _, _, _, _, s6⟩ := slice_layout_sound maxSize unitLayout e p.value len
    (unitLayout_type maxSize) he hv
  have hea : 0 < e.align := isPow2_pos he.1.1
  -- with header `()` the elements start at offset 0 and `E`'s alignment is the value's
  have hoff : sliceFieldOff unitLayout e = 0 := roundUp_of_dvd 0 e.align hea (Nat.dvd_zero _)
  have halign : p.value.align = e.align := s1.trans (Nat.max_eq_right hea)
  rw [hoff] at s6
  rw [halign] at hva
  refine ⟨?_, halign, fun i hi => ⟨?_, ?_, ?_⟩⟩
  · cases len with
    | zero => exact Nat.zero_le _
    | succ n => have := (s6 n (Nat.lt_succ_self n)).2; rw [Nat.mul_succ]; omega
  · exact mod_zero_of_dvd_add (Nat.dvd_of_mod_eq_zero hva)
      (Nat.dvd_trans (Nat.dvd_of_mod_eq_zero he.2) (Nat.dvd_mul_right _ _))
  · omega
  · have := (s6 i hi).2; omega

/-- A `str` of length `len` allocated directly through `StrPtrMeta` has room for its `len`
    bytes, behind the `GcHeader` and inside the block. -/
theorem str_direct_value_fits (maxSize word : Nat) (hdr : Layout) (len : Nat) (p : Plan)
    (block : Nat) (hmax : isPow2 (maxSize + 1) = true) (hw : IsTypeLayout maxSize ⟨word, word⟩)
    (hbyte : IsTypeLayout maxSize byteLayout) (hh : IsTypeLayout maxSize hdr)
    (h : gcAlloc maxSize hdr (strKind maxSize word) len = some p)
    (hb : block % p.alloc.align = 0) :
    len ≤ p.value.size ∧
      (∀ i, i < len →
        headerPtr hdr (valuePtr block p) + hdr.size ≤ valuePtr block p + i ∧
        valuePtr block p + i + 1 ≤ block + p.alloc.size) := by
  obtain ⟨s1, _, s3⟩ := slice_direct_value_fits maxSize word hdr byteLayout len p block hmax hw
    hbyte hh h hb
  have hb1 : byteLayout.size = 1 := rfl
  rw [hb1, Nat.one_mul] at s1
  refine ⟨s1, fun i hi => ?_⟩
  obtain ⟨_, a2, a3⟩ := s3 i hi
  rw [hb1, Nat.one_mul] at a2 a3
  exact ⟨a2, a3⟩

/-! ## Non-vacuity: the hypotheses are satisfiable and the model computes the expected numbers -/

/-- 64-bit target: `isize::MAX`, `GcHeader` = two words. -/
example : isPow2 (2 ^ 63 - 1 + 1) = true ∧ IsTypeLayout (2 ^ 63 - 1) ⟨16, 8⟩ := by decide +kernel

/-- The built-in kinds satisfy the hypothesis `PtrKind.Ok` of every theorem above. -/
example : (sizedKind ⟨24, 8⟩).Ok (2 ^ 63 - 1) ∧
    (customKind ⟨32, 32⟩ ⟨3, 1⟩).Ok (2 ^ 63 - 1) ∧
    (sliceWithHeaderKind (2 ^ 63 - 1) 8 ⟨1, 1⟩ ⟨4, 4⟩).Ok (2 ^ 63 - 1) ∧
    (strKind (2 ^ 63 - 1) 8).Ok (2 ^ 63 - 1) :=
  ⟨sizedKind_ok (by decide +kernel), customKind_ok (by decide +kernel) (by decide +kernel),
    sliceWithHeaderKind_ok (by decide +kernel) (by decide +kernel) (by decide +kernel),
    sliceWithHeaderKind_ok (by decide +kernel) (by decide +kernel) (by decide +kernel)⟩

/-- The declaration-order field layout of a two-word `GcHeader` fits the header layout. -/
example : (declOrderFields 8).Fits ⟨16, 8⟩ := by decide +kernel

/-- A black, traced, live header word written through `set_color` reads back from memory. -/
example : readWord (((HeaderWrite.setColor 3).store (declOrderFields 8) 64 1000
      (writeCells (fun _ => 0) 1008 (wordBytes 8 0x100c))).run
      (writeCells (fun _ => 0) 1008 (wordBytes 8 0x100c))) 1008 8 = 0x100f := by decide +kernel

/-- `[u32]` of length 5 allocated directly through `SlicePtrMeta`: 20 value bytes behind the
    24-byte metadata + header prefix. -/
example : gcAlloc (2 ^ 63 - 1) ⟨16, 8⟩ (sliceKind (2 ^ 63 - 1) 8 ⟨4, 4⟩) 5 =
    some { alloc := ⟨44, 8⟩, valueOff := 24, mhl := ⟨24, 8⟩, value := ⟨20, 4⟩ } := by decide +kernel

/-- A `u8` value: 16-byte header, value at offset 16, block of 17 bytes aligned 8. -/
example : gcAlloc (2 ^ 63 - 1) ⟨16, 8⟩ (sizedKind ⟨1, 1⟩) 0 =
    some { alloc := ⟨17, 8⟩, valueOff := 16, mhl := ⟨16, 8⟩, value := ⟨1, 1⟩ } := by decide +kernel

/-- A 64-aligned value: padding goes in front of the header. -/
example : gcAlloc (2 ^ 63 - 1) ⟨16, 8⟩ (sizedKind ⟨64, 64⟩) 0 =
    some { alloc := ⟨128, 64⟩, valueOff := 64, mhl := ⟨16, 8⟩, value := ⟨64, 64⟩ } := by decide +kernel

/-- `SliceWithHeader<u8, u32>` of length 3: metadata slot (`usize`) in front of the header. -/
example : gcAlloc (2 ^ 63 - 1) ⟨16, 8⟩ (sliceWithHeaderKind (2 ^ 63 - 1) 8 ⟨1, 1⟩ ⟨4, 4⟩) 3 =
    some { alloc := ⟨40, 8⟩, valueOff := 24, mhl := ⟨24, 8⟩, value := ⟨16, 4⟩ } := by decide +kernel

/-- A length that overflows: no plan, the allocation panics. -/
example : gcAlloc (2 ^ 63 - 1) ⟨16, 8⟩ (strKind (2 ^ 63 - 1) 8) (2 ^ 63 - 8) = none := by decide +kernel

/-- Tag word of a black, traced, live object whose vtable is at `0x1000`. -/
example : hdrWord 64 0x1000 3 true true = 0x100f := by decide +kernel

end GcArena.C17
