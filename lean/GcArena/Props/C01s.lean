import GcArena.Props.C14s
/-!
# C01 (companion) — the `DynamicRootSet` parenthetical of C01

C01: "… while it is strongly reachable from the arena root (including roots registered in a
DynamicRootSet held by the root) …".  The collector theorems of Props/C01.lean are about pointers
stored in slots; that a `DynamicRootSet` *is* such an object, holding exactly the pointers of the
live handles, is the coupled system of Props/C14s.lean.  This file re-exports the resulting safety
statements under C01 — one-liners; the restrictions are those of the re-exported theorems.
-/
namespace GcArena.C01

open GcArena

/-- **Roots registered in a `DynamicRootSet`** — the general coupled system (`DynReach.GSys`,
    Proofs/DynReach.lean): in every state of every history, for a live handle `h` of a set of the
    arena whose set object `x` the client can reach (strongly from the root, or through what the
    running callback holds), the stashed object is reachable too (strongly from the root if `x`
    is), and it and everything strongly reachable from it is allocated, undestructed and not
    condemned by the running sweep.  No pinning, no capacity bound, handle drops in any state.
    Rests on the modelling choices of that system (one arena in detail, two set-object transitions
    outside `Arena.step` proved to preserve `Inv`, handle ops atomic between collector-model ops).
    This is `C14s.stashed_survives_while_handle`, verbatim. -/
theorem dynamic_roots : C14s.stashed_survives_while_handle_statement :=
  C14s.stashed_survives_while_handle

/-- The same in the pinned system built from existing `Arena` ops only (`DynCompose.Sys`), under
    its restrictions: **R1** one arena; **R2** every set object is stored directly in a root slot
    that is never overwritten (the simplest form of "held by the root"); **R3** dropping the arena
    is a coupled op of its own; **R4** the set object has a fixed number `cap` of slots, a `stash`
    needing more is not a coupled op; **R5** no client stores into a set object (its field is
    private — excludes nothing); **R6** a handle dropped while the client holds a `MarkedArena`
    forfeits the `finalize` call.  This is `C14s.stashed_survives_while_handle_partial`, verbatim. -/
theorem dynamic_roots_partial (n : Nat) (ops : List DynCompose.COp) (S : DynCompose.Sys)
    (hS : S = (DynCompose.Sys.init n).run ops) (h : DynRoots.Handle) (hm : h ∈ S.d.handles)
    (rs : DynRoots.RootSet) (hl : S.d.liveSet h.set = some rs) :
    StrongReach S.a h.ptr ∧ ∀ j, AccessibleC S.a.ctx [] [Ptr.strong h.ptr] j → Safe S.a.ctx j :=
  C14s.stashed_survives_while_handle_partial n ops S hS h hm rs hl

/-! ### Non-vacuity (the histories of Props/C14s.lean) -/

open GcArena.DynReach GcArena.DynCompose in
/-- `dynamic_roots` applied in the state of `C14s.gdemo` after the `finalize` callback's stash, to
    the set object 1, which the callback holds (it is not pinned: root → 0 → 1), and to object 3,
    stashed white into the then black set: object 3 is `Safe`. -/
example : Safe ((GSys.init 1).run (C14s.gdemo.take 15)).a.ctx 3 := by
  have f := C14s.gdemo15_facts
  exact (dynamic_roots 1 (C14s.gdemo.take 15) _ rfl ⟨0, 0, 3, 1⟩ 1 f.1 f.2.1
    (.temp 1 f.2.2)).2.2 3 (.temp 3 (by simp))

open GcArena.DynCompose in
/-- `dynamic_roots_partial` applied in `C14s.afterDrop` to the remaining handle (object 2, still
    white by `afterDrop_facts`, stashed into a set that was black): object 2 is `Safe`. -/
example : Safe C14s.afterDrop.a.ctx 2 := by
  obtain ⟨_, _, hls, _, _, _, _, _, _, _, _, hh⟩ := C14s.afterDrop_facts
  exact (dynamic_roots_partial 1 (C14s.demo.take 11) C14s.afterDrop rfl ⟨0, 1, 2, 1⟩ (by rw [hh]; decide)
    ⟨true, ⟨[.vacant DynRoots.nullIndex, .occupied 2 0], 0⟩⟩ hls).2 2 (.temp 2 (by simp))

end GcArena.C01
