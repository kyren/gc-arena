import GcArena.Proofs.Quiet
import GcArena.Proofs.Protocol
import GcArena.Proofs.GrayMono
import GcArena.Proofs.RunBridge
import GcArena.Proofs.ProtRun
import GcArena.Proofs.MarkedFlag
/-!
# C08 — Collection-phase protocol of the Arena API

`Ctx.doCollection` is `Context::do_collection` written out literally (`RunUntil`, `Stop` with the
declared order, `has_slept`, both debt tests).  Statements about the self-driven loop hold for
every pacing and every amount of real or artificial debt: nothing is assumed about
`Metrics.hasDebt`.
-/
namespace GcArena.C08

open GcArena

/-- `assert!(stop == Stop::Full)`, `unreachable!()` (Phase::Drop) and every `debug_assert!` of the
    driver loop are unreachable, for every history: where one would fire the model sets its fault
    flag, and the flag stays clear (the statement of `C01.no_internal_fault`). -/
theorem asserts_unreachable (n : Nat) (ops : List Op) (halive : ((Arena.new n).run ops).alive = true) :
    ((Arena.new n).run ops).ctx.err = none :=
  (inv_run n ops halive).cinv.noErr

/-- The internal phase moves only `sleep → mark → sweep → sleep`: each micro-step of the loop
    leaves the phase or moves it one position forward. -/
theorem micro_phase_order (c c' : Ctx) (root : List Slot) (m : Micro) (hs : c.micro root m = some c')
    (hinv : CInv c root []) :
    c'.phase = c.phase ∨ (c.phase = .sleep ∧ c'.phase = .mark) ∨ (c.phase = .mark ∧ c'.phase = .sweep) ∨
      (c.phase = .sweep ∧ c'.phase = .sleep) := by
  cases micro_iff.mp hs with
  | wake hp => exact .inr (.inl ⟨hp, rfl⟩)
  | markStep f hp hg => exact .inl (markOne_spec hinv hp f).2.phase
  | markBreak hp hg => exact .inl rfl
  | toSweep hp hg => exact .inr (.inr (.inl ⟨hp, rfl⟩))
  | sweepStep hp hr => exact .inl ((sweepOne_spec hinv hp).2.trans hp.symm)
  | sweepEnd hp hr => exact .inl rfl
  | toSleep b hp hr => exact .inr (.inr (.inr ⟨hp, rfl⟩))

/-- Sweeping begins only from a fully marked arena. -/
theorem sweep_only_from_marked (c c' : Ctx) (root : List Slot) (hs : c.micro root .toSweep = some c') :
    Arena.isMarked c = true := by
  cases micro_iff.mp hs with
  | toSweep hp hg => exact isMarked_iff.mpr ⟨hp, hg⟩

/-- `mark_debt` / `finish_marking` from Marked: nothing but the step log changes (one `mark_one`
    that finds nothing to do, or no step at all when there is no debt). -/
theorem mark_from_marked (c : Ctx) (root : List Slot) (ru : RunUntil) (f : TraceFault)
    (hm : Arena.isMarked c = true) :
    (c.doCollection root ru .fullyMarked f).1 = c ∨ (c.doCollection root ru .fullyMarked f).1 = c.step 'b' := by
  replace hm := isMarked_iff.mp hm
  rcases doCollection_cases c root ru .fullyMarked f with ⟨_, _, he⟩ | ⟨_, he⟩ <;> rw [he]
  · exact .inl rfl
  · -- `Arm`: one iteration of the loop; `Arm.eq n` unfolds `collectLoop` with fuel `n + 1`, and
    -- `do_collection` starts it with `2 * fuelBound + 8`.  The first iteration (`marked`) returns.
    exact .inr (by rw [(Arm.marked hm.1 hm.2 (by decide)).eq (2 * c.fuelBound root + 7)])

/-- `mark_debt` / `finish_marking` while Sweeping do nothing at all and return `None`. -/
theorem mark_from_sweeping (c : Ctx) (root : List Slot) (ru : RunUntil) (f : TraceFault)
    (hp : c.phase = .sweep) :
    (c.doCollection root ru .fullyMarked f).1 = c ∧ Arena.isMarked c = false := by
  refine ⟨?_, by simp [Arena.isMarked, hp]⟩
  rcases doCollection_cases c root ru .fullyMarked f with ⟨_, _, he⟩ | ⟨_, he⟩ <;> rw [he]
  -- as in `mark_from_marked`: the first iteration (`atSweep`) returns
  rw [(Arm.atSweep hp (by decide)).eq (2 * c.fuelBound root + 7)]

/-- `MarkedArena::start_sweeping` ends Sweeping: its `assert_eq!(phase, Phase::Sweep)` cannot fire. -/
theorem start_sweeping_ends_sweeping (c : Ctx) (root : List Slot) (hm : Arena.isMarked c = true) :
    (c.doCollection root .stop .atSweep none).1.phase = .sweep := by
  replace hm := isMarked_iff.mp hm
  rcases doCollection_cases c root .stop .atSweep none with ⟨hru, _⟩ | ⟨_, he⟩
  · cases hru
  · -- `b`, `S`, and the next iteration returns at `Stop::AtSweep`
    have a1 : Arm root .stop .atSweep none c false 0 (c.step 'b').enterSweep false 0 none :=
      Arm.toSweep hm.1 hm.2 (by decide)
    have a2 : Arm root .stop .atSweep none (c.step 'b').enterSweep false 0 _ false 0 _ :=
      Arm.atSweep rfl (by decide)
    rw [he, a1.eq (2 * c.fuelBound root + 6 + 1), a2.eq]
    rfl

/-- Callbacks never change the internal phase: no mutator operation does. -/
theorem callbacks_keep_phase {a : Arena} (h : Inv a) (op : Op) (hop : op.isMutator = true) :
    (a.step op).1.ctx.phase = a.ctx.phase :=
  (step_quiet h op hop).phase

/-- `finish_marking` hands out a `MarkedArena` exactly when the arena is in the mark phase with
    nothing left to trace (`Arena::finish_marking` / `mark_debt`: the same test). -/
theorem marked_iff (c : Ctx) :
    Arena.isMarked c = true ↔ (c.phase = .mark ∧ c.gray = [] ∧ c.grayAgain = [] ∧ c.rootNeedsTrace = false) := by
  simp [Arena.isMarked, Ctx.grayRemaining, List.isEmpty_iff, and_assoc]

/-- Every collection call returns or unwinds: the driver loop terminates from every state that
    satisfies the invariant — for every `RunUntil`, `Stop`, pacing, debt and fault position. -/
theorem every_call_terminates (c : Ctx) (root : List Slot) (h : CInv c root []) (ru : RunUntil) (stop : Stop)
    (fault : TraceFault) : (c.doCollection root ru stop fault).2 ≠ .outOfFuel :=
  doCollection_terminates h ru stop fault

/-- `finish_marking` returns `Some(MarkedArena)` exactly when the arena was not Sweeping — from
    every state satisfying the invariant, whatever is left to mark. -/
theorem finish_marking_some_iff (c : Ctx) (root : List Slot) (h : CInv c root []) :
    Arena.isMarked (c.doCollection root .stop .fullyMarked none).1 = true ↔ c.phase ≠ .sweep := by
  constructor
  · intro hm hp
    have := (mark_from_sweeping c root .stop none hp)
    rw [this.1, this.2] at hm
    cases hm
  · exact finishMarking_isMarked h

/-- `finish_cycle` always ends Sleeping — from every phase. -/
theorem finish_cycle_ends_sleeping (c : Ctx) (root : List Slot) (h : CInv c root []) :
    (c.doCollection root .stop .finishCycle none).1.phase = .sleep :=
  (finishCycle_spec h).2.1

/-- `cycle_debt` / `finish_cycle` never start a new cycle: in what one call appends to the
    step log, read oldest first, no wake-up `'W'` comes after the `Sweep → Sleep` switch `'Z'`.
    For every `RunUntil`, every debt, every fault position. -/
theorem cycle_never_rewakes (c : Ctx) (root : List Slot) (ru : RunUntil) (f : TraceFault)
    (new : List Char) (h : CInv c root [])
    (hnew : (c.doCollection root ru .finishCycle f).1.steps = new ++ c.steps)
    (k : Nat) (hk : new.reverse[k]? = some 'Z') (j : Nat) (hj : k < j) : new.reverse[j]? ≠ some 'W' := by
  have key : ∃ new', (c.doCollection root ru .finishCycle f).1.steps = new' ++ c.steps ∧
      ∀ ch ∈ new'.tail, ch ≠ 'Z' := by
    rcases doCollection_cases c root ru .finishCycle f with ⟨_, _, he⟩ | ⟨_, he⟩ <;> rw [he]
    · exact ⟨[], rfl, by simp⟩
    · exact collectLoop_finishCycle_log _ c false 0 h
  obtain ⟨new', e, hz⟩ := key
  obtain rfl : new = new' := List.append_cancel_right (hnew.symm.trans e)
  -- `'Z'` can only be the first entry of `new`, the last one of `new.reverse`
  have hlen : new.length ≤ k + 1 := by
    cases new with
    | nil => exact Nat.zero_le _
    | cons a t =>
      refine Nat.le_of_not_lt fun hlt => ?_
      rw [List.reverse_cons, List.getElem?_append_left (by simpa using hlt)] at hk
      exact hz 'Z' (List.mem_reverse.mp (List.mem_of_getElem? hk)) rfl
  rw [List.getElem?_eq_none (by simp; omega)]
  simp

/-- No mutator operation removes pending marking work: every queued `gray` / `gray_again` entry
    stays queued and `root_needs_trace` stays set — in every state (no invariant needed), for
    accepted, rejected and faulting operations alike. -/
theorem callbacks_keep_marking_work (a : Arena) (op : Op) (hop : op.isMutator = true) :
    GrayMono a.ctx (a.step op).1.ctx :=
  step_grayMono a op hop

/-- Callbacks never finish marking: `gray_remaining()` cannot go from `true` to `false` inside a
    callback, so Marking never becomes Marked there. -/
theorem callbacks_never_finish_marking {a : Arena} (op : Op) (hop : op.isMutator = true)
    (hg : a.ctx.grayRemaining = true) : (a.step op).1.ctx.grayRemaining = true :=
  (step_grayMono a op hop).grayRemaining hg

/-- The same for a whole callback body (any sequence of mutator operations). -/
theorem callback_bodies_never_finish_marking {a : Arena} (ops : List Op)
    (hops : ∀ op ∈ ops, op.isMutator = true) (hg : a.ctx.grayRemaining = true) :
    (a.run ops).ctx.grayRemaining = true :=
  (run_grayMono a ops hops).grayRemaining hg

/-- Stated through the test `mark_debt` / `finish_marking` perform: a mutator operation keeps the
    internal phase, and if the arena is fully marked afterwards it was fully marked before. -/
theorem callbacks_never_mark {a : Arena} (h : Inv a) (op : Op) (hop : op.isMutator = true) :
    (a.step op).1.ctx.phase = a.ctx.phase ∧
      (Arena.isMarked (a.step op).1.ctx = true → Arena.isMarked a.ctx = true) := by
  have hp := callbacks_keep_phase h op hop
  refine ⟨hp, fun hm => ?_⟩
  rw [isMarked_iff] at hm ⊢
  refine ⟨hp ▸ hm.1, ?_⟩
  cases hg : a.ctx.grayRemaining with
  | false => rfl
  | true =>
    have := callbacks_never_finish_marking op hop hg
    rw [hm.2] at this
    cases this

/-- The observable phase (`Arena::collection_phase`) under a mutator operation: unchanged, or
    Marked → Marking (a write barrier, the root barrier of `mutate_root`, or `resurrect` re-queued
    work).  Nothing else: in particular never Marking → Marked. -/
theorem callbacks_move_phase_only_marked_to_marking {a : Arena} (h : Inv a) (op : Op)
    (hop : op.isMutator = true) :
    (a.step op).1.collectionPhase = a.collectionPhase ∨
      (a.collectionPhase = "Marked" ∧ (a.step op).1.collectionPhase = "Marking") := by
  have hp := callbacks_keep_phase h op hop
  unfold Arena.collectionPhase
  rw [hp]
  cases hph : a.ctx.phase with
  | mark =>
    cases hg : a.ctx.grayRemaining with
    | true => left; rw [callbacks_never_finish_marking op hop hg]
    | false =>
      cases hg' : (a.step op).1.ctx.grayRemaining with
      | true => right; exact ⟨rfl, rfl⟩
      | false => left; rfl
  | sweep => left; rfl
  | sleep => left; rfl
  | drop => left; rfl

/-- The values of `CollectionPhase` (src/arena.rs), plus the model's marker for a dropped arena. -/
inductive Obs where
  | sleeping | marking | marked | sweeping | dropped
  deriving DecidableEq, Repr

def Obs.name : Obs → String
  | .sleeping => "Sleeping" | .marking => "Marking" | .marked => "Marked"
  | .sweeping => "Sweeping" | .dropped => "Dropped"

theorem Obs.name_inj {x y : Obs} (h : x.name = y.name) : x = y := by
  -- looking the name up in the list of values is a left inverse: five comparisons of strings
  have inv : ∀ z : Obs, [Obs.sleeping, .marking, .marked, .sweeping, .dropped].find?
      (·.name = z.name) = some z := by
    intro z; cases z <;> decide +kernel
  exact Option.some.inj ((inv x).symm.trans (h ▸ inv y))

/-- `Arena::collection_phase` as a function of the context. -/
def obs (c : Ctx) : Obs :=
  match c.phase with
  | .mark => if c.grayRemaining then .marking else .marked
  | .sweep => .sweeping
  | .sleep => .sleeping
  | .drop => .dropped

/-- `Arena.collectionPhase` (the string the harness compares with `Arena::collection_phase()`)
    is the name of `obs`. -/
theorem collectionPhase_eq (a : Arena) : a.collectionPhase = (obs a.ctx).name := by
  unfold Arena.collectionPhase obs
  cases a.ctx.phase with
  | mark => simp only; split <;> rfl
  | sweep => rfl
  | sleep => rfl
  | drop => rfl

theorem obs_marking {c : Ctx} (hp : c.phase = .mark) (hg : c.grayRemaining = true) :
    obs c = .marking := by simp [obs, hp, hg]

theorem obs_marked {c : Ctx} (hp : c.phase = .mark) (hg : c.grayRemaining = false) :
    obs c = .marked := by simp [obs, hp, hg]

theorem obs_sweeping {c : Ctx} (hp : c.phase = .sweep) : obs c = .sweeping := by simp [obs, hp]

theorem obs_sleeping {c : Ctx} (hp : c.phase = .sleep) : obs c = .sleeping := by simp [obs, hp]

private theorem obs_marked_iff {c : Ctx} : obs c = .marked ↔ Arena.isMarked c = true := by
  rw [isMarked_iff]
  unfold obs
  cases c.phase <;> cases c.grayRemaining <;> simp

/-- `Sleep → Mark`: from Sleeping the wake-up gives Marking, never Marked at once (the root flag
    is set while asleep: invariant clause `sleepRoot`). -/
theorem wake_observable {c c' : Ctx} {root : List Slot} (hinv : CInv c root [])
    (hs : c.micro root .wake = some c') : obs c = .sleeping ∧ obs c' = .marking := by
  cases micro_iff.mp hs with
  | wake hp =>
    refine ⟨obs_sleeping hp, obs_marking rfl ?_⟩
    have hr : (c.switch .mark).rootNeedsTrace = true := hinv.sleepRoot hp
    simp [Ctx.grayRemaining, hr]

/-- A `mark_one` that traces something is taken only while Marking; it leads to Marking or
    Marked, and to Marked exactly when both queues are empty and the root flag is clear
    afterwards. -/
theorem markStep_observable {c c' : Ctx} {root : List Slot} {f : Option Nat} (hinv : CInv c root [])
    (hs : c.micro root (.markStep f) = some c') :
    obs c = .marking ∧ (obs c' = .marking ∨ obs c' = .marked) ∧
    (obs c' = .marked ↔ (c'.gray = [] ∧ c'.grayAgain = [] ∧ c'.rootNeedsTrace = false)) := by
  cases micro_iff.mp hs with
  | markStep f hp hg =>
    have hp' : (c.markOne root f).1.phase = .mark := (markOne_spec hinv hp f).2.phase.trans hp
    refine ⟨obs_marking hp hg, ?_,
      (obs_marked_iff.trans (marked_iff _)).trans ⟨fun h => h.2, fun h => ⟨hp', h⟩⟩⟩
    cases hg' : (c.markOne root f).1.grayRemaining with
    | true => exact .inl (obs_marking hp' hg')
    | false => exact .inr (obs_marked hp' hg')

/-- The `mark_one` that finds nothing to do is taken only when Marked, and changes nothing
    observable. -/
theorem markBreak_observable {c c' : Ctx} {root : List Slot}
    (hs : c.micro root .markBreak = some c') : obs c = .marked ∧ obs c' = .marked := by
  cases micro_iff.mp hs with
  | markBreak hp hg => exact ⟨obs_marked hp hg, obs_marked hp hg⟩

/-- `Mark → Sweep` is taken only when Marked and gives Sweeping. -/
theorem toSweep_observable {c c' : Ctx} {root : List Slot}
    (hs : c.micro root .toSweep = some c') : obs c = .marked ∧ obs c' = .sweeping := by
  cases micro_iff.mp hs with
  | toSweep hp hg => exact ⟨obs_marked hp hg, obs_sweeping rfl⟩

/-- Sweep steps (an object visited, or the end of the list found) keep Sweeping. -/
theorem sweepStep_observable {c c' : Ctx} {root : List Slot} {m : Micro} (hinv : CInv c root [])
    (hm : m = .sweepStep ∨ m = .sweepEnd) (hs : c.micro root m = some c') :
    obs c = .sweeping ∧ obs c' = .sweeping := by
  rcases hm with rfl | rfl
  · cases micro_iff.mp hs with
    | sweepStep hp hr => exact ⟨obs_sweeping hp, obs_sweeping (sweepOne_spec hinv hp).2⟩
  · cases micro_iff.mp hs with
    | sweepEnd hp hr => exact ⟨obs_sweeping hp, obs_sweeping hp⟩

/-- `Sweep → Sleep` is taken only while Sweeping and gives Sleeping. -/
theorem toSleep_observable {c c' : Ctx} {root : List Slot} {b : Bool}
    (hs : c.micro root (.toSleep b) = some c') : obs c = .sweeping ∧ obs c' = .sleeping := by
  cases micro_iff.mp hs with
  | toSleep b hp hr => exact ⟨obs_sweeping hp, obs_sleeping rfl⟩

/-- One step along `Sleeping → Marking → Marked → Sweeping → Sleeping`, or none. -/
inductive ObsStep : Obs → Obs → Prop
  | same (s : Obs) : ObsStep s s
  | wake : ObsStep .sleeping .marking
  | marked : ObsStep .marking .marked
  | sweep : ObsStep .marked .sweeping
  | sleep : ObsStep .sweeping .sleeping

/-- Each collector micro-step leaves the observable phase or moves it one arrow forward. -/
theorem micro_observable_order {c c' : Ctx} {root : List Slot} (hinv : CInv c root []) (m : Micro)
    (hs : c.micro root m = some c') : ObsStep (obs c) (obs c') := by
  cases m with
  | wake => obtain ⟨h1, h2⟩ := wake_observable hinv hs; rw [h1, h2]; exact .wake
  | markStep f =>
    obtain ⟨h1, h2, _⟩ := markStep_observable hinv hs
    rw [h1]
    rcases h2 with h2 | h2 <;> rw [h2]
    · exact .same _
    · exact .marked
  | markBreak => obtain ⟨h1, h2⟩ := markBreak_observable hs; rw [h1, h2]; exact .same _
  | toSweep => obtain ⟨h1, h2⟩ := toSweep_observable hs; rw [h1, h2]; exact .sweep
  | sweepStep => obtain ⟨h1, h2⟩ := sweepStep_observable hinv (Or.inl rfl) hs; rw [h1, h2]; exact .same _
  | sweepEnd => obtain ⟨h1, h2⟩ := sweepStep_observable hinv (Or.inr rfl) hs; rw [h1, h2]; exact .same _
  | toSleep b => obtain ⟨h1, h2⟩ := toSleep_observable hs; rw [h1, h2]; exact .sleep

/-- No collector micro-step turns Marked back into Marking (only callbacks do:
    `callbacks_move_phase_only_marked_to_marking`). -/
theorem collector_never_unmarks {c c' : Ctx} {root : List Slot} (hinv : CInv c root []) (m : Micro)
    (hs : c.micro root m = some c') (hm : obs c = .marked) : obs c' ≠ .marking := by
  have := micro_observable_order hinv m hs
  rw [hm] at this
  intro he
  rw [he] at this
  cases this

/-- **Order of the observable phase.**  Along any sequence of collector micro-steps — hence
    inside every collection call, whatever `RunUntil` / `Stop` / debt / fault position — each
    step leaves `collection_phase()` unchanged or moves it along
    `Sleeping → Marking → Marked → Sweeping → Sleeping`. -/
theorem observable_phase_order {root : List Slot} (ms1 : List Micro) (m : Micro) {c c1 c2 : Ctx}
    (hinv : CInv c root []) (h1 : c.micros root ms1 = some c1) (h2 : c1.micro root m = some c2) :
    ObsStep (obs c1) (obs c2) :=
  micro_observable_order (micros_inv ms1 hinv h1) m h2

/-- Every micro-step of the sequence `ms`, taken from `c`, moves the observable phase by one
    `ObsStep`.  `Ctx.micros` is a function, so for a sequence that runs (`c.micros root ms = some c'`,
    which every use below supplies) each position has exactly one pair `(c1, c2)` meeting the
    premises.  The same content as a trace: `obsTrace_chain` / `observable_phase_trace_run` below. -/
def MicrosObsOrdered (c : Ctx) (root : List Slot) (ms : List Micro) : Prop :=
  ∀ (ms1 ms2 : List Micro) (m : Micro) (c1 c2 : Ctx), ms = ms1 ++ m :: ms2 →
    c.micros root ms1 = some c1 → c1.micro root m = some c2 → ObsStep (obs c1) (obs c2)

/-- A mutator operation leaves the observable phase alone or takes Marked back to Marking
    (`callbacks_move_phase_only_marked_to_marking`, in terms of `obs`). -/
theorem callbacks_obs {a : Arena} (h : Inv a) (op : Op) (hop : op.isMutator = true) :
    obs (a.step op).1.ctx = obs a.ctx ∨ (obs a.ctx = .marked ∧ obs (a.step op).1.ctx = .marking) := by
  rcases callbacks_move_phase_only_marked_to_marking h op hop with e | ⟨e1, e2⟩
  · rw [collectionPhase_eq, collectionPhase_eq] at e
    exact .inl (Obs.name_inj e)
  · rw [collectionPhase_eq] at e1 e2
    exact .inr ⟨Obs.name_inj (y := .marked) e1, Obs.name_inj (y := .marking) e2⟩

/-- **Order of the observable phase, over runs of the API.**  In every state of every history
    `(Arena.new n).run ops` — any interleaving of callbacks and collection calls — the next
    operation `op`, whatever it is,
    * is a mutator operation (anything a callback can do, entering / leaving one included): the
      observable phase stays or goes Marked → Marking; or
    * is a collection call (any method, continuation, debt, pacing, fault position, self- or
      oracle-driven) or a rejected drop: the context moves along a sequence `ms` of collector
      micro-steps *each of which* leaves the observable phase or moves it one arrow along
      `Sleeping → Marking → Marked → Sweeping → Sleeping`; or
    * drops the arena.
    So through every intermediate state of every history the phase moves only as the property
    says. -/
theorem observable_phase_order_run (n : Nat) (ops : List Op) (op : Op) :
    let a := (Arena.new n).run ops
    a.alive = true →
    (op.isMutator = true ∧
      (obs (a.step op).1.ctx = obs a.ctx ∨ (obs a.ctx = .marked ∧ obs (a.step op).1.ctx = .marking))) ∨
    (∃ ms, a.ctx.micros a.root ms = some (a.step op).1.ctx ∧ MicrosObsOrdered a.ctx a.root ms) ∨
    (a.step op).1.alive = false := by
  intro a halive
  have h : Inv a := inv_run n ops halive
  cases hal : (a.step op).1.alive with
  | false => exact Or.inr (Or.inr rfl)
  | true =>
    rcases step_kind h op hal with hop | rel
    · exact Or.inl ⟨hop, callbacks_obs h op hop⟩
    · right; left
      obtain ⟨ms, hms, hnil⟩ := rel.reach
      refine ⟨ms, hms, ?_⟩
      intro ms1 ms2 m c1 c2 hsplit h1 h2
      by_cases hcb : a.cb = none
      · exact observable_phase_order ms1 m (h.cinv0 hcb) h1 h2
      · have := hnil hcb
        rw [this] at hsplit
        cases ms1 <;> cases hsplit

/-- The observable phases of the states visited by the micro-steps `ms` from `c`. -/
def obsTrace (c : Ctx) (root : List Slot) : List Micro → List Obs
  | [] => [obs c]
  | m :: ms =>
    match c.micro root m with
    | some c' => obs c :: obsTrace c' root ms
    | none => [obs c]

/-- A list of observable phases each of which follows from the previous one by one `ObsStep`. -/
inductive ObsChain : List Obs → Prop
  | single (s : Obs) : ObsChain [s]
  | cons {s t : Obs} {l : List Obs} : ObsStep s t → ObsChain (t :: l) → ObsChain (s :: t :: l)

theorem obsTrace_head (c : Ctx) (root : List Slot) (ms : List Micro) :
    ∃ l, obsTrace c root ms = obs c :: l := by
  cases ms with
  | nil => exact ⟨[], rfl⟩
  | cons m ms =>
    simp only [obsTrace]
    split
    · exact ⟨_, rfl⟩
    · exact ⟨[], rfl⟩

/-- Existential / trace form: the phases visited form a chain of `ObsStep`s. -/
theorem obsTrace_chain {root : List Slot} (ms : List Micro) : ∀ {c : Ctx}, CInv c root [] →
    ObsChain (obsTrace c root ms) := by
  induction ms with
  | nil => intro c _; exact .single _
  | cons m ms ih =>
    intro c h
    simp only [obsTrace]
    cases hm : c.micro root m with
    | none => exact .single _
    | some c' =>
      simp only
      obtain ⟨l, hl⟩ := obsTrace_head c' root ms
      have := ih (micro_inv h m hm)
      rw [hl] at this ⊢
      exact .cons (micro_observable_order h m hm) this

/-- … it has one entry per state, starts at the phase before and ends at the phase after. -/
theorem obsTrace_ends {root : List Slot} (ms : List Micro) : ∀ {c c' : Ctx},
    c.micros root ms = some c' →
    (obsTrace c root ms).length = ms.length + 1 ∧ (obsTrace c root ms).head? = some (obs c) ∧
      (obsTrace c root ms).getLast? = some (obs c') := by
  induction ms with
  | nil => intro c c' hs; simp only [Ctx.micros] at hs; cases hs; simp [obsTrace]
  | cons m ms ih =>
    intro c c' hs
    simp only [Ctx.micros] at hs
    cases hm : c.micro root m with
    | none => rw [hm] at hs; cases hs
    | some c1 =>
      rw [hm] at hs
      obtain ⟨h1, _, h3⟩ := ih hs
      obtain ⟨l, hl⟩ := obsTrace_head c1 root ms
      simp only [obsTrace, hm]
      refine ⟨by simp [h1], rfl, ?_⟩
      rw [hl] at h3 ⊢
      rw [List.getLast?_cons_cons]; exact h3

/-- **The trace form of `observable_phase_order_run`.**  For a collection call (or rejected drop)
    applied in any state of any history: there is a micro-step sequence taking
    the context where the call took it whose trace of observable phases — one entry per intermediate
    state, first = the phase before the call, last = the phase after it — is a chain of `ObsStep`s. -/
theorem observable_phase_trace_run (n : Nat) (ops : List Op) (op : Op) :
    let a := (Arena.new n).run ops
    a.alive = true → op.isMutator = false → (a.step op).1.alive = true →
    ∃ ms tr, a.ctx.micros a.root ms = some (a.step op).1.ctx ∧ tr = obsTrace a.ctx a.root ms ∧
      ObsChain tr ∧ tr.length = ms.length + 1 ∧ tr.head? = some (obs a.ctx) ∧
      tr.getLast? = some (obs (a.step op).1.ctx) := by
  intro a halive hop hal
  have h : Inv a := inv_run n ops halive
  rcases step_kind h op hal with hm | rel
  · rw [hm] at hop; cases hop
  · obtain ⟨ms, hms, hnil⟩ := rel.reach
    by_cases hcb : a.cb = none
    · obtain ⟨e1, e2, e3⟩ := obsTrace_ends ms hms
      exact ⟨ms, _, hms, rfl, obsTrace_chain ms (h.cinv0 hcb), e1, e2, e3⟩
    · have := hnil hcb
      subst this
      obtain ⟨e1, e2, e3⟩ := obsTrace_ends [] hms
      exact ⟨[], _, hms, rfl, .single _, e1, e2, e3⟩

/-- With `Cont.sweep` the self-driven `start_sweeping` that follows cannot fail. -/
private theorem marked?_some_iff (a : Arena) (k : Cont) :
    (a.marked? k none).2 = "some" ↔ Arena.isMarked a.ctx = true := by
  unfold Arena.marked?
  cases hm : Arena.isMarked a.ctx with
  | false => simp
  | true =>
    cases k with
    | drop | finalize => simp
    | sweep =>
      simp [Arena.startSweeping, Arena.runCollector, start_sweeping_ends_sweeping _ a.root hm]

/-- `Arena::finish_marking` (self-driven, outside callbacks, on any reachable state) returns
    `Some(MarkedArena)` exactly when the arena was not Sweeping — whatever the client then does
    with the result. -/
theorem finish_marking_some_iff_run (n : Nat) (pre : List Op) (k : Cont) :
    let a := (Arena.new n).run pre
    a.alive = true → a.cb = none →
    ((a.step (.collect .finishMarking k none none)).2 = "some" ↔ a.collectionPhase ≠ "Sweeping") := by
  intro a halive hcb
  have h : Inv a := inv_run n pre halive
  have hobs : a.collectionPhase ≠ "Sweeping" ↔ a.ctx.phase ≠ .sweep := by
    unfold Arena.collectionPhase
    cases hp : a.ctx.phase with
    | mark => simp only; split <;> simp
    | sweep | sleep | drop => simp
  rw [hobs, ← finish_marking_some_iff a.ctx a.root (h.cinv0 hcb), step_selfDriven h hcb]
  exact marked?_some_iff _ k

/-- `Arena::finish_cycle` (self-driven, outside callbacks, on any reachable state, from every
    phase) ends Sleeping. -/
theorem finish_cycle_ends_sleeping_run (n : Nat) (pre : List Op) (k : Cont) :
    let a := (Arena.new n).run pre
    a.alive = true → a.cb = none →
    (a.step (.collect .finishCycle k none none)).1.collectionPhase = "Sleeping" := by
  intro a halive hcb
  have h : Inv a := inv_run n pre halive
  rw [step_finishCycle h hcb k, collectionPhase_eq]
  show (obs (a.ctx.doCollection a.root .stop .finishCycle none).1).name = "Sleeping"
  rw [obs_sleeping (finish_cycle_ends_sleeping a.ctx a.root (h.cinv0 hcb))]
  rfl

/-- **A `MarkedArena` outstanding ⇒ the arena is fully marked**, in every state of every history:
    the model's `marked` flag (the client kept the `MarkedArena` of the previous call for `finalize`)
    is set only when `phase == Mark && !gray_remaining()` held, survives only the pacing / debt knobs
    (which touch the metrics alone), and is reset by every other operation.  Stronger than the clause
    `Inv.markedMark` of the invariant (`phase = mark ∧ cb = none`). -/
theorem marked_arena_outstanding_is_fully_marked (n : Nat) (ops : List Op) :
    ((Arena.new n).run ops).marked = true →
    Arena.isMarked ((Arena.new n).run ops).ctx = true ∧ ((Arena.new n).run ops).collectionPhase = "Marked" := by
  intro hm
  have h := marked_flag_run n ops hm
  refine ⟨h, ?_⟩
  simp [Arena.collectionPhase, (isMarked_iff.mp h).1, (isMarked_iff.mp h).2]

/-- `CInv c root []`, the hypothesis of the loop theorems above (`every_call_terminates`,
    `finish_marking_some_iff`, `finish_cycle_ends_sleeping`, `cycle_never_rewakes`), holds in a
    reachable state outside callbacks (asleep, one object, the root flag set). -/
example : CInv ((Arena.new 1).run [.enter .mutate, .alloc true [none], .leave]).ctx
    ((Arena.new 1).run [.enter .mutate, .alloc true [none], .leave]).root [] := by
  have h := inv_run 1 [.enter .mutate, .alloc true [none], .leave] (by decide +kernel)
  have := h.cinv
  rwa [h.cbTemps (by decide +kernel)] at this

example : Arena.isMarked ((Arena.new 1).run
    [.collect .finishMarking .drop none (some [.wake, .markStep none, .markBreak])]).ctx = true := by decide +kernel

/-- root → 0, fully marked (object 0 black), inside a `mutate` callback holding object 0.
    `Marked → Marking` does happen: below through a backward barrier on the black object and
    through the root barrier of `mutate_root`; `C07.demo` shows the `resurrect` route. -/
def markedDemo : List Op := [
  .enter .mutateRoot, .alloc true [none], .rootStore 0 (some (.strong 0)), .leave,
  .collect .finishMarking .drop none (some [.wake, .markStep none, .markStep none, .markBreak]),
  .enter .mutate, .readRoot 0 ]

private theorem markedDemo_facts {a : Arena} (h : a = (Arena.new 1).run markedDemo) :
    a.alive = true ∧ a.collectionPhase = "Marked" ∧
    (a.step (.barrier (.bb 0 none))).1.collectionPhase = "Marking" ∧
    (a.step (.read 0 0)).1.collectionPhase = a.collectionPhase ∧
    obs a.ctx = .marked ∧ obs (a.step (.barrier (.bb 0 none))).1.ctx = .marking := by
  subst h; decide +kernel

private theorem marked5_facts {a : Arena} (h : a = (Arena.new 1).run (markedDemo.take 5)) :
    a.alive = true ∧ a.cb = none ∧ (a.step (.enter .mutateRoot)).1.collectionPhase = "Marking" ∧
    (a.step (.collect .finishCycle .drop none none)).1.alive = true ∧
    obs a.ctx = .marked ∧ obs (a.step (.collect .finishCycle .drop none none)).1.ctx = .sleeping ∧
    obsTrace a.ctx a.root [.markBreak, .toSweep, .sweepStep, .sweepEnd, .toSleep false] =
      [.marked, .marked, .sweeping, .sweeping, .sweeping, .sleeping] := by
  subst h; decide +kernel

private theorem marked4_facts {a : Arena} (h : a = (Arena.new 1).run (markedDemo.take 4)) :
    a.alive = true ∧ a.cb = none ∧ a.collectionPhase ≠ "Sweeping" ∧
    (a.step (.collect .finishMarking .drop none none)).2 = "some" := by
  subst h; decide +kernel

example : ((Arena.new 1).run markedDemo).alive = true := (markedDemo_facts rfl).1
example : ((Arena.new 1).run markedDemo).collectionPhase = "Marked" := (markedDemo_facts rfl).2.1
example : (((Arena.new 1).run markedDemo).step (.barrier (.bb 0 none))).1.collectionPhase = "Marking" :=
  (markedDemo_facts rfl).2.2.1
example : (((Arena.new 1).run (markedDemo.take 5)).step (.enter .mutateRoot)).1.collectionPhase = "Marking" :=
  (marked5_facts rfl).2.2.1

/-- Both disjuncts of `callbacks_move_phase_only_marked_to_marking` occur on `markedDemo`: the
    barrier takes the second, the (barrier-free) read the first. -/
example :
    let a := (Arena.new 1).run markedDemo
    (a.collectionPhase = "Marked" ∧ (a.step (.barrier (.bb 0 none))).1.collectionPhase = "Marking") ∧
      (a.step (.read 0 0)).1.collectionPhase = a.collectionPhase :=
  have ⟨_, h1, h2, h3, _⟩ := markedDemo_facts rfl
  ⟨⟨h1, h2⟩, h3⟩

/-- The hypothesis of `callbacks_never_finish_marking` is satisfiable inside a callback, and the
    work then survives the rest of the callback. -/
example :
    let a := ((Arena.new 1).run markedDemo).run [.barrier (.bb 0 none)]
    a.ctx.grayRemaining = true ∧ (a.run [.store .raw 0 0 none, .alloc true [none], .leave]).collectionPhase = "Marking" := by
  decide +kernel

/-- The API-level theorems apply to a concrete reachable state (asleep, root → 0): the self-driven
    `finish_marking` returns `Some`, and the kernel agrees by evaluation; `finish_cycle` ends
    Sleeping; while Sweeping `finish_marking` returns `None`. -/
example : (((Arena.new 1).run (markedDemo.take 4)).step (.collect .finishMarking .drop none none)).2 = "some" :=
  have ⟨hal, hcb, hp, _⟩ := marked4_facts rfl
  (finish_marking_some_iff_run 1 (markedDemo.take 4) .drop hal hcb).mpr hp
example : (((Arena.new 1).run (markedDemo.take 4)).step (.collect .finishMarking .drop none none)).2 = "some" :=
  (marked4_facts rfl).2.2.2
example : (((Arena.new 1).run (markedDemo.take 5)).step (.collect .finishCycle .drop none none)).1.collectionPhase
    = "Sleeping" :=
  finish_cycle_ends_sleeping_run 1 (markedDemo.take 5) .drop (marked5_facts rfl).1 (marked5_facts rfl).2.1
example :
    let a := (Arena.new 1).run (markedDemo.take 4 ++ [.collect .finishMarking .sweep none none])
    a.collectionPhase = "Sweeping" ∧ (a.step (.collect .finishMarking .drop none none)).2 = "none" := by decide +kernel

/-- Every arrow of `ObsStep` is taken by the oracle run of `markedDemo`'s cycle. -/
example :
    let a := (Arena.new 1).run (markedDemo.take 4)
    let st := fun (ms : List Micro) => (a.ctx.micros a.root ms).map obs
    st [] = some .sleeping ∧ st [.wake] = some .marking ∧ st [.wake, .markStep none] = some .marking ∧
    st [.wake, .markStep none, .markStep none] = some .marked ∧
    st [.wake, .markStep none, .markStep none, .markBreak, .toSweep] = some .sweeping ∧
    st [.wake, .markStep none, .markStep none, .markBreak, .toSweep, .sweepStep, .sweepEnd, .toSleep true]
      = some .sleeping := by decide +kernel

/-- The disjuncts of `observable_phase_order_run` on concrete states: for a barrier inside a
    callback the first holds, with Marked → Marking (shown directly); for a self-driven
    `finish_cycle` from the marked state `observable_phase_trace_run` gives a chain from Marked to
    Sleeping, and the trace of one such micro-step sequence is Marked, Marked, Sweeping, Sweeping,
    Sweeping, Sleeping. -/
example : obs ((Arena.new 1).run markedDemo).ctx = .marked ∧
    obs (((Arena.new 1).run markedDemo).step (.barrier (.bb 0 none))).1.ctx = .marking :=
  (markedDemo_facts rfl).2.2.2.2

example : (Op.barrier (.bb 0 none)).isMutator = true ∧
    (obs (((Arena.new 1).run markedDemo).step (.barrier (.bb 0 none))).1.ctx = obs ((Arena.new 1).run markedDemo).ctx ∨
      (obs ((Arena.new 1).run markedDemo).ctx = .marked ∧
        obs (((Arena.new 1).run markedDemo).step (.barrier (.bb 0 none))).1.ctx = .marking)) :=
  ⟨rfl, Or.inr (markedDemo_facts rfl).2.2.2.2⟩

example : ∃ ms tr, ((Arena.new 1).run (markedDemo.take 5)).ctx.micros ((Arena.new 1).run (markedDemo.take 5)).root ms =
      some (((Arena.new 1).run (markedDemo.take 5)).step (.collect .finishCycle .drop none none)).1.ctx ∧
    tr = obsTrace ((Arena.new 1).run (markedDemo.take 5)).ctx ((Arena.new 1).run (markedDemo.take 5)).root ms ∧
    ObsChain tr ∧ tr.length = ms.length + 1 ∧ tr.head? = some .marked ∧ tr.getLast? = some .sleeping := by
  obtain ⟨hal, _, _, hal', hm, hs, _⟩ := marked5_facts rfl
  obtain ⟨ms, tr, h1, h2, h3, h4, h5, h6⟩ := observable_phase_trace_run 1 (markedDemo.take 5)
    (.collect .finishCycle .drop none none) hal rfl hal'
  exact ⟨ms, tr, h1, h2, h3, h4, hm ▸ h5, hs ▸ h6⟩

example : obsTrace ((Arena.new 1).run (markedDemo.take 5)).ctx ((Arena.new 1).run (markedDemo.take 5)).root
    [.markBreak, .toSweep, .sweepStep, .sweepEnd, .toSleep false] =
    [.marked, .marked, .sweeping, .sweeping, .sweeping, .sleeping] := (marked5_facts rfl).2.2.2.2.2.2

/-- The flag is set after `finish_marking` kept for `finalize`, survives a pacing knob, and the
    theorem applies. -/
example : ((Arena.new 1).run (markedDemo.take 4 ++
    [.collect .finishMarking .finalize none none, .adjustDebt 5])).marked = true := by decide +kernel
example : ((Arena.new 1).run (markedDemo.take 4 ++
    [.collect .finishMarking .finalize none none, .adjustDebt 5])).collectionPhase = "Marked" :=
  (marked_arena_outstanding_is_fully_marked 1 _ (by decide +kernel)).2

end GcArena.C08
