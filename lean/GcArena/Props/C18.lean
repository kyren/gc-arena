import GcArena.Proofs.BuilderLemmas
/-!
# C18 — builders: abandoning or completing an allocation is clean at every stage

Model: `GcArena.Model.Builder` (src/gc.rs `GcBuilder`, src/slice.rs slice / slice-with-header / str
builders) on top of `GcArena.Model.Layout`.  The theorems quantify over **every** configuration
(builder kind, header / element layouts, length `n`), every arena state (`g` live objects, `a`
allocations this cycle) and **every** sequence of client actions — creation, header write,
element writes, a panicking element constructor at any index, a copy of any length, explicit
drop, in any order — so every abandonment point is covered, not a sample of them.
Tie: `lib/eng_layout.py` (harness_layout `builder …` cases vs. `layoutmodel`).
-/
namespace GcArena.C18

open GcArena.Layout GcArena.Builder

/-- Whatever the client does, as long as no `Gc` came out of the builder (it was dropped at any
    stage, unwound by a panic, or is still pending) the arena never sees the block: no `link`
    event, `total_gc_count` and the allocation counter behind `allocation_debt` are unchanged, the
    block is not on the `all` list (so no collection visits it) and is not marked live. -/
theorem abandon (c : Cfg) (g a : Nat) (acts : List Action)
    (h : (run c (initial g a) acts).stage ≠ .linked) :
    Event.link ∉ (run c (initial g a) acts).events ∧ (run c (initial g a) acts).gcs = g ∧
      (run c (initial g a) acts).allocated = a ∧ (run c (initial g a) acts).onAllList = false ∧
      (run c (initial g a) acts).live = false := by
  have hinv := inv_run c g a acts _ (inv_initial c g a)
  generalize run c (initial g a) acts = s at *
  by_cases hd : s.stage = .dropped
  · unfold BInv at hinv
    rw [hd] at hinv
    obtain ⟨p, _, hu, pan, init, he, _⟩ := hinv
    refine ⟨?_, hu⟩
    rw [he]
    cases init with
    | none => cases pan <;> simp
    | some k =>
      -- the third fact of `dropEvents_count`: no `link` among the drop events (whatever the index)
      have := (dropEvents_count k 0).2.2.1
      cases pan <;> simp [this]
  · exact (hinv.not_dropped hd).2 h

/-- The events of an abandoned builder, for every way of getting there: one allocation, possibly
    the start of unwinding, then — if a `GcSliceWithHeaderSliceBuilder` existed — the header
    destructor followed by the destructors of elements `0 … k-1` where `k` is exactly the number
    of elements written so far, then one deallocation with the allocated layout.  A bare
    `GcBuilder` / `GcSliceWithHeaderBuilder` (`init = none`) runs no destructor at all. -/
theorem abandon_events (c : Cfg) (g a : Nat) (acts : List Action)
    (h : (run c (initial g a) acts).stage = .dropped) :
    ∃ (p : Plan) (pan : Bool) (init : Option Nat),
      gcAlloc c.maxSize c.hdr c.pk c.ptrMeta = some p ∧
      (run c (initial g a) acts).events =
        [.allocB p.alloc] ++ (if pan then [.panic] else []) ++
          (match init with | some k => dropEvents k | none => []) ++ [.deallocB p.alloc] ∧
      (∀ k, init = some k → k = (run c (initial g a) acts).written.length ∧ k ≤ c.n) := by
  have hinv := inv_run c g a acts _ (inv_initial c g a)
  generalize run c (initial g a) acts = s at *
  unfold BInv at hinv
  rw [h] at hinv
  obtain ⟨p, hp, _, pan, init, he, hi⟩ := hinv
  exact ⟨p, pan, init, hp, he, hi⟩

/-- Dropping the builder in each stage: `new` emits only the deallocation; `headerWritten` the
    header destructor and the deallocation; `elems k` the header destructor, the destructors of
    elements `0 … k-1` in order and the deallocation.  Each element of the prefix is destructed
    exactly once and no other; nothing else about the state changes. -/
theorem abandon_step (c : Cfg) (s : BState) (hs : s.stuck = false) :
    (s.stage = .new → step c s .drop =
      { s with stage := .dropped, events := s.events ++ deallocEvents c }) ∧
    (s.stage = .headerWritten → step c s .drop =
      { s with stage := .dropped, events := s.events ++ [.dropHeader] ++ deallocEvents c }) ∧
    (∀ k, s.stage = .elems k → step c s .drop =
      { s with stage := .dropped,
               events := s.events ++ .dropHeader :: (List.range k).map .dropElem ++
                 deallocEvents c }) ∧
    (∀ k i, (dropEvents k).count (.dropElem i) = (if i < k then 1 else 0) ∧
      (dropEvents k).count .dropHeader = 1) := by
  refine ⟨fun h => ?_, fun h => ?_, fun k h => ?_, fun k i => ?_⟩
  · simp [step, hs, h, BState.abandon]
  · simp [step, hs, h, BState.abandon, dropEvents]
  · simp [step, hs, h, BState.abandon, dropEvents]
  · exact ⟨(dropEvents_count k i).1, (dropEvents_count k i).2.1⟩

/-- A panicking element constructor at index `k` (after `k` elements were stored) unwinds through
    the builder: header and exactly the `k` initialised elements are destructed, the block is
    released, nothing is linked. -/
theorem ctor_panic (c : Cfg) (s : BState) (k : Nat) (hs : s.stuck = false)
    (hk : c.kind = .slice ∨ c.kind = .swh) (hst : s.stage = stageOf k) (hlt : k < c.n) :
    step c s .ctorPanic =
      { s with stage := .dropped,
               events := s.events ++ [.panic] ++ dropEvents k ++ deallocEvents c } := by
  unfold step
  simp only [hs, Bool.false_eq_true, if_false, if_pos hk, hst, stageOf_initLen, if_pos hlt]
  simp [BState.abandon, hs]

/-- Completing a builder, whatever happened before: exactly one allocation and exactly one `link`,
    no destructor and no deallocation, `total_gc_count` and the allocation counter go up by one,
    the block is on the `all` list and live. -/
theorem complete (c : Cfg) (g a : Nat) (acts : List Action)
    (h : (run c (initial g a) acts).stage = .linked) :
    ∃ p, gcAlloc c.maxSize c.hdr c.pk c.ptrMeta = some p ∧
      (run c (initial g a) acts).events = [.allocB p.alloc, .link] ∧
      (run c (initial g a) acts).gcs = g + 1 ∧ (run c (initial g a) acts).allocated = a + 1 ∧
      (run c (initial g a) acts).onAllList = true ∧ (run c (initial g a) acts).live = true := by
  have hinv := inv_run c g a acts _ (inv_initial c g a)
  generalize run c (initial g a) acts = s at *
  unfold BInv at hinv
  rw [h] at hinv
  exact hinv

/-- `GcBuilder::new().write(mc, v)` (`Gc::new`): the contents are the value written. -/
theorem complete_write (c : Cfg) (g a v : Nat) (p : Plan) (hk : c.kind = .gc)
    (hp : gcAlloc c.maxSize c.hdr c.pk c.ptrMeta = some p) :
    run c (initial g a) [.create, .write v] =
      { stage := .linked, events := [.allocB p.alloc, .link], written := [v], gcs := g + 1,
        allocated := a + 1, onAllList := true, live := true, stuck := false } := by
  simp [run, step, initial, hp, hk, BState.link]

/-- `write_slice_with` run to completion on a slice (`c.kind = .slice`) or slice-with-header
    (`c.kind = .swh`) builder of length `n`: the contents are exactly the `n` elements the callback
    produced, in order; one allocation, one `link`. -/
theorem complete_write_slice (c : Cfg) (g a : Nat) (vs : List Nat) (p : Plan)
    (hk : c.kind = .slice ∨ c.kind = .swh) (hlen : vs.length = c.n)
    (hp : gcAlloc c.maxSize c.hdr c.pk c.ptrMeta = some p) :
    run c (initial g a)
        ((if c.kind = .swh then [.create, .writeHeader] else [.create]) ++
          vs.map .writeElem ++ [.finish]) =
      { stage := .linked, events := [.allocB p.alloc, .link], written := vs, gcs := g + 1,
        allocated := a + 1, onAllList := true, live := true, stuck := false } := by
  have hgc : c.kind ≠ .gc := fun e => by rw [e] at hk; simp at hk
  rw [List.append_assoc, run_create_prefix c g a hgc hp,
    run_writeElems c hk vs [.finish] _ 0 rfl rfl (by omega)]
  simp only [run, step, Bool.false_eq_true, if_false, if_pos hk, stageOf_initLen, Nat.zero_add,
    if_pos hlen, BState.link]
  simp

/-- `copy_slice` / `copy_str` with a source of the right length: the contents are the source. -/
theorem complete_copy (c : Cfg) (g a : Nat) (src : List Nat) (p : Plan) (hk : c.kind ≠ .gc)
    (hlen : src.length = c.n) (hp : gcAlloc c.maxSize c.hdr c.pk c.ptrMeta = some p) :
    run c (initial g a)
        ((if c.kind = .swh then [.create, .writeHeader] else [.create]) ++ [.copy src]) =
      { stage := .linked, events := [.allocB p.alloc, .link], written := src, gcs := g + 1,
        allocated := a + 1, onAllList := true, live := true, stuck := false } := by
  rw [run_create_prefix c g a hk hp]
  simp [run, step, hlen, BState.link]

/-- `copy_slice` / `copy_str` with a source of the wrong length: the assertion fires before
    anything is copied (`written` unchanged), the builder's `Drop` runs with `init_length = 0`
    (header destructor, no element destructor, deallocation), nothing is linked and the arena
    side is unchanged. -/
theorem wrong_len (c : Cfg) (s : BState) (src : List Nat) (hs : s.stuck = false)
    (hst : s.stage = .headerWritten) (hne : src.length ≠ c.n) :
    step c s (.copy src) =
      { s with stage := .dropped,
               events := s.events ++ [.panic, .dropHeader] ++ deallocEvents c } := by
  simp [step, hs, hst, hne, BState.abandon, dropEvents]

/-- The whole wrong-length scenario from an arbitrary arena state: no leak (the block allocated is
    the block released, with the same layout), no `link`, counters unchanged. -/
theorem wrong_len_trace (c : Cfg) (g a : Nat) (src : List Nat) (p : Plan) (hk : c.kind ≠ .gc)
    (hne : src.length ≠ c.n) (hp : gcAlloc c.maxSize c.hdr c.pk c.ptrMeta = some p) :
    run c (initial g a)
        ((if c.kind = .swh then [.create, .writeHeader] else [.create]) ++ [.copy src]) =
      { stage := .dropped,
        events := [.allocB p.alloc, .panic, .dropHeader, .deallocB p.alloc],
        written := [], gcs := g, allocated := a, onAllList := false, live := false,
        stuck := false } := by
  rw [run_create_prefix c g a hk hp, run, run, wrong_len c _ src rfl rfl hne,
    deallocEvents_of_gcAlloc hp]
  rfl

/-- Every deallocation a builder performs hands back exactly the layout it allocated (C17's
    `dealloc_same_layout` on the builder path), and there is never a deallocation without the
    matching allocation or after a `link`. -/
theorem layout (c : Cfg) (g a : Nat) (acts : List Action) (l : Layout)
    (h : Event.deallocB l ∈ (run c (initial g a) acts).events) :
    ∃ p, gcAlloc c.maxSize c.hdr c.pk c.ptrMeta = some p ∧ l = p.alloc ∧
      deallocEvents c = [.deallocB p.alloc] ∧
      (run c (initial g a) acts).stage = .dropped ∧
      (run c (initial g a) acts).events.count (.deallocB l) = 1 ∧
      (run c (initial g a) acts).events.head? = some (.allocB p.alloc) := by
  have hinv := inv_run c g a acts _ (inv_initial c g a)
  generalize run c (initial g a) acts = s at *
  by_cases hd : s.stage = .dropped
  · unfold BInv at hinv
    rw [hd] at hinv
    obtain ⟨p, hp, _, pan, init, he, _⟩ := hinv
    have hl : l = p.alloc := by
      rw [he] at h
      cases init with
      | none => cases pan <;> simp at h <;> exact h
      | some k =>
        -- the fourth fact of `dropEvents_count`: no `deallocB` among the drop events
        have := (dropEvents_count k 0).2.2.2.1 l
        cases pan <;> simp [this] at h <;> exact h
    subst hl
    refine ⟨p, hp, rfl, deallocEvents_of_gcAlloc hp, hd, ?_, by rw [he]; rfl⟩
    rw [he]
    cases init with
    | none => cases pan <;> simp
    | some k =>
      have h0 : (dropEvents k).count (.deallocB p.alloc) = 0 :=
        List.count_eq_zero.2 ((dropEvents_count k 0).2.2.2.1 p.alloc)
      cases pan <;> simp [List.count_append, h0]
  · exact absurd h ((hinv.not_dropped hd).1 l)

/-- A slice-with-header builder of 3 tokens whose constructor panics at index 2 (64-bit target). -/
example :
    (run ⟨2 ^ 63 - 1, ⟨16, 8⟩, 8, .swh, ⟨8, 8⟩, ⟨8, 8⟩, 3⟩ (initial 5 2)
      [.create, .writeHeader, .writeElem 10, .writeElem 11, .ctorPanic]).events =
    [.allocB ⟨56, 8⟩, .panic, .dropHeader, .dropElem 0, .dropElem 1, .deallocB ⟨56, 8⟩] := by
  decide +kernel

/-- Completing the same builder links it exactly once with the written contents. -/
example :
    run ⟨2 ^ 63 - 1, ⟨16, 8⟩, 8, .swh, ⟨8, 8⟩, ⟨8, 8⟩, 2⟩ (initial 5 2)
      [.create, .writeHeader, .writeElem 10, .writeElem 11, .finish] =
    { stage := .linked, events := [.allocB ⟨48, 8⟩, .link], written := [10, 11], gcs := 6,
      allocated := 3, onAllList := true, live := true } := by
  decide +kernel

/-- A bare `GcBuilder` dropped: deallocation only. -/
example :
    (run ⟨2 ^ 63 - 1, ⟨16, 8⟩, 8, .gc, unitLayout, ⟨24, 8⟩, 0⟩ (initial 0 0)
      [.create, .drop]).events = [.allocB ⟨40, 8⟩, .deallocB ⟨40, 8⟩] := by
  decide +kernel

end GcArena.C18
